/-
C14: submissions that run one after the other are filed under fresh, pairwise different ids — from ANY
quiet state (any store, any IdKeeper state: after a restart, after `clean` dropped a counter), without
the retention hypothesis of `ids_distinct`.
-/
import Dtn7.Lemmas.IdKeeper

namespace Dtn7.IdKeeper.Lemmas
open Dtn7.IdKeeper

theorem step_at (subs : Nat → Sub) (n : Node) (i : Nat) (k : Nat) (ins : Instr)
    (hpc : (n.th i).pc = k) (hk : (prog Cfg.code)[k]? = some ins) :
    step Cfg.code subs n (.step i) = exec Cfg.code subs n i ins := by
  simp only [step, hpc, hk]

/-- What a step of thread `i` other than `push`/`send` leaves alone. -/
structure Frame (i : Nat) (n n' : Node) : Prop where
  store : n'.store = n.store
  sent : n'.sent = n.sent
  others : ∀ j, j ≠ i → n'.th j = n.th j

theorem Frame.trans {i : Nat} {a b c : Node} (h1 : Frame i a b) (h2 : Frame i b c) : Frame i a c :=
  ⟨h2.store.trans h1.store, h2.sent.trans h1.sent, fun j hj => (h2.others j hj).trans (h1.others j hj)⟩

theorem frame_setTh (n : Node) (i : Nat) (t : Th) : Frame i n (n.setTh i t) :=
  ⟨rfl, rfl, fun j hj => by simp [Node.setTh, hj]⟩

theorem frame_bump (n : Node) (i : Nat) : Frame i n (n.bump i) := frame_setTh n i _

/-- One submission, alone, from a state in which nobody holds the IdKeeper's mutex: it is filed under an id
the store did not know, everything else in the store stays, the mutex is free again. -/
theorem run_one (subs : Nat → Sub) (n : Node) (i : Nat) (hq : n.holder = none) (hpc : (n.th i).pc = 0) :
    ∃ q, knows n.store ⟨(subs i).key.source, (subs i).key.time, q⟩ = false ∧
      (run Cfg.code subs n (List.replicate 8 (.step i))).store =
        (⟨(subs i).key.source, (subs i).key.time, q⟩, ⟨⟨(subs i).key.source, (subs i).key.time, q⟩, (subs i).tag⟩) :: n.store ∧
      (run Cfg.code subs n (List.replicate 8 (.step i))).holder = none ∧
      ∀ j, j ≠ i → (run Cfg.code subs n (List.replicate 8 (.step i))).th j = n.th j := by
  -- lock
  have s1 := step_at subs n i 0 .lock hpc rfl
  simp only [exec, hq, if_true] at s1
  generalize hn1 : step Cfg.code subs n (.step i) = n1 at s1
  have f1 : Frame i n n1 := by rw [s1]; exact ⟨rfl, rfl, (frame_bump n i).others⟩
  have p1 : (n1.th i).pc = 1 := by rw [s1]; simp [Node.bump, hpc]
  -- read
  have s2 := step_at subs n1 i 1 .read p1 rfl
  generalize hn2 : step Cfg.code subs n1 (.step i) = n2 at s2
  have f2 : Frame i n1 n2 := by rw [s2]; exact frame_setTh n1 i _
  have p2 : (n2.th i).pc = 2 := by rw [s2]; simp [exec, p1]
  -- write
  have s3 := step_at subs n2 i 2 .write p2 rfl
  generalize hn3 : step Cfg.code subs n2 (.step i) = n3 at s3
  have f3 : Frame i n2 n3 := by rw [s3]; exact ⟨rfl, rfl, (frame_bump n2 i).others⟩
  have p3 : (n3.th i).pc = 3 := by rw [s3]; simp [exec, Node.bump, p2]
  -- stamp
  have s4 := step_at subs n3 i 3 .stamp p3 rfl
  generalize hn4 : step Cfg.code subs n3 (.step i) = n4 at s4
  have f4 : Frame i n3 n4 := by rw [s4]; exact ⟨rfl, rfl, (frame_setTh n3 i _).others⟩
  have p4 : (n4.th i).pc = 4 := by rw [s4]; simp [exec, p3]
  have q4 : (n4.th i).seq = stampSeq Cfg.code n3 (subs i).key := by rw [s4]; simp [exec]
  -- unlock
  have s5 := step_at subs n4 i 4 .unlock p4 rfl
  generalize hn5 : step Cfg.code subs n4 (.step i) = n5 at s5
  have f5 : Frame i n4 n5 := by rw [s5]; exact ⟨rfl, rfl, (frame_bump n4 i).others⟩
  have p5 : (n5.th i).pc = 5 := by rw [s5]; simp [exec, Node.bump, p4]
  have q5 : (n5.th i).seq = (n4.th i).seq := by rw [s5]; simp [exec, Node.bump]
  have h5 : n5.holder = none := by rw [s5]; simp [exec, Node.bump]
  -- clean
  have s6 := step_at subs n5 i 5 .clean p5 rfl
  simp only [exec, h5, Option.isSome_none, Bool.and_false, Bool.false_eq_true, if_false] at s6
  generalize hn6 : step Cfg.code subs n5 (.step i) = n6 at s6
  have f6 : Frame i n5 n6 := by rw [s6]; exact ⟨rfl, rfl, (frame_bump n5 i).others⟩
  have p6 : (n6.th i).pc = 6 := by rw [s6]; simp [Node.bump, p5]
  have q6 : (n6.th i).seq = (n5.th i).seq := by rw [s6]; simp [Node.bump]
  have h6 : n6.holder = none := by rw [s6]; simp [Node.bump, h5]
  -- the store has not changed since the number was stamped, and the stamped number is free
  have f36 : Frame i n3 n6 := (f4.trans f5).trans f6
  have f06 : Frame i n n6 := ((f1.trans f2).trans f3).trans f36
  have hseq : (n6.th i).seq = stampSeq Cfg.code n3 (subs i).key := by rw [q6, q5, q4]
  have hfree : knows n6.store (bundleOf subs n6 i).id = false := by
    have := stampSeq_free n3 (subs i).key
    rw [f36.store]
    simpa [bundleOf, idOf, hseq] using this
  -- push
  have s7 := step_at subs n6 i 6 .push p6 rfl
  simp only [exec, hfree, Bool.false_eq_true, if_false] at s7
  generalize hn7 : step Cfg.code subs n6 (.step i) = n7 at s7
  have p7 : (n7.th i).pc = 7 := by rw [s7]; simp [Node.bump, p6]
  have o7 : ∀ j, j ≠ i → n7.th j = n6.th j := by rw [s7]; exact (frame_bump n6 i).others
  have st7 : n7.store = ((bundleOf subs n6 i).id, bundleOf subs n6 i) :: n6.store := by rw [s7]
  have h7 : n7.holder = none := by rw [s7]; simp [Node.bump, h6]
  -- send
  have s8 := step_at subs n7 i 7 .send p7 rfl
  generalize hn8 : step Cfg.code subs n7 (.step i) = n8 at s8
  have o8 : ∀ j, j ≠ i → n8.th j = n7.th j := by rw [s8]; exact (frame_bump n7 i).others
  have st8 : n8.store = n7.store := by rw [s8]; simp [exec, Node.bump]
  have h8 : n8.holder = none := by rw [s8]; simp [exec, Node.bump, h7]
  have hrun : run Cfg.code subs n (List.replicate 8 (.step i)) = n8 := by
    simp only [run, List.replicate, List.foldl]
    rw [hn1, hn2, hn3, hn4, hn5, hn6, hn7, hn8]
  rw [hrun]
  refine ⟨(n6.th i).seq, ?_, ?_, h8, ?_⟩
  · have := hfree
    rw [f06.store] at this
    simpa [bundleOf, idOf] using this
  · rw [st8, st7, f06.store]
    simp [bundleOf, idOf]
  · intro j hj
    rw [o8 j hj, o7 j hj, f06.others j hj]

theorem run_append (c : Cfg) (subs : Nat → Sub) (n : Node) (a b : List Act) :
    run c subs n (a ++ b) = run c subs (run c subs n a) b := by
  simp [run, List.foldl_append]

/-- The schedule "each of the submissions `is` runs to completion before the next one starts". -/
def seqOf (is : List Nat) : List Act := is.flatMap (fun i => List.replicate 8 (Act.step i))

def idWith (subs : Nat → Sub) (i q : Nat) : BundleId := ⟨(subs i).key.source, (subs i).key.time, q⟩

/-- **Sequential submissions from any quiet state.** -/
theorem run_seq (subs : Nat → Sub) : ∀ (is : List Nat) (n : Node), n.holder = none → is.Nodup →
    (∀ i ∈ is, (n.th i).pc = 0) →
    (run Cfg.code subs n (seqOf is)).holder = none ∧
    (run Cfg.code subs n (seqOf is)).store.length = n.store.length + is.length ∧
    (∀ e ∈ n.store, e ∈ (run Cfg.code subs n (seqOf is)).store) ∧
    ((n.store.map (·.1)).Nodup → ((run Cfg.code subs n (seqOf is)).store.map (·.1)).Nodup) ∧
    (∀ i ∈ is, ∃ q, (idWith subs i q, (⟨idWith subs i q, (subs i).tag⟩ : Bundle)) ∈ (run Cfg.code subs n (seqOf is)).store ∧
      knows n.store (idWith subs i q) = false)
  | [], n, hq, _, _ => ⟨hq, rfl, fun _ h => h, id, fun _ h => by cases h⟩
  | i :: is, n, hq, hnd, hpc => by
    have hi : (n.th i).pc = 0 := hpc i List.mem_cons_self
    rcases run_one subs n i hq hi with ⟨q, hfree, hst, hh, hoth⟩
    have hsplit : seqOf (i :: is) = List.replicate 8 (Act.step i) ++ seqOf is := by
      simp [seqOf, List.flatMap_cons]
    rw [hsplit, run_append]
    generalize run Cfg.code subs n (List.replicate 8 (Act.step i)) = n1 at hst hh hoth
    have hnd' := List.nodup_cons.mp hnd
    have ih := run_seq subs is n1 hh hnd'.2 (by
      intro j hj
      have hji : j ≠ i := fun e => hnd'.1 (e ▸ hj)
      rw [hoth j hji]
      exact hpc j (List.mem_cons_of_mem _ hj))
    rcases ih with ⟨h1, h2, h3, h4, h5⟩
    refine ⟨h1, ?_, ?_, ?_, ?_⟩
    · rw [h2, hst]; simp; omega
    · intro e he
      exact h3 e (by rw [hst]; exact List.mem_cons_of_mem _ he)
    · intro hn
      apply h4
      rw [hst]
      simp only [List.map_cons, List.nodup_cons]
      refine ⟨?_, hn⟩
      intro hmem
      rw [(knows_iff _ _).mpr (List.mem_map.mp hmem)] at hfree
      cases hfree
    · intro j hj
      rcases List.mem_cons.mp hj with rfl | hj'
      · refine ⟨q, h3 _ (by rw [hst]; exact List.mem_cons_self), hfree⟩
      · rcases h5 j hj' with ⟨q', hm, hk⟩
        refine ⟨q', hm, ?_⟩
        -- not known to the larger store, hence not to the smaller one
        cases hkn : knows n.store (idWith subs j q') with
        | false => rfl
        | true =>
          rw [knows_mono (fun e he => by rw [hst]; exact List.mem_cons_of_mem _ he) hkn] at hk
          cases hk

end Dtn7.IdKeeper.Lemmas
