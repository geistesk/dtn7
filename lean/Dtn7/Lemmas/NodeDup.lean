/-
C13 along every history, part 2: a generic "booked set" invariant (`GenInv`; instances: the previous node, the
peers that got the bundle successfully) through retry, submission and reception,
and the invariant that every stored item has a retention constraint (`ConsInv`).
-/
import Dtn7.Lemmas.NodeBook
import Dtn7.Lemmas.NodeSkip

namespace Dtn7.Node

/-- A class of endpoint IDs attached to bundles that only depends on the routing identity of the bundle
and never contains the destination's node. -/
structure EClass (EB : Bundle → Eid → Prop) : Prop where
  like : ∀ a b, Like a b → EB b = EB a
  notDst : ∀ b e, EB b e → e.sameNode b.dst = false

/-- Every member of the class of a stored bundle is booked. -/
def GenInv (EB : Bundle → Eid → Prop) (c : Cfg) (n : Node) : Prop :=
  ∀ k it, n.store.get k = some it → replicates c it.bundle = true → ∀ e, EB it.bundle e → Booked n k e

/-- The algorithm did not choose a member of the bundle's class. -/
def OutOk (EB : Bundle → Eid → Prop) (c : Cfg) (o : Output) : Prop :=
  ∀ p b ok, o = Output.sent p b ok → p.eid.sameNode b.dst = false → replicates c b = true → ¬ EB b p.eid

/-- A chosen peer whose transmission succeeded is booked under the bundle's ID. -/
def OkB (c : Cfg) (n : Node) (o : Output) : Prop :=
  ∀ p b, o = Output.sent p b true → p.eid.sameNode b.dst = false → replicates c b = true → Booked n b.key p.eid

/-- A step that touches only key `k` keeps the invariant if it holds for the item under `k` afterwards. -/
theorem genInv_step {EB : Bundle → Eid → Prop} {c : Cfg} {k : Key} {n n' : Node} (hp : GenInv EB c n)
    (ho : OnlyKey k n n')
    (hk : ∀ it', n'.store.get k = some it' → replicates c it'.bundle = true → ∀ e, EB it'.bundle e → Booked n' k e) :
    GenInv EB c n' := by
  intro k' it' hg' hrep e he
  by_cases e' : k' = k
  · subst e'; exact hk it' hg' hrep e he
  · rw [ho.other k' e'] at hg'
    exact booked_frame ho e' e (hp k' it' hg' hrep e he)

theorem dispatching_ok_booked (env : Env) (d : Desc) (n : Node) (it : Item) (b : Bundle)
    (hg : n.store.get d.key = some it) (hd : d.bndl = some b ∨ (d.bndl = none ∧ it.bundle = b))
    (hrep : replicates n.cfg b = true) :
    ∀ p, Output.sent p b true ∈ (dispatching env d n).2 → p.eid.sameNode b.dst = false →
      Booked (dispatching env d n).1 d.key p.eid := by
  intro p hmem hns
  rcases dispatching_cases env d n with ⟨_, he⟩ | ⟨_, ⟨_, he⟩ | ⟨b1, hbun, ⟨_, he⟩ | ⟨_, he⟩⟩⟩ <;> rw [he] at hmem ⊢
  · cases hmem
  · cases hmem
  · cases hmem
  · have hb1 : b1 = b := (Desc.bundle_descTag hbun hg).trans (descTag_of hd)
    subst hb1
    exact forward_ok_booked env { d with bndl := some b1 } b1 n it hg hrep p hmem hns

/-- `dispatching` of the item under `d.key`, whose bundle is `b`: the class of `b` stays booked, every
transmission is one of `b` to a peer outside its class, and the successful ones are booked. -/
theorem dispatching_gen (env : Env) (EB : Bundle → Eid → Prop) (hEB : EClass EB) (c : Cfg) (d : Desc) (n : Node)
    (it : Item) (b : Bundle) (hc : n.cfg = c) (hg : n.store.get d.key = some it) (hib : it.bundle = b)
    (hd : d.bndl = some b ∨ d.bndl = none) (hk : b.key = d.key)
    (hseed : replicates c b = true → ∀ e, EB b e → Booked n d.key e) :
    (∀ it', (dispatching env d n).1.store.get d.key = some it' → replicates c it'.bundle = true →
      ∀ e, EB it'.bundle e → Booked (dispatching env d n).1 d.key e) ∧
    ∀ o ∈ (dispatching env d n).2, OutOk EB c o ∧ OkB c (dispatching env d n).1 o ∧
      ∀ p b' ok, o = Output.sent p b' ok → b' = b := by
  have hd' : d.bndl = some b ∨ (d.bndl = none ∧ it.bundle = b) := hd.imp id fun h => ⟨h, hib⟩
  have hnames : ∀ o ∈ (dispatching env d n).2, ∀ p b' ok, o = Output.sent p b' ok → b' = b := by
    intro o ho p b' ok hob
    rw [dispatching_names env d n it hg o ho p b' ok hob]
    exact descTag_of hd'
  have hitem' : ∀ it', (dispatching env d n).1.store.get d.key = some it' → Like b it'.bundle := by
    intro it' hg'
    rcases (dispatching_bstep env d b n (hd.imp id fun h => ⟨h, it, hg, hib⟩) hk).bundle it' hg' with ⟨it0, g0, l0⟩ | l0
    · cases hg.symm.trans g0; rw [hib] at l0; exact l0
    · exact l0
  by_cases hrep : replicates c b = true
  · have hb := dispatching_book env d n it b hg hd' (by rw [hc]; exact hrep) (EB b)
      ⟨fun e he => hEB.notDst _ e he, hseed hrep⟩
    have hokb := dispatching_ok_booked env d n it b hg hd' (by rw [hc]; exact hrep)
    refine ⟨fun it' hg' _ e he => hb.2 e (by rw [hEB.like _ _ (hitem' it' hg')] at he; exact he), fun o ho => ?_⟩
    refine ⟨?_, ?_, hnames o ho⟩
    · intro p b' ok hob hns _ hE
      cases hnames o ho p b' ok hob
      subst hob
      exact (hb.1 p _ ok ho).2 hns hE
    · intro p b' hob hns _
      cases hnames o ho p b' true hob
      subst hob
      rw [hk]
      exact hokb p ho hns
  · refine ⟨fun it' hg' hrep' => absurd (by rw [replicates_like (hitem' it' hg')] at hrep'; exact hrep') hrep, fun o ho => ?_⟩
    refine ⟨?_, ?_, hnames o ho⟩
    · intro p b' ok hob _ hrepb
      rw [hnames o ho p b' ok hob] at hrepb
      exact absurd hrepb hrep
    · intro p b' hob _ hrepb
      rw [hnames o ho p b' true hob] at hrepb
      exact absurd hrepb hrep

theorem dispatch_gen (env : Env) (EB : Bundle → Eid → Prop) (hEB : EClass EB) (c : Cfg) (n : Node) (k : Key)
    (w : WF n) (hc : n.cfg = c) (hp : GenInv EB c n) :
    GenInv EB c (dispatching env (newDesc n k) n).1 ∧
    ∀ o ∈ (dispatching env (newDesc n k) n).2, OutOk EB c o ∧ OkB c (dispatching env (newDesc n k) n).1 o ∧
      ∀ p b ok, o = Output.sent p b ok → b.key = k ∧ ∃ it, n.store.get k = some it ∧ b = it.bundle := by
  have hd := retry_kstep env n k w
  cases hg : n.store.get k with
  | none =>
    have hnone := dispatching_absent env (newDesc n k) n (by rw [newDesc_key]; exact hg) (newDesc_bndl n k)
    refine ⟨genInv_step hp hd.only fun it' hg' => ?_, fun o ho => ?_⟩
    · rw [hnone, hg] at hg'; cases hg'
    · rw [hnone] at ho; cases ho
  | some it =>
    have hkey : it.bundle.key = k := w.keyed _ _ hg
    have h := dispatching_gen env EB hEB c (newDesc n k) n it it.bundle hc (by rw [newDesc_key]; exact hg) rfl
      (Or.inr (newDesc_bndl n k)) (by rw [newDesc_key]; exact hkey)
      (fun hrep e he => by rw [newDesc_key]; exact hp k it hg hrep e he)
    rw [newDesc_key] at h
    refine ⟨genInv_step hp hd.only h.1, fun o ho => ?_⟩
    rcases h.2 o ho with ⟨h1, h2, h3⟩
    exact ⟨h1, h2, fun p b ok hob => by rw [h3 p b ok hob]; exact ⟨hkey, it, rfl, rfl⟩⟩

theorem dispatchKeys_booked (env : Env) (ks : List Key) (n : Node) (w : WF n) (k : Key) (hk : k ∉ ks) (e : Eid) :
    Booked n k e → Booked (dispatchKeys env ks n).1 k e := by
  rcases dispatchKeys_kstep env ks n w with ⟨_, henv, hst, _, hsp⟩
  exact Booked.mono henv.cfg (fun m hm => by rw [← hsp k hk]; exact hm)
    (fun it' hg' => ⟨it', by rw [← hst k hk]; exact hg', rfl⟩)

theorem dispatchKeys_gen (env : Env) (EB : Bundle → Eid → Prop) (hEB : EClass EB) (c : Cfg) :
    ∀ (ks : List Key) (n : Node), ks.Nodup → WF n → n.cfg = c → GenInv EB c n →
    GenInv EB c (dispatchKeys env ks n).1 ∧
    ∀ o ∈ (dispatchKeys env ks n).2, OutOk EB c o ∧ OkB c (dispatchKeys env ks n).1 o ∧
      ∀ p b ok, o = Output.sent p b ok → ∃ k it, k ∈ ks ∧ n.store.get k = some it ∧ b = it.bundle
  | [], n, _, _, _, hp => ⟨hp, fun o ho => by cases ho⟩
  | k :: ks, n, hnd, w, hc, hp => by
    simp only [dispatchKeys]
    rcases List.nodup_cons.mp hnd with ⟨hk, hks⟩
    have hd := retry_kstep env n k w
    rcases dispatch_gen env EB hEB c n k w hc hp with ⟨hp1, ho1⟩
    rcases dispatchKeys_gen env EB hEB c ks _ hks (hd.wf w) (hd.only.env.cfg.trans hc) hp1 with ⟨hp2, ho2⟩
    refine ⟨hp2, fun o ho => ?_⟩
    rcases List.mem_append.mp ho with h | h
    · rcases ho1 o h with ⟨h1, h2, h3⟩
      refine ⟨h1, ?_, ?_⟩
      · intro p b hob hns hrepb
        have hbk := (h3 p b true hob).1
        rw [hbk]
        apply dispatchKeys_booked env ks _ (hd.wf w) k hk
        have := h2 p b hob hns hrepb
        rw [hbk] at this
        exact this
      · intro p b ok hob
        rcases (h3 p b ok hob).2 with ⟨it, hg, hb⟩
        exact ⟨k, it, List.mem_cons_self, hg, hb⟩
    · rcases ho2 o h with ⟨h1, h2, h3⟩
      refine ⟨h1, h2, ?_⟩
      intro p b ok hob
      rcases h3 p b ok hob with ⟨k', it, hk', hg, hb⟩
      have hne : k' ≠ k := fun e => hk (e ▸ hk')
      rw [hd.only.other k' hne] at hg
      exact ⟨k', it, List.mem_cons_of_mem _ hk', hg, hb⟩

theorem pendingKeys_nodup {n : Node} (w : WF n) : (pendingKeys n.store).Nodup := by
  unfold pendingKeys
  exact w.nodup.sublist List.filter_sublist

theorem transmit_ok_booked (env : Env) (d : Desc) (b : Bundle) (n : Node) (it : Item)
    (hg : n.store.get d.key = some it)
    (hidk : n.cfg.seqFirst = true ∨ (lookupNat n.idk (b.src, b.ts) = none ∧ b.seq = 0))
    (hrep : replicates n.cfg b = true) :
    ∀ p, Output.sent p b true ∈ (transmit env d b n).2 → p.eid.sameNode b.dst = false →
      Booked (transmit env d b n).1 d.key p.eid := by
  intro p hmem hns
  rcases transmit_cases env d b n it hg hidk with ⟨m, hcfg, ⟨it1, h1, _⟩, he | he⟩ <;> rw [he] at hmem ⊢
  · cases hmem
  · exact dispatching_ok_booked env { d with bndl := some b, cons := { d.cons with dp := true } } _ _ b h1
      (Or.inl rfl) (by rw [hcfg]; exact hrep) p hmem hns

/-- For a submission that is filed under a free ID (`sendBundle_fresh`). -/
theorem sendBundle_ok_booked (env : Env) (b : Bundle) (n : Node) (b' : Bundle) (x : List ((Eid × Nat) × Nat))
    (hpre : (if n.cfg.seqFirst = true then assignSeq b n else (b, n)) = (b', n.setIdk x))
    (hfree : n.store.get b'.key = none)
    (hidk : n.cfg.seqFirst = true ∨ (lookupNat x (b'.src, b'.ts) = none ∧ b'.seq = 0))
    (hrep : replicates n.cfg b' = true) :
    ∀ p, Output.sent p b' true ∈ (sendBundle env b n).2 → p.eid.sameNode b'.dst = false →
      Booked (sendBundle env b n).1 b'.key p.eid := by
  rw [sendBundle_fresh env b n b' x hpre hfree]
  rcases fresh_start b' (n.setIdk x) hfree with ⟨henv, hidk2, it, g, _⟩
  have hcfg : (notifyNew b'.key b' (push b' (n.setIdk x))).cfg = n.cfg := henv.cfg
  exact transmit_ok_booked env ⟨b'.key, none, Cons.empty, some b'⟩ b' _ it g (by rw [hcfg, hidk2]; exact hidk)
    (by rw [hcfg]; exact hrep)

/-- A submission filed under a free ID whose bundle has an empty class keeps the invariant and chooses nobody of
the class. -/
theorem submit_gen_inv (env : Env) (EB : Bundle → Eid → Prop) (hEB : EClass EB) (c : Cfg) (b : Bundle) (n : Node)
    (hp : GenInv EB c n) (b' : Bundle) (x : List ((Eid × Nat) × Nat))
    (hpre : (if n.cfg.seqFirst = true then assignSeq b n else (b, n)) = (b', n.setIdk x))
    (hfree : n.store.get b'.key = none)
    (hidk : n.cfg.seqFirst = true ∨ (lookupNat x (b'.src, b'.ts) = none ∧ b'.seq = 0))
    (hE : ∀ e, ¬ EB b' e) :
    GenInv EB c (sendBundle env b n).1 ∧ ∀ o ∈ (sendBundle env b n).2, OutOk EB c o := by
  rcases sendBundle_touch env b n b' x hpre hidk with ⟨_, honly, hb, hnames⟩
  refine ⟨genInv_step hp honly fun it' hg' _ e he => ?_, fun o ho p b'' ok hob _ _ hEb => ?_⟩
  · rcases hb.bundle it' hg' with ⟨it0, g0, l0⟩ | l0
    · rw [hfree] at g0; cases g0
    · rw [hEB.like _ _ l0] at he
      exact absurd he (hE e)
  · rcases hnames o ho with ⟨q, ok', hq⟩
    cases hq.symm.trans hob
    exact hE _ hEb

/-- … and books the peers that got the bundle. -/
theorem submit_gen (env : Env) (EB : Bundle → Eid → Prop) (hEB : EClass EB) (c : Cfg) (b : Bundle) (n : Node)
    (hc : n.cfg = c) (hp : GenInv EB c n) (b' : Bundle) (x : List ((Eid × Nat) × Nat))
    (hpre : (if n.cfg.seqFirst = true then assignSeq b n else (b, n)) = (b', n.setIdk x))
    (hfree : n.store.get b'.key = none)
    (hidk : n.cfg.seqFirst = true ∨ (lookupNat x (b'.src, b'.ts) = none ∧ b'.seq = 0))
    (hE : ∀ e, ¬ EB b' e) :
    GenInv EB c (sendBundle env b n).1 ∧
    ∀ o ∈ (sendBundle env b n).2, OutOk EB c o ∧ OkB c (sendBundle env b n).1 o := by
  have h := submit_gen_inv env EB hEB c b n hp b' x hpre hfree hidk hE
  refine ⟨h.1, fun o ho => ⟨h.2 o ho, ?_⟩⟩
  rcases (sendBundle_touch env b n b' x hpre hidk).2.2.2 o ho with ⟨q, ok', hq⟩
  subst hq
  intro p b'' hob hns hrep
  cases hob
  exact sendBundle_ok_booked env b n b' x hpre hfree hidk (by rw [hc]; exact hrep) q ho hns

theorem receive_gen (env : Env) (EB : Bundle → Eid → Prop) (hEB : EClass EB) (c : Cfg) (b : Bundle)
    (r : Option Eid) (n : Node) (hc : n.cfg = c) (hp : GenInv EB c n)
    (hseed : (∀ it, n.store.get b.key = some it → it.cons.isEmpty = true) →
      ∀ m itm, m.store.get b.key = some itm → m.cfg = c → ∀ e, EB b e → Booked (notifyNew b.key b m) b.key e) :
    GenInv EB c (receive env b r n).1 ∧
    ∀ o ∈ (receive env b r n).2, OutOk EB c o ∧ OkB c (receive env b r n).1 o ∧
      ∀ p b' ok, o = Output.sent p b' ok → b' = b := by
  have hstep := (receive_kstep env b r n).only
  rcases receive_cases env b r n with ⟨it, hg, hne, heq⟩ | ⟨hemp, cs, m, itm, hst, hgm, hbm, _, hdeleted, heq⟩
  · -- held: the item gets the receiver, its routing properties stay
    rw [heq] at hstep ⊢
    have h1 := sync_update ⟨b.key, it.receiver, it.cons, some b⟩ n it hg hne
    refine ⟨genInv_step hp hstep fun it' hg' hrep e he => ?_, fun o ho => by cases ho⟩
    rw [sync_update ⟨b.key, r, it.cons, some b⟩ _ _ h1 hne] at hg'
    cases hg'
    have hb1 := sync_bookLe ⟨b.key, it.receiver, it.cons, some b⟩ n it hg e (hp b.key it hg hrep e he) id
    exact sync_bookLe ⟨b.key, r, it.cons, some b⟩ _ _ h1 e hb1 id
  · rw [heq] at hstep ⊢
    have hmcfg : m.cfg = c := hst.only.env.cfg.trans hc
    cases hdel : b.delBlock
    · simp only [hdel, Bool.false_eq_true, if_false] at hstep ⊢
      have hnn := notifyNew_rt b.key b m
      rcases hnn.item itm hgm with ⟨it4, g4, b4, _⟩
      have h := dispatching_gen env EB hEB c ⟨b.key, r, cs, some b⟩ _ it4 b (hnn.only.env.cfg.trans hmcfg) g4
        (b4.trans hbm) (Or.inl rfl) rfl (fun _ e he => hseed hemp _ itm hgm hmcfg e he)
      exact ⟨genInv_step hp hstep h.1, h.2⟩
    · simp only [hdel, if_true] at hstep ⊢
      refine ⟨genInv_step hp hstep fun it' hg' => ?_, fun o ho => by cases ho⟩
      rw [hdeleted] at hg'
      cases hg'

/-! ## Every stored item has a retention constraint (with `holdFix`: `dispatching` holds a refused bundle) -/

def ConsInv (n : Node) : Prop := ∀ k it, n.store.get k = some it → it.cons.isEmpty = false

/-- `Sync` of an existing item leaves it with the descriptor's (non-empty) constraints, or deletes it. -/
theorem sync_exists_cons (d : Desc) (n : Node) (it : Item) (hg : n.store.get d.key = some it) :
    ∀ it', (sync d n).store.get d.key = some it' → it'.cons.isEmpty = false := by
  intro it' hg'
  by_cases hc : d.cons.isEmpty = true
  · rw [sync_delete d n it hg hc] at hg'; cases hg'
  · have hc' : d.cons.isEmpty = false := by cases h : d.cons.isEmpty <;> simp_all
    rw [sync_update d n it hg hc'] at hg'
    cases hg'
    exact hc'

theorem forwardSend_cons (env : Env) (b : Bundle) (r : List Peer × Bool × Desc × Node) (it : Item)
    (hg : r.2.2.2.store.get r.2.2.1.key = some it) :
    ∀ it', (forwardSend env b r).1.store.get r.2.2.1.key = some it' → it'.cons.isEmpty = false := by
  unfold forwardSend
  simp only
  have hrt := sendAll_rt env r.2.2.1 b r.1 r.2.2.2
  rcases hrt.item it hg with ⟨it2, g2, _⟩
  split
  · exact sync_exists_cons { r.2.2.1 with cons := r.2.2.1.cons.purge } _ it2 g2
  · exact sync_exists_cons { r.2.2.1 with cons := { r.2.2.1.cons with ci := true } } _ it2 g2

theorem forward_cons (env : Env) (d : Desc) (b : Bundle) (n : Node) (it : Item)
    (hg : n.store.get d.key = some it) :
    ∀ it', (forward env d b n).1.store.get d.key = some it' → it'.cons.isEmpty = false := by
  have h1 := sync_update (fwdDesc d) n it hg (fwdDesc_nonempty d)
  by_cases hf : forwardable n.now b
  · rw [forward_sends env d b n hf]
    rcases (selectSenders_rt env (fwdDesc d) b (sync (fwdDesc d) n)).item _ h1 with ⟨it3, g3, _⟩
    have hk := (selectSenders_desc env (fwdDesc d) b (sync (fwdDesc d) n)).1
    have := forwardSend_cons env b (selectSenders env (fwdDesc d) b (sync (fwdDesc d) n)) it3 (by rw [hk]; exact g3)
    rw [hk] at this
    exact this
  · rw [forward_refused env d b n hf]
    exact sync_exists_cons { fwdDesc d with cons := (fwdDesc d).cons.purge } _ _ h1

theorem localDelivery_cons (d : Desc) (n : Node) (it : Item) (hg : n.store.get d.key = some it) :
    ∀ it', (localDelivery d n).store.get d.key = some it' → it'.cons.isEmpty = false := by
  have hne : ({ d.cons with le := true } : Cons).isEmpty = false := by simp [Cons.isEmpty]
  exact sync_exists_cons { d with cons := ({ d.cons with le := true } : Cons).purge } _ _
    (sync_update { d with cons := { d.cons with le := true } } n it hg hne)

theorem dispatching_cons (env : Env) (d : Desc) (n : Node) (it : Item) (hfix : n.cfg.holdFix = true)
    (hg : n.store.get d.key = some it) (hpre : d.bndl.isSome = true ∨ it.cons.isEmpty = false) :
    ∀ it', (dispatching env d n).1.store.get d.key = some it' → it'.cons.isEmpty = false := by
  rcases dispatching_cases env d n with ⟨_, he⟩ | ⟨_, ⟨hbun, he⟩ | ⟨b1, _, ⟨_, he⟩ | ⟨_, he⟩⟩⟩ <;> rw [he]
  · rw [if_pos hfix]
    exact sync_exists_cons { d with cons := { d.cons with ci := true } } _ { it with pending := true }
      (by rw [modItem_get, hg]; rfl)
  · intro it' hg'
    cases hg.symm.trans hg'
    rcases hpre with h | h
    · -- an in-memory bundle is always "loaded"
      unfold Desc.bundle at hbun
      cases hd : d.bndl with
      | none => rw [hd] at h; cases h
      | some b0 => simp [hd] at hbun
    · exact h
  · exact localDelivery_cons { d with bndl := some b1 } n it hg
  · exact forward_cons env { d with bndl := some b1 } b1 n it hg

theorem dispatchKeys_cons (env : Env) : ∀ (ks : List Key) (n : Node), WF n → n.cfg.holdFix = true → ConsInv n →
    ConsInv (dispatchKeys env ks n).1
  | [], _, _, _, hc => hc
  | k :: ks, n, w, hfix, hc => by
    simp only [dispatchKeys]
    have hd := retry_kstep env n k w
    apply dispatchKeys_cons env ks _ (hd.wf w) (by rw [hd.only.env.cfg]; exact hfix)
    refine items_step hc hd.only.other fun it' hg' => ?_
    rcases retry_like env n k w it' hg' with ⟨it, hg, _⟩
    have := dispatching_cons env (newDesc n k) n it hfix (by rw [newDesc_key]; exact hg) (Or.inr (hc k it hg))
    rw [newDesc_key] at this
    exact this it' hg'

theorem transmit_cons (env : Env) (d : Desc) (b : Bundle) (n : Node) (it : Item) (hfix : n.cfg.holdFix = true)
    (hg : n.store.get d.key = some it)
    (hidk : n.cfg.seqFirst = true ∨ (lookupNat n.idk (b.src, b.ts) = none ∧ b.seq = 0)) :
    ∀ it', (transmit env d b n).1.store.get d.key = some it' → it'.cons.isEmpty = false := by
  rcases transmit_cases env d b n it hg hidk with ⟨m, hcfg, ⟨it1, h1, _⟩, he | he⟩ <;> rw [he]
  · exact sync_exists_cons { { d with bndl := some b, cons := { d.cons with dp := true } } with
      cons := ({ d.cons with dp := true } : Cons).purge } _ _ h1
  · exact dispatching_cons env { d with bndl := some b, cons := { d.cons with dp := true } } _ _
      (by rw [hcfg]; exact hfix) h1 (Or.inl rfl)

/-- For a submission that is filed under a free ID and touches no other. -/
theorem sendBundle_cons (env : Env) (b : Bundle) (n : Node) (hfix : n.cfg.holdFix = true) (hc : ConsInv n)
    (b' : Bundle) (x : List ((Eid × Nat) × Nat))
    (hpre : (if n.cfg.seqFirst = true then assignSeq b n else (b, n)) = (b', n.setIdk x))
    (hfree : n.store.get b'.key = none)
    (hidk : n.cfg.seqFirst = true ∨ (lookupNat x (b'.src, b'.ts) = none ∧ b'.seq = 0))
    (hother : ∀ k, k ≠ b'.key → (sendBundle env b n).1.store.get k = n.store.get k) :
    ConsInv (sendBundle env b n).1 := by
  refine items_step hc hother fun it' hg' => ?_
  rw [sendBundle_fresh env b n b' x hpre hfree] at hg'
  rcases fresh_start b' (n.setIdk x) hfree with ⟨henv, hidk2, it, g, _⟩
  have hcfg : (notifyNew b'.key b' (push b' (n.setIdk x))).cfg = n.cfg := henv.cfg
  exact transmit_cons env _ b' _ it (by rw [hcfg]; exact hfix) g (by rw [hcfg, hidk2]; exact hidk) it' hg'

theorem receive_cons (env : Env) (b : Bundle) (r : Option Eid) (n : Node) (hfix : n.cfg.holdFix = true)
    (hc : ConsInv n) : ConsInv (receive env b r n).1 := by
  refine items_step hc (receive_kstep env b r n).only.other fun it' hg' => ?_
  rcases receive_cases env b r n with ⟨it, hg, hne, heq⟩ | ⟨_, cs, m, itm, hst, hgm, _, _, hdeleted, heq⟩
  · rw [heq, sync_update ⟨b.key, r, it.cons, some b⟩ _ _
      (sync_update ⟨b.key, it.receiver, it.cons, some b⟩ n it hg hne) hne] at hg'
    cases hg'
    exact hne
  · rw [heq] at hg'
    cases hdel : b.delBlock
    · simp only [hdel, Bool.false_eq_true, if_false] at hg'
      have hnn := notifyNew_rt b.key b m
      rcases hnn.item itm hgm with ⟨it4, g4, _⟩
      exact dispatching_cons env ⟨b.key, r, cs, some b⟩ _ it4
        (by rw [hnn.only.env.cfg, hst.only.env.cfg]; exact hfix) g4 (Or.inl rfl) it' hg'
    · simp only [hdel, if_true, hdeleted] at hg'
      cases hg'

def evBundle (h : List Event) (e : Bundle) : Prop := e ∈ submitted h ∨ e ∈ received h

theorem evBundle_snoc {past : List Event} {ev : Event} {e : Bundle} (h : evBundle past e) : evBundle (past ++ [ev]) e :=
  h.imp mem_submitted_snoc mem_received_snoc

/-- The peers that got the bundle (this tag and sequence number) successfully by the algorithm's choice. -/
def EBd (S : List (Nat × Nat × Eid)) (b : Bundle) (e : Eid) : Prop :=
  (b.tag, b.seq, e) ∈ S ∧ e.sameNode b.dst = false

theorem EBd_class (S : List (Nat × Nat × Eid)) : EClass (EBd S) :=
  ⟨fun a b h => by
      funext e; unfold EBd
      have hs : b.seq = a.seq := congrArg Key.seq h.2.1
      rw [h.1, h.2.2.2, hs],
   fun _ _ h => h.2⟩

/-- `Domain13` plus: the tag names the concrete bundle (two different bundles of the history carry
different tags; the same bundle may be delivered or submitted again). -/
structure Domain13t (c : Cfg) (h : List Event) : Prop where
  d13 : Domain13 c h
  tags : ∀ a b, evBundle h a → evBundle h b → a.tag = b.tag → a = b

theorem genInv_mono {S S' : List (Nat × Nat × Eid)} {c : Cfg} {n : Node} (h : GenInv (EBd S') c n)
    (hs : ∀ te ∈ S, te ∈ S') : GenInv (EBd S) c n :=
  fun k it hg hrep e he => h k it hg hrep e ⟨hs _ he.1, he.2⟩

theorem mem_chosen {c : Cfg} {outs : List Output} {pbk : Peer × Bundle × Bool} (h : pbk ∈ chosen c outs) :
    Output.sent pbk.1 pbk.2.1 pbk.2.2 ∈ outs ∧ pbk.1.eid.sameNode pbk.2.1.dst = false ∧ replicates c pbk.2.1 = true := by
  unfold chosen at h
  rcases List.mem_filterMap.mp h with ⟨o, ho, hf⟩
  cases o with
  | deleted k => simp at hf
  | sent p b ok =>
    simp only at hf
    split at hf
    · cases hf
    · rename_i hcond
      cases hf
      simp only [Bool.or_eq_true, Bool.not_eq_true', not_or, Bool.not_eq_true, Bool.not_eq_false] at hcond
      exact ⟨ho, hcond.1, hcond.2⟩

theorem genInv_storeSame (EB : Bundle → Eid → Prop) (c : Cfg) (n m : Node) (hp : GenInv EB c n)
    (hs : m.store = n.store) (hc : m.cfg = n.cfg) (hsp : m.spray = n.spray ∨ m.spray = []) : GenInv EB c m := by
  intro k it hg hrep e he
  rw [hs] at hg
  refine Booked.mono hc (fun x hx => ?_) (fun it' hg' => ⟨it', by rw [← hs]; exact hg', rfl⟩) (hp k it hg hrep e he)
  rcases hsp with h | h <;> rw [h] at hx
  · exact hx
  · cases hx

end Dtn7.Node
