import Dtn7.Model.Tcpcl
import Dtn7.Lemmas.Tcpcl
import Dtn7.Lemmas.Wire

/-! Demultiplexing of concurrent transfers: any interleaving of segment trains with pairwise
different transfer ids yields exactly one bundle per train, the one that was sent. -/
namespace Dtn7.Tcpcl.Lemmas
open Dtn7.Tcpcl

theorem get_set (tab : Table) (k k' : Nat) (v : InT) :
    (tab.set k v).get k' = if k' = k then v else tab.get k' := by
  simp only [Table.get, Table.set, List.find?_cons, Dtn7.Wire.Lemmas.find?_filter_ne]
  by_cases h : k' = k
  · simp only [h, beq_self_eq_true, if_true]
  · have : (k == k') = false := by simpa using Ne.symm h
    simp only [this, h, if_false]

theorem get_del (tab : Table) (k k' : Nat) (h : k' ≠ k) : (tab.del k).get k' = tab.get k' := by
  simp only [Table.get, Table.del, Dtn7.Wire.Lemmas.find?_filter_ne, if_neg h]

theorem demuxStep_other (tab : Table) (m : Msg) (tab' : Table) (d : Option (Nat × Bytes)) (k : Nat)
    (hk : k ≠ m.tid) (h : demuxStep tab m = some (tab', d)) : tab'.get k = tab.get k := by
  unfold demuxStep at h
  rcases hnext : (tab.get m.tid).next m.seg with ⟨t', o⟩
  rw [hnext] at h
  cases o with
  | err => cases h
  | ack n =>
    dsimp only at h
    by_cases hf : t'.fin = true
    · rw [if_pos hf] at h; cases h; exact get_del tab m.tid k hk
    · rw [if_neg hf] at h; cases h; rw [get_set, if_neg hk]

/-- The segments of transfer `k` inside an interleaved message sequence. -/
def proj (k : Nat) (ms : List Msg) : List Seg := (ms.filter (·.tid == k)).map (·.seg)

theorem proj_cons_self (m : Msg) (ms : List Msg) : proj m.tid (m :: ms) = m.seg :: proj m.tid ms := by
  simp [proj]

theorem proj_cons_other (m : Msg) (ms : List Msg) (k : Nat) (h : k ≠ m.tid) :
    proj k (m :: ms) = proj k ms := by
  have : (m.tid == k) = false := by
    simp only [beq_eq_false_iff_ne, ne_eq]; exact fun e => h e.symm
  simp [proj, this]

/-- Every transfer that still has segments to come is on track: its remaining segments end with
exactly one END (the last), its receiver is open, and what was received plus what is to come is
the sent data. -/
def Good (data : Nat → Bytes) (tab : Table) (ms : List Msg) : Prop :=
  ∀ k, proj k ms = [] ∨
    (endsOk (proj k ms) = true ∧ (tab.get k).fin = false ∧
      (tab.get k).buf ++ concatData (proj k ms) = data k)

theorem endsOk_fin_tail (s : Seg) (ss : List Seg) (h : endsOk (s :: ss) = true) (hf : s.fin = true) :
    ss = [] := by
  cases ss with
  | nil => rfl
  | cons t ts => rw [endsOk_cons_cons] at h; simp [hf] at h

theorem endsOk_nofin_tail (s : Seg) (ss : List Seg) (h : endsOk (s :: ss) = true)
    (hf : s.fin = false) : ss ≠ [] ∧ endsOk ss = true := by
  cases ss with
  | nil => simp [endsOk, hf] at h
  | cons t ts =>
    rw [endsOk_cons_cons] at h
    simp only [hf, Bool.not_false, Bool.true_and] at h
    exact ⟨by simp, h⟩

theorem demux_exact (data : Nat → Bytes) (ms : List Msg) (tab : Table) (hg : Good data tab ms)
    (k : Nat) (d : Bytes) :
    (demux tab ms).count (k, d) = if proj k ms ≠ [] ∧ d = data k then 1 else 0 := by
  induction ms generalizing tab with
  | nil => simp [demux, proj]
  | cons m rest ih =>
    have hm := hg m.tid
    rw [proj_cons_self] at hm
    rcases hm with hm | ⟨he, hfin, hdata⟩
    · simp at hm
    · -- the step succeeds
      have hnext : (tab.get m.tid).next m.seg =
          (⟨m.seg.fin, (tab.get m.tid).buf ++ m.seg.data⟩,
            RxOut.ack ((tab.get m.tid).buf ++ m.seg.data).length) := by
        simp [InT.next, hfin]
      by_cases hf : m.seg.fin = true
      · -- END: delivered, entry deleted, nothing more for this id
        have htail := endsOk_fin_tail _ _ he hf
        have hstep : demuxStep tab m =
            some (tab.del m.tid, some (m.tid, (tab.get m.tid).buf ++ m.seg.data)) := by
          simp [demuxStep, hnext, hf]
        have hg' : Good data (tab.del m.tid) rest := by
          intro j
          by_cases hj : j = m.tid
          · subst hj; left; exact htail
          · have := hg j
            rw [proj_cons_other m rest j hj] at this
            rw [demuxStep_other tab m _ _ j hj hstep]
            exact this
        have hdel : (tab.get m.tid).buf ++ m.seg.data = data m.tid := by
          rw [htail] at hdata; simpa [concatData] using hdata
        simp only [demux, hstep, List.count_cons, ih _ hg']
        by_cases hk : k = m.tid
        · subst hk
          rw [proj_cons_self, htail, hdel]
          by_cases hd : d = data m.tid
          · subst hd; simp
          · have : ((m.tid, data m.tid) == (m.tid, d)) = false := by
              simp only [beq_eq_false_iff_ne, ne_eq, Prod.mk.injEq, true_and]
              exact fun e => hd e.symm
            simp [hd, this]
        · rw [proj_cons_other m rest k hk]
          have : ((m.tid, (tab.get m.tid).buf ++ m.seg.data) == (k, d)) = false := by
            simp only [beq_eq_false_iff_ne, ne_eq, Prod.mk.injEq, not_and]
            exact fun e => absurd e.symm hk
          simp [this]
      · -- not END: buffered
        have hf' : m.seg.fin = false := by simpa using hf
        obtain ⟨hne, he'⟩ := endsOk_nofin_tail _ _ he hf'
        have hstep : demuxStep tab m =
            some (tab.set m.tid ⟨false, (tab.get m.tid).buf ++ m.seg.data⟩, none) := by
          simp [demuxStep, hnext, hf']
        have hg' : Good data (tab.set m.tid ⟨false, (tab.get m.tid).buf ++ m.seg.data⟩) rest := by
          intro j
          by_cases hj : j = m.tid
          · subst hj; right
            refine ⟨he', ?_, ?_⟩
            · rw [get_set, if_pos rfl]
            · rw [get_set, if_pos rfl]
              simpa [concatData, List.append_assoc] using hdata
          · have := hg j
            rw [proj_cons_other m rest j hj] at this
            rw [demuxStep_other tab m _ _ j hj hstep]
            exact this
        simp only [demux, hstep, ih _ hg']
        by_cases hk : k = m.tid
        · subst hk
          rw [proj_cons_self]
          simp [hne]
        · rw [proj_cons_other m rest k hk]

theorem good_fresh (data : Nat → Bytes) (m : Nat) (ms : List Msg)
    (h : ∀ k, proj k ms = [] ∨ SegmentsOk (data k) m (proj k ms)) : Good data [] ms := by
  intro k
  rcases h k with h | ⟨_, h2, _, h4⟩
  · left; exact h
  · right
    refine ⟨h4, rfl, ?_⟩
    show ([] : Bytes) ++ concatData (proj k ms) = data k
    simpa using h2

end Dtn7.Tcpcl.Lemmas
