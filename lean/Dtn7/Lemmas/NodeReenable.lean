/-
Epidemic routing, one `forward`: the per-peer transmissions (`sendAll`) leave every peer whose `Send` FAILED out of
the bundle's sent list — whatever the other transmissions of the same attempt did — and keep every other entry.
(The clause `c05FailX` / `reenableFail` judges this on the implementation's observations.)
-/
import Dtn7.Lemmas.NodeFwd

namespace Dtn7.Node

/-- The per-peer transmissions of one `forward` under epidemic routing. -/
theorem sendAll_failed_unlisted (env : Env) (d : Desc) (b : Bundle) : ∀ (ps : List Peer) (n : Node) (it : Item),
    n.cfg.algo = .epidemic → n.store.get d.key = some it → it.rt.sentE.Nodup →
    ∃ it', (sendAll env d b ps n).1.store.get d.key = some it' ∧ it'.rt.sentE.Nodup ∧
      (∀ p, Output.sent p b false ∈ (sendAll env d b ps n).2.1 → p.eid ∉ it'.rt.sentE) ∧
      (∀ e ∈ it.rt.sentE, (∀ p, Output.sent p b false ∈ (sendAll env d b ps n).2.1 → p.eid ≠ e) → e ∈ it'.rt.sentE) ∧
      (∀ e ∈ it'.rt.sentE, e ∈ it.rt.sentE)
  | [], n, it, _, hg, hn => by
    refine ⟨it, by simpa [sendAll] using hg, hn, ?_, ?_, fun e he => he⟩
    · intro p hp; simp [sendAll] at hp
    · intro e he _; exact he
  | q :: ps, n, it, ha, hg, hn => by
    simp only [sendAll]
    -- the state after this peer's goroutine
    let n1 : Node := { n with attempts := setNat n.attempts (q.addr, b.tag, b.seq) (attemptNo n q.addr b.tag b.seq + 1) }
    have hg1 : n1.store.get d.key = some it := hg
    have ha1 : n1.cfg.algo = .epidemic := ha
    cases hok : env.sendOk q.addr b.tag (attemptNo n q.addr b.tag b.seq) with
    | true =>
      simp only [if_true]
      rcases sendAll_failed_unlisted env d b ps n1 it ha1 hg1 hn with ⟨it', g', n', f', k', s'⟩
      refine ⟨it', g', n', ?_, ?_, s'⟩
      · intro p hp
        rcases List.mem_cons.mp hp with hp | hp
        · cases hp
        · exact f' p hp
      · intro e he hno
        exact k' e he (fun p hp => hno p (List.mem_cons_of_mem _ hp))
    | false =>
      simp only [Bool.false_eq_true, if_false]
      have hrf : reportFailure d q n1 = modRt d.key (fun r => { r with sentE := eraseFirst q.eid r.sentE }) n1 := by
        unfold reportFailure; simp only [ha1]
      rw [hrf]
      have hg2 : (modRt d.key (fun r => { r with sentE := eraseFirst q.eid r.sentE }) n1).store.get d.key =
          some { it with rt := { it.rt with sentE := eraseFirst q.eid it.rt.sentE } } := by
        rw [modRt_get, hg1]; rfl
      have ha2 : (modRt d.key (fun r => { r with sentE := eraseFirst q.eid r.sentE }) n1).cfg.algo = .epidemic := by
        rw [(modRt_only _ _ n1).env.cfg]; exact ha1
      rcases sendAll_failed_unlisted env d b ps _ _ ha2 hg2 (by rw [eraseFirst_eq_erase]; exact hn.erase _)
        with ⟨it', g', n', f', k', s'⟩
      have s'' : ∀ e ∈ it'.rt.sentE, e ∈ it.rt.sentE.erase q.eid := fun e he => eraseFirst_eq_erase q.eid _ ▸ s' e he
      refine ⟨it', g', n', ?_, ?_, fun e he => List.mem_of_mem_erase (s'' e he)⟩
      · intro p hp
        rcases List.mem_cons.mp hp with hp | hp
        · cases hp
          exact fun hm => hn.not_mem_erase (s'' _ hm)
        · exact f' p hp
      · intro e he hno
        apply k' e
        · rw [eraseFirst_eq_erase]
          exact (List.mem_erase_of_ne (fun h => hno q List.mem_cons_self h.symm)).mpr he
        · exact fun p hp => hno p (List.mem_cons_of_mem _ hp)

end Dtn7.Node
