/-
C05 / C13 on the histories of `Domain`: Spec predicates against model predicates, the Spec's view of the
store, and the invariant `RInv` (well-formed store, provenance of store keys and IdKeeper entries, the
Spec's view of peers and clock) along every such history, for every variant of the code: what the
`*_any_variant` theorems of C13 rest on. (C05's own theorems need no domain: `Dtn7.Lemmas.NodeFull`, which uses
the Spec-side helpers and `VInv`, `stepCore_quiet`, `stepCore_checkPending` from here.)
-/
import Dtn7.Lemmas.NodeEvents
import Dtn7.Model.NodeSpec

namespace Dtn7.Node

/-! ## Spec predicates vs. model predicates -/

/-- Bundles that agree in everything the processing decisions depend on (all but tag, previous node and
spray block). -/
def SameBody (a b : Bundle) : Prop :=
  a.src = b.src ∧ a.ts = b.ts ∧ a.seq = b.seq ∧ a.dst = b.dst ∧ a.lifetime = b.lifetime ∧ a.hop = b.hop ∧
  a.age = b.age ∧ a.delBlock = b.delBlock

theorem SameBody.refl (a : Bundle) : SameBody a a := ⟨rfl, rfl, rfl, rfl, rfl, rfl, rfl, rfl⟩

theorem SameBody.key {a b : Bundle} (h : SameBody a b) : a.key = b.key := by
  unfold Bundle.key
  rw [h.1, h.2.1, h.2.2.1]

theorem SameBody.trans {a b c : Bundle} (h1 : SameBody a b) (h2 : SameBody b c) : SameBody a c :=
  ⟨h1.1.trans h2.1, h1.2.1.trans h2.2.1, h1.2.2.1.trans h2.2.2.1, h1.2.2.2.1.trans h2.2.2.2.1,
   h1.2.2.2.2.1.trans h2.2.2.2.2.1, h1.2.2.2.2.2.1.trans h2.2.2.2.2.2.1,
   h1.2.2.2.2.2.2.1.trans h2.2.2.2.2.2.2.1, h1.2.2.2.2.2.2.2.trans h2.2.2.2.2.2.2.2⟩

theorem forwardable_of_ok (now at_ : Nat) (b : Bundle) (h : lifetimeOk now at_ b = true)
    (hh : hopRefused b = false) : forwardable now b := by
  unfold lifetimeOk at h
  simp only [Bool.and_eq_true] at h
  refine ⟨?_, ?_, ?_⟩
  · unfold hopExceeded; unfold hopRefused at hh; exact hh
  · unfold lifetimeExceeded
    by_cases hts : (b.ts == 0) = true
    · simp only [hts, if_true] at h ⊢
      cases ha : b.age with
      | none => simp [ha] at h
      | some a =>
        simp only [ha] at h ⊢
        have := h.2
        simp at this ⊢
        omega
    · simp only [hts, Bool.false_eq_true, if_false] at h ⊢
      have := h.1
      simp at this ⊢
      omega
  · unfold ageExpired
    cases ha : b.age with
    | none => rfl
    | some a =>
      simp only [ha] at h ⊢
      have := h.2
      simp at this ⊢
      omega

theorem forwardable_congr {a b : Bundle} (now : Nat) (h : SameBody a b) (hf : forwardable now b) :
    forwardable now a := by
  unfold forwardable hopExceeded lifetimeExceeded ageExpired at *
  rw [h.2.1, h.2.2.2.2.1, h.2.2.2.2.2.1, h.2.2.2.2.2.2.1]
  exact hf

theorem calcExpires_ok (c : Cfg) (hexp : c.expiryNow = true) (t at_ : Nat) (b : Bundle)
    (h : lifetimeOk t at_ b = true) : ¬ calcExpires c at_ b < t := by
  unfold lifetimeOk at h
  simp only [Bool.and_eq_true] at h
  unfold calcExpires
  by_cases hts : (b.ts == 0) = true
  · simp only [hexp, hts, Bool.and_self, if_true] at h ⊢
    cases ha : b.age with
    | none => simp [ha] at h
    | some a =>
      simp only [ha] at h ⊢
      have := h.2
      simp at this ⊢
      omega
  · simp only [hts, Bool.and_false, Bool.false_eq_true, if_false] at h ⊢
    have := h.1
    simp at this
    omega

theorem calcExpires_congr {a b : Bundle} (c : Cfg) (at_ : Nat) (h : SameBody a b) :
    calcExpires c at_ a = calcExpires c at_ b := by
  unfold calcExpires
  rw [h.2.1, h.2.2.2.2.1, h.2.2.2.2.2.2.1]

/-! ## The view of the model's store -/

theorem viewOf_get (n : Node) (k : Key) :
    (viewOf n).get k = (n.store.get k).map (fun it => itemView (k, it)) := by
  unfold viewOf View.get
  simp only
  induction n.store with
  | nil => simp [Store.get]
  | cons kv s ih =>
    obtain ⟨k', it'⟩ := kv
    by_cases hk : k' = k
    · subst hk
      simp [Store.get, itemView]
    · have : (k' == k) = false := by simp [hk]
      simp only [List.map_cons, List.find?_cons, itemView, this, Store.get, hk, if_false]
      exact ih

theorem mem_viewOf {n : Node} {i : ItemView} (w : WF n) (h : i ∈ (viewOf n).items) :
    ∃ k it, n.store.get k = some it ∧ i = itemView (k, it) := by
  rcases List.mem_map.mp h with ⟨⟨k, it⟩, hkv, rfl⟩
  exact ⟨k, it, Store.get_of_mem w.nodup hkv, rfl⟩

/-! ## Domain of the histories -/

def submitted : List Event → List Bundle
  | [] => []
  | .submit b :: es => b :: submitted es
  | _ :: es => submitted es

def received : List Event → List Bundle
  | [] => []
  | .receive b _ :: es => b :: received es
  | _ :: es => received es

theorem submitted_append (a b : List Event) : submitted (a ++ b) = submitted a ++ submitted b := by
  induction a with
  | nil => rfl
  | cons e a ih => cases e <;> simp [submitted, ih]

theorem received_append (a b : List Event) : received (a ++ b) = received a ++ received b := by
  induction a with
  | nil => rfl
  | cons e a ih => cases e <;> simp [received, ih]

/-- The histories the retention theorem speaks about:
* applications hand over bundles with the builder's sequence number 0 and pairwise different
  (source, creation time) — the class excluded here is D17 (two bundles of one source and millisecond);
* no bundle delivered by a peer carries the (source, creation time) of a submitted one. -/
structure Domain (h : List Event) : Prop where
  subSeq : ∀ b ∈ submitted h, b.seq = 0
  subDistinct : (submitted h).Pairwise (fun a b => (a.src, a.ts) ≠ (b.src, b.ts))
  disjoint : ∀ a ∈ submitted h, ∀ b ∈ received h, (a.src, a.ts) ≠ (b.src, b.ts)

theorem pairwise_ne_of_mem {α} {R : α → α → Prop} {l : List α} (h : l.Pairwise R) {a b : α}
    (ha : a ∈ l) (hb : b ∈ l) (hab : a ≠ b) : R a b ∨ R b a := by
  induction l with
  | nil => cases ha
  | cons x l ih =>
    rcases List.pairwise_cons.mp h with ⟨hx, hl⟩
    rcases List.mem_cons.mp ha with ha' | ha' <;> rcases List.mem_cons.mp hb with hb' | hb'
    · exact absurd (ha'.trans hb'.symm) hab
    · rw [ha']; exact Or.inl (hx b hb')
    · rw [hb']; exact Or.inr (hx a ha')
    · exact ih hl ha' hb'

/-! ## The invariant -/

/-- The part of the invariant the C13 theorems need along the histories of `Domain`: well-formed store,
provenance of the store keys and of the IdKeeper entries, and the Spec's view of peers, clock and store.
(The retention clause itself is proved without any domain hypothesis in `Dtn7.Lemmas.NodeFull`.) -/
structure RInv (c : Cfg) (past : List Event) (s : SpecSt) (n : Node) : Prop where
  wf : WF n
  cfg : n.cfg = c
  now : s.now = n.now
  prev : s.prev = viewOf n
  keysFrom : ∀ k it, n.store.get k = some it → ∃ e, (e ∈ submitted past ∨ e ∈ received past) ∧ e.key = k
  idkFrom : ∀ st, (lookupNat n.idk st).isSome = true → ∃ e ∈ submitted past, (e.src, e.ts) = st
  peers : s.peers = n.peers
  pnodup : (n.peers.map (·.addr)).Nodup

/-- What the clauses other than `Retained` need from the invariant. -/
structure VInv (c : Cfg) (s : SpecSt) (n : Node) : Prop where
  wf : WF n
  cfg : n.cfg = c
  now : s.now = n.now
  prev : s.prev = viewOf n
  peers : s.peers = n.peers
  pnodup : (n.peers.map (·.addr)).Nodup

theorem RInv.v {c : Cfg} {past : List Event} {s : SpecSt} {n : Node} (h : RInv c past s n) : VInv c s n :=
  ⟨h.wf, h.cfg, h.now, h.prev, h.peers, h.pnodup⟩

/-! ## One event -/

/-- What has to be shown about the core of a step to carry the invariant over the event. -/
structure CoreOk (c : Cfg) (past : List Event) (s : SpecSt) (e : Event) (m : Node) : Prop where
  wf : WF m
  cfg : m.cfg = c
  now : m.now = nowAfter s.now e
  keysFrom : ∀ k it, m.store.get k = some it →
    ∃ b, (b ∈ submitted (past ++ [e]) ∨ b ∈ received (past ++ [e])) ∧ b.key = k
  idkFrom : ∀ st, (lookupNat m.idk st).isSome = true → ∃ b ∈ submitted (past ++ [e]), (b.src, b.ts) = st
  peers : m.peers = peersAfter s.peers e
  pnodup : (m.peers.map (·.addr)).Nodup

theorem mem_submitted_snoc {past : List Event} {e : Event} {b : Bundle} (h : b ∈ submitted past) :
    b ∈ submitted (past ++ [e]) := by
  rw [submitted_append]; exact List.mem_append_left _ h

theorem mem_received_snoc {past : List Event} {e : Event} {b : Bundle} (h : b ∈ received past) :
    b ∈ received (past ++ [e]) := by
  rw [received_append]; exact List.mem_append_left _ h

theorem domain_prefix {a b : List Event} (h : Domain (a ++ b)) : Domain a := by
  refine ⟨?_, ?_, ?_⟩
  · intro x hx; exact h.subSeq x (by rw [submitted_append]; exact List.mem_append_left _ hx)
  · have := h.subDistinct
    rw [submitted_append] at this
    exact (List.pairwise_append.mp this).1
  · intro x hx y hy
    exact h.disjoint x (by rw [submitted_append]; exact List.mem_append_left _ hx)
      y (by rw [received_append]; exact List.mem_append_left _ hy)

theorem rinv_of_core (c : Cfg) (env : Env) (past : List Event) (e : Event) (s : SpecSt) (n : Node)
    (hcore : CoreOk c past s e (stepCore env n e).1) :
    RInv c (past ++ [e]) (specNext c s (obsOf (e, (step env n e).2, (step env n e).1))) (step env n e).1 := by
  refine ⟨?_, hcore.cfg, ?_, rfl, ?_, hcore.idkFrom, ?_, hcore.pnodup⟩
  · exact ⟨hcore.wf.keyed, hcore.wf.nodup⟩
  · show nowAfter s.now e = (stepCore env n e).1.now
    exact hcore.now.symm
  · exact hcore.keysFrom
  · show peersAfter s.peers e = (stepCore env n e).1.peers
    exact hcore.peers.symm

theorem RInv.keys_snoc {c : Cfg} {past : List Event} {s : SpecSt} {n : Node} (inv : RInv c past s n) (e : Event)
    {k : Key} {it : Item} (hg : n.store.get k = some it) :
    ∃ b, (b ∈ submitted (past ++ [e]) ∨ b ∈ received (past ++ [e])) ∧ b.key = k := by
  rcases inv.keysFrom k it hg with ⟨b, hb, hk⟩
  exact ⟨b, hb.imp mem_submitted_snoc mem_received_snoc, hk⟩

theorem RInv.idk_snoc {c : Cfg} {past : List Event} {s : SpecSt} {n : Node} (inv : RInv c past s n) (e : Event)
    {st : Eid × Nat} (h : (lookupNat n.idk st).isSome = true) : ∃ b ∈ submitted (past ++ [e]), (b.src, b.ts) = st := by
  rcases inv.idkFrom st h with ⟨b, hb, hk⟩
  exact ⟨b, mem_submitted_snoc hb, hk⟩

theorem wf_foldl_erase (ks : List Key) : ∀ (n : Node), WF n → WF { n with store := ks.foldl Store.erase n.store } := by
  induction ks with
  | nil => intro n w; exact w
  | cons k ks ih =>
    intro n w
    have := ih { n with store := n.store.erase k } (wf_erase w k)
    simpa using this

/-- The events that do not run `dispatching` (`peerDown`, `restart`, `cleanTick`): the store is kept or shrinks
and stays well-formed, the IdKeeper does not grow, configuration, clock and peers are what the Spec computes. -/
theorem stepCore_quiet (c : Cfg) (env : Env) (s : SpecSt) (n : Node) (e : Event)
    (he : (∃ a, e = .peerDown a) ∨ e = .restart ∨ ∃ t, e = .cleanTick t) (v : VInv c s n) :
    WF (stepCore env n e).1 ∧ (stepCore env n e).1.cfg = c ∧ (stepCore env n e).1.now = nowAfter s.now e ∧
    (stepCore env n e).1.peers = peersAfter s.peers e ∧ ((stepCore env n e).1.peers.map (·.addr)).Nodup ∧
    (∀ k it, (stepCore env n e).1.store.get k = some it → n.store.get k = some it) ∧
    (∀ st, (lookupNat (stepCore env n e).1.idk st).isSome = true → (lookupNat n.idk st).isSome = true) := by
  rcases he with ⟨a, rfl⟩ | rfl | ⟨t, rfl⟩
  · exact ⟨⟨v.wf.keyed, v.wf.nodup⟩, v.cfg, v.now.symm, by simp [stepCore, peersAfter, v.peers],
      v.pnodup.sublist (List.Sublist.map _ List.filter_sublist), fun _ _ h => h, fun _ h => h⟩
  · exact ⟨⟨v.wf.keyed, v.wf.nodup⟩, v.cfg, v.now.symm, by simp [stepCore, peersAfter], by simp [stepCore],
      fun _ _ h => h, fun st h => by simp [stepCore, lookupNat] at h⟩
  · exact ⟨wf_foldl_erase (expiredKeys n.store t) { n with now := t } ⟨v.wf.keyed, v.wf.nodup⟩, v.cfg, rfl,
      by simp [stepCore, deleteExpired, peersAfter, v.peers], v.pnodup, fun _ _ h => cleanTick_sub env n h,
      fun _ h => h⟩

theorem core_quiet (c : Cfg) (env : Env) (past : List Event) (s : SpecSt) (n : Node) (e : Event)
    (he : (∃ a, e = .peerDown a) ∨ e = .restart ∨ ∃ t, e = .cleanTick t) (inv : RInv c past s n) :
    CoreOk c past s e (stepCore env n e).1 := by
  rcases stepCore_quiet c env s n e he inv.v with ⟨w, hc, hn, hp, hpn, hsub, hidk⟩
  exact ⟨w, hc, hn, fun k it hg => inv.keys_snoc e (hsub k it hg), fun st h => inv.idk_snoc e (hidk st h), hp, hpn⟩

theorem mem_pendingKeys {s : Store} {k : Key} (h : k ∈ pendingKeys s) : ∃ it, s.get k = some it := by
  unfold pendingKeys at h
  exact Store.get_of_mem_keys (List.mem_filter.mp h).1

theorem core_checkPending (c : Cfg) (env : Env) (past : List Event) (s : SpecSt)
    (n n1 : Node) (e : Event) (inv : RInv c past s n)
    (hs : n1.store = n.store) (hcfg : n1.cfg = n.cfg) (hnow : n1.now = n.now) (hidk : n1.idk = n.idk)
    (hev : nowAfter s.now e = s.now)
    (hp : n1.peers = peersAfter s.peers e) (hpn : (n1.peers.map (·.addr)).Nodup) :
    CoreOk c past s e (checkPending env n1).1 := by
  have w1 : WF n1 := ⟨by rw [hs]; exact inv.wf.keyed, by rw [hs]; exact inv.wf.nodup⟩
  unfold checkPending
  rcases dispatchKeys_kstep env (pendingKeys n1.store) n1 w1 with ⟨w', e', o', i', _⟩
  refine ⟨w', (e'.cfg.trans hcfg).trans inv.cfg, ?_, ?_, ?_, e'.peers.trans hp, by rw [e'.peers]; exact hpn⟩
  · rw [hev, e'.now, hnow, inv.now]
  · intro k it hg
    have : ∃ it0, n.store.get k = some it0 := by
      by_cases hk : k ∈ pendingKeys n1.store
      · rw [hs] at hk; exact mem_pendingKeys hk
      · rw [o' k hk, hs] at hg; exact ⟨it, hg⟩
    rcases this with ⟨it0, h0⟩
    exact inv.keys_snoc e h0
  · intro st hst
    rw [i', hidk] at hst
    exact inv.idk_snoc e hst

theorem nodup_addr_snoc {peers : List Peer} (h : (peers.map (·.addr)).Nodup) (p : Peer)
    (hp : ¬ peers.any (fun q => q.addr == p.addr) = true) : ((peers ++ [p]).map (·.addr)).Nodup := by
  simp only [List.map_append, List.map_cons, List.map_nil]
  refine List.nodup_append.mpr ⟨h, by simp, ?_⟩
  intro a ha b hb
  simp at hb
  subst hb
  intro hab
  subst hab
  rcases List.mem_map.mp ha with ⟨q, hq, hqa⟩
  exact hp (List.any_eq_true.mpr ⟨q, hq, by simp [hqa]⟩)

/-- `peerUp` and `retryTick` run `checkPendingBundles` in the state whose peers are the Spec's. -/
theorem stepCore_checkPending (env : Env) (n : Node) (e : Event) (hn : (n.peers.map (·.addr)).Nodup)
    (he : (∃ p, e = .peerUp p) ∨ e = .retryTick) :
    ∃ n1 : Node, n1.store = n.store ∧ n1.cfg = n.cfg ∧ n1.now = n.now ∧ n1.idk = n.idk ∧ n1.peers = peersAfter n.peers e ∧
      (n1.peers.map (·.addr)).Nodup ∧ stepCore env n e = checkPending env n1 := by
  rcases he with ⟨p, rfl⟩ | rfl
  · by_cases hany : n.peers.any (fun q => q.addr == p.addr) = true
    · exact ⟨n, rfl, rfl, rfl, rfl, by simp [peersAfter, hany], hn, by simp only [stepCore, hany, if_true]⟩
    · exact ⟨{ n with peers := n.peers ++ [p] }, rfl, rfl, rfl, rfl, by simp [peersAfter, hany],
        nodup_addr_snoc hn p hany, by simp only [stepCore, hany, Bool.false_eq_true, if_false]⟩
  · exact ⟨n, rfl, rfl, rfl, rfl, rfl, hn, rfl⟩

theorem core_pending (c : Cfg) (env : Env) (past : List Event) (s : SpecSt) (n : Node) (e : Event)
    (he : (∃ p, e = .peerUp p) ∨ e = .retryTick) (inv : RInv c past s n) :
    CoreOk c past s e (stepCore env n e).1 := by
  rcases stepCore_checkPending env n e inv.pnodup he with ⟨n1, hs, hcfg, hnow, hidk, hp, hpn, heq⟩
  rw [heq]
  exact core_checkPending c env past s n n1 e inv hs hcfg hnow hidk (by rcases he with ⟨p, rfl⟩ | rfl <;> rfl)
    (by rw [hp, inv.peers]) hpn

theorem hasEndpoint_false_of {c : Cfg} {e : Eid} (h : (e.node != c.self) = true) : hasEndpoint c e = false := by
  unfold hasEndpoint
  simp only [bne_iff_ne, ne_eq] at h
  simp [h]

theorem key_ne_of_st {a b : Bundle} (h : (a.src, a.ts) ≠ (b.src, b.ts)) : a.key ≠ b.key := by
  intro e
  apply h
  have h1 : a.key.src = b.key.src := by rw [e]
  have h2 : a.key.ts = b.key.ts := by rw [e]
  exact Prod.ext h1 h2

/-- In the domain, a submitted bundle has a new ID and a new (source, time) pair for the IdKeeper. -/
theorem submit_fresh (c : Cfg) (past fut : List Event) (b : Bundle) (hdom : Domain (past ++ .submit b :: fut))
    (s : SpecSt) (n : Node) (inv : RInv c past s n) :
    n.store.get b.key = none ∧ lookupNat n.idk (b.src, b.ts) = none ∧ b.seq = 0 := by
  have hsub : submitted (past ++ .submit b :: fut) = submitted past ++ b :: submitted fut := by
    rw [submitted_append]; rfl
  have hrec : received (past ++ .submit b :: fut) = received past ++ received fut := by
    rw [received_append]; rfl
  have hbmem : b ∈ submitted (past ++ .submit b :: fut) := by
    rw [hsub]; exact List.mem_append_right _ List.mem_cons_self
  have hsubne : ∀ a ∈ submitted past, (a.src, a.ts) ≠ (b.src, b.ts) := by
    intro a ha
    have := hdom.subDistinct
    rw [hsub] at this
    exact (List.pairwise_append.mp this).2.2 a ha b List.mem_cons_self
  have hrecne : ∀ a ∈ received past, (a.src, a.ts) ≠ (b.src, b.ts) := by
    intro a ha
    have := hdom.disjoint b hbmem a (by rw [hrec]; exact List.mem_append_left _ ha)
    exact fun h => this h.symm
  refine ⟨?_, ?_, hdom.subSeq b hbmem⟩
  · cases hg : n.store.get b.key with
    | none => rfl
    | some it =>
      rcases inv.keysFrom _ it hg with ⟨a, ha, hak⟩
      rcases ha with ha | ha
      · exact absurd hak (key_ne_of_st (hsubne a ha))
      · exact absurd hak (key_ne_of_st (hrecne a ha))
  · cases hl : lookupNat n.idk (b.src, b.ts) with
    | none => rfl
    | some v =>
      rcases inv.idkFrom (b.src, b.ts) (by rw [hl]; rfl) with ⟨a, ha, hst⟩
      exact absurd hst (hsubne a ha)

theorem core_submit (c : Cfg) (env : Env)
    (past fut : List Event) (b : Bundle) (hdom : Domain (past ++ .submit b :: fut)) (s : SpecSt) (n : Node)
    (inv : RInv c past s n) :
    CoreOk c past s (.submit b) (stepCore env n (.submit b)).1 := by
  have hf := submit_fresh c past fut b hdom s n inv
  have hstep := sendBundle_kstep env b n hf.2 hf.1
  have hbnew : b ∈ submitted (past ++ [.submit b]) := by
    rw [submitted_append]; exact List.mem_append_right _ List.mem_cons_self
  simp only [stepCore]
  refine ⟨hstep.wf inv.wf, hstep.env.cfg.trans inv.cfg, ?_, ?_, ?_,
    by rw [hstep.env.peers]; simp [peersAfter, inv.peers], by rw [hstep.env.peers]; exact inv.pnodup⟩
  · rw [hstep.env.now, ← inv.now]; rfl
  · exact items_step (fun _ _ hg => inv.keys_snoc _ hg) hstep.other fun _ _ => ⟨b, Or.inl hbnew, rfl⟩
  · intro st hst
    rcases hstep.idk st hst with h | h
    · exact inv.idk_snoc _ h
    · exact ⟨b, hbnew, h.symm⟩

theorem core_receive (c : Cfg) (env : Env) (past : List Event) (b : Bundle) (r : Option Eid)
    (s : SpecSt) (n : Node) (inv : RInv c past s n) :
    CoreOk c past s (.receive b r) (stepCore env n (.receive b r)).1 := by
  have hstep := receive_kstep env b r n
  have hbnew : b ∈ received (past ++ [.receive b r]) := by
    rw [received_append]; exact List.mem_append_right _ List.mem_cons_self
  simp only [stepCore]
  refine ⟨hstep.wf inv.wf, hstep.only.env.cfg.trans inv.cfg, ?_, ?_, ?_,
    by rw [hstep.only.env.peers]; simp [peersAfter, inv.peers], by rw [hstep.only.env.peers]; exact inv.pnodup⟩
  · rw [hstep.only.env.now, ← inv.now]; rfl
  · exact items_step (fun _ _ hg => inv.keys_snoc _ hg) hstep.only.other fun _ _ => ⟨b, Or.inr hbnew, rfl⟩
  · intro st hst
    rw [hstep.idk] at hst
    exact inv.idk_snoc _ hst

/-! ## Every history -/

theorem rinv_step (c : Cfg) (env : Env)
    (past fut : List Event) (e : Event) (hdom : Domain (past ++ e :: fut)) (s : SpecSt) (n : Node)
    (inv : RInv c past s n) :
    RInv c (past ++ [e]) (specNext c s (obsOf (e, (step env n e).2, (step env n e).1))) (step env n e).1 := by
  apply rinv_of_core c env past e s n
  cases e with
  | submit b => exact core_submit c env past fut b hdom s n inv
  | receive b r => exact core_receive c env past b r s n inv
  | peerUp p => exact core_pending c env past s n _ (Or.inl ⟨p, rfl⟩) inv
  | peerDown a => exact core_quiet c env past s n _ (Or.inl ⟨a, rfl⟩) inv
  | retryTick => exact core_pending c env past s n _ (Or.inr rfl) inv
  | cleanTick t => exact core_quiet c env past s n _ (Or.inr (Or.inr ⟨t, rfl⟩)) inv
  | restart => exact core_quiet c env past s n _ (Or.inr (Or.inl rfl)) inv

theorem rinv_init (c : Cfg) (now : Nat) : RInv c [] (SpecSt.init now) (init c now) := by
  refine ⟨⟨?_, ?_⟩, rfl, rfl, rfl, ?_, ?_, rfl, ?_⟩
  · intro k it h; simp [init, Store.get] at h
  · simp [init, Store.keys]
  · intro k it h; simp [init, Store.get] at h
  · intro st h; simp [init, lookupNat] at h
  · simp [init]

end Dtn7.Node
