/-
Lemmas for C20 (DTLSR); the property-level statements are in `Dtn7.Props.C20`.

Three routes lead to `MinCostNextHop`, all through `minCost_of_rows`: the certificate checker (feasible
potentials bound every walk from below, tight paths attain them); the reference table (`n` rounds of
Bellman–Ford are exact for weights ≥ 0, because a walk can be made simple and a simple walk has fewer than
`n` arcs); and the ported library loop (a label-correcting invariant whose predecessor pointers are kept
acyclic by ghost time stamps, with the measure `phi` for termination). Around them: link-state reception
is a fold of `newer` per node, hence order-free; the broadcast sender choice; the graph the node builds
has costs ≥ 0 for past loss times; the node index is a bijection with the own node at 0.
-/
import Dtn7.Model.Dtlsr

namespace Dtn7.Dtlsr.Lemmas

theorem Walk.trans {g : Graph} {u v x : Nat} {c₁ c₂ : Int} (h₁ : Walk g u v c₁) (h₂ : Walk g v x c₂) :
    Walk g u x (c₁ + c₂) := by
  induction h₁ with
  | nil u => simpa using h₂
  | cons ha _ ih =>
    have := Walk.cons ha (ih h₂)
    simpa [Int.add_assoc] using this

theorem Walk.single {g : Graph} {u v : Nat} {w : Int} (ha : (u, v, w) ∈ g.arcs) : Walk g u v w := by
  simpa using Walk.cons ha (Walk.nil v)

theorem walk_end_lt {g : Graph} (hwf : ∀ e ∈ g.arcs, e.2.1 < g.n) {u v : Nat} {c : Int}
    (h : Walk g u v c) : v = u ∨ v < g.n := by
  induction h with
  | nil u => exact Or.inl rfl
  | @cons u v x w c ha _ ih =>
    rcases ih with h | h
    · right; subst h; exact hwf _ ha
    · exact Or.inr h

/-- Feasible potentials on a closed labelled set bound every walk from below. -/
theorem walk_lower {g : Graph} {pot : Nat → Option Int}
    (hf : ∀ e ∈ g.arcs, arcFeasible pot e = true) {u v : Nat} {c : Int} (h : Walk g u v c) :
    ∀ pu, pot u = some pu → ∃ pv, pot v = some pv ∧ pv ≤ pu + c := by
  induction h with
  | nil u => intro pu hpu; exact ⟨pu, hpu, by omega⟩
  | @cons u v x w c ha _ ih =>
    intro pu hpu
    have hfe := hf _ ha
    simp only [arcFeasible, hpu] at hfe
    cases hpv : pot v with
    | none => simp [hpv] at hfe
    | some pv =>
      simp only [hpv, decide_eq_true_eq] at hfe
      obtain ⟨px, hpx, hle⟩ := ih pv hpv
      exact ⟨px, hpx, by omega⟩

theorem tightArc_spec {g : Graph} {pot : Nat → Option Int} {a b : Nat}
    (h : tightArc g pot a b = true) :
    ∃ w pa pb, (a, b, w) ∈ g.arcs ∧ pot a = some pa ∧ pot b = some pb ∧ pa + w = pb := by
  simp only [tightArc, List.any_eq_true, Bool.and_eq_true, beq_iff_eq] at h
  obtain ⟨⟨x, y, w⟩, hmem, ⟨hx, hy⟩, hm⟩ := h
  simp only at hx hy
  subst hx; subst hy
  cases hpa : pot x with
  | none => simp [hpa] at hm
  | some pa =>
    cases hpb : pot y with
    | none => simp [hpa, hpb] at hm
    | some pb =>
      simp only [hpa, hpb, beq_iff_eq] at hm
      exact ⟨w, pa, pb, hmem, rfl, rfl, hm⟩

theorem tightPath_walk {g : Graph} {pot : Nat → Option Int} :
    ∀ (p : List Nat) (a z : Nat), tightPath g pot (a :: p) = true → (a :: p).getLast? = some z →
      ∀ pa, pot a = some pa → ∃ pz, pot z = some pz ∧ Walk g a z (pz - pa) := by
  intro p
  induction p with
  | nil =>
    intro a z _ hl pa hpa
    simp at hl
    subst hl
    exact ⟨pa, hpa, by simpa using Walk.nil a⟩
  | cons b rest ih =>
    intro a z ht hl pa hpa
    simp only [tightPath, Bool.and_eq_true] at ht
    obtain ⟨w, pa', pb, hmem, hpa', hpb, hsum⟩ := tightArc_spec ht.1
    rw [List.getLast?_cons_cons] at hl
    obtain ⟨pz, hpz, hw⟩ := ih b z ht.2 hl pb hpb
    refine ⟨pz, hpz, ?_⟩
    have hpaeq : pa' = pa := by rw [hpa] at hpa'; exact (Option.some.inj hpa').symm
    have := Walk.cons hmem hw
    have e : w + (pz - pb) = pz - pa := by omega
    rwa [e] at this

theorem pathOk_spec {g : Graph} {pot : Nat → Option Int} {h d : Nat} {p : List Nat} {p0 : Int}
    (hp0 : pot 0 = some p0) (hok : pathOk g pot h d p = true) :
    ∃ w c pd, (0, h, w) ∈ g.arcs ∧ Walk g h d c ∧ pot d = some pd ∧ pd = p0 + (w + c) := by
  match p, hok with
  | a :: b :: rest, hok =>
    simp only [pathOk, Bool.and_eq_true, beq_iff_eq] at hok
    obtain ⟨⟨⟨rfl, rfl⟩, hlast⟩, ht⟩ := hok
    simp only [tightPath, Bool.and_eq_true] at ht
    obtain ⟨w, pa, pb, hmem, hpa, hpb, hsum⟩ := tightArc_spec ht.1
    obtain ⟨pz, hpz, hw⟩ := tightPath_walk rest b d ht.2 hlast pb hpb
    have : pa = p0 := by rw [hp0] at hpa; exact (Option.some.inj hpa).symm
    exact ⟨w, pz - pb, pz, hmem, hw, hpz, by omega⟩

theorem lookup_mem {t : Table} {d h : Nat} (hl : lookup t d = some h) : (d, h) ∈ t := by
  induction t with
  | nil => simp [lookup] at hl
  | cons e rest ih =>
    obtain ⟨k, v⟩ := e
    simp only [lookup] at hl
    split at hl
    · rename_i hk
      subst hk
      simp at hl
      subst hl
      exact List.mem_cons_self
    · exact List.mem_cons_of_mem _ (ih hl)

/-- A next-hop function defined only for vertices `d ≠ 0` has the property as soon as, for every such
vertex, its value is a first hop of a least-cost walk and it is defined whenever `d` is reachable. -/
theorem minCost_of_rows {g : Graph} (hwf : ∀ e ∈ g.arcs, e.2.1 < g.n) (T : Nat → Option Nat)
    (hdom : ∀ d h, T d = some h → d ≠ 0 ∧ d < g.n)
    (key : ∀ d, d < g.n → d ≠ 0 →
      (∀ h, T d = some h → ∃ w c, (0, h, w) ∈ g.arcs ∧ Walk g h d c ∧ IsDist g 0 d (w + c)) ∧
      (Reachable g 0 d → (T d).isSome = true)) :
    MinCostNextHop g T := by
  constructor
  · intro d
    constructor
    · intro hsome
      obtain ⟨h, hh⟩ := Option.isSome_iff_exists.mp hsome
      obtain ⟨hd0, hlt⟩ := hdom d h hh
      obtain ⟨w, c, ha, hwalk, _⟩ := (key d hlt hd0).1 h hh
      exact ⟨hd0, w + c, Walk.cons ha hwalk⟩
    · rintro ⟨hd0, c, hc⟩
      have hlt : d < g.n := (walk_end_lt hwf hc).resolve_left hd0
      exact (key d hlt hd0).2 ⟨c, hc⟩
  · intro d h hh
    obtain ⟨hd0, hlt⟩ := hdom d h hh
    exact (key d hlt hd0).1 h hh

/-- **Soundness of the certificate checker**, for every graph (any size, any weights — feasible
potentials exist only if there is no negative cycle, so nothing has to be assumed). -/
theorem checker_sound (g : Graph) (t : Table) (c : Cert) (hc : checkTable g t c = true) :
    MinCostNextHop g (lookup t) := by
  simp only [checkTable, Bool.and_eq_true, List.all_eq_true, decide_eq_true_eq, beq_iff_eq,
    List.mem_range, Bool.or_eq_true, bne_iff_ne, ne_eq] at hc
  obtain ⟨⟨⟨⟨⟨hwf, hn⟩, hp0⟩, hfeas⟩, hkeys⟩, hrows⟩ := hc
  -- every vertex reachable from 0 is labelled and its label bounds every walk
  have hlow : ∀ {v : Nat} {cw : Int}, Walk g 0 v cw → ∃ pv, c.potAt v = some pv ∧ pv ≤ cw := by
    intro v cw hw
    obtain ⟨pv, hpv, hle⟩ := walk_lower hfeas hw 0 hp0
    exact ⟨pv, hpv, by omega⟩
  refine minCost_of_rows (fun e he => (hwf e he).2) (lookup t)
    (fun d h hh => hkeys _ (lookup_mem hh)) fun d hlt hd0 => ?_
  have hrow := (hrows d hlt).resolve_left hd0
  constructor
  · intro h hh
    rw [hh] at hrow
    cases hpd : c.potAt d with
    | none => simp [hpd] at hrow
    | some pd =>
      simp only [hpd] at hrow
      obtain ⟨w, cw, pd', hmem, hwalk, hpd', hsum⟩ := pathOk_spec hp0 hrow
      refine ⟨w, cw, hmem, hwalk, Walk.cons hmem hwalk, ?_⟩
      intro c' hw'
      obtain ⟨pv, hpv, hle⟩ := hlow hw'
      rw [hpd'] at hpv
      have : pd' = pv := Option.some.inj hpv
      omega
  · rintro ⟨cw, hw⟩
    obtain ⟨pv, hpv, _⟩ := hlow hw
    rw [hpv] at hrow
    cases hl : lookup t d with
    | none => simp [hl] at hrow
    | some h => rfl

theorem notifyData_of_not_accepts {r : Nat → Option PeerData} {d : PeerData}
    (h : notifyAccepts r d = false) : notifyData r d = r := by
  unfold notifyAccepts at h
  unfold notifyData
  split <;> simp_all

/-- Data that is not strictly newer than what is stored changes nothing. -/
theorem notifyData_not_newer {r : Nat → Option PeerData} {d stored : PeerData}
    (hs : r d.id = some stored) (ht : d.timestamp ≤ stored.timestamp) : notifyData r d = r := by
  unfold notifyData
  rw [hs]
  have : shouldReplace d stored = false := by simp [shouldReplace]; omega
  simp [this]

/-- What `notifyData` keeps for a node: the stored data unless the new one is strictly newer. -/
def newer (o : Option PeerData) (d : PeerData) : Option PeerData :=
  match o with
  | none => some d
  | some st => if d.timestamp > st.timestamp then some d else some st

theorem notifyData_apply (r : Nat → Option PeerData) (d : PeerData) (x : Nat) :
    notifyData r d x = if x = d.id then newer (r d.id) d else r x := by
  unfold notifyData newer shouldReplace
  cases hr : r d.id with
  | none => simp [upd]
  | some st =>
    by_cases hgt : d.timestamp > st.timestamp
    · simp [hgt, upd]
    · by_cases hx : x = d.id
      · simp [hgt, hx, hr]
      · simp [hgt, hx]

theorem newer_comm (o : Option PeerData) (a b : PeerData)
    (h : a.timestamp = b.timestamp → a = b) : newer (newer o a) b = newer (newer o b) a := by
  -- both updates are kept over what was stored: the later of the two wins, whatever the order
  have key : (if b.timestamp > a.timestamp then some b else some a) =
      if a.timestamp > b.timestamp then some a else some b := by
    rcases Nat.lt_trichotomy a.timestamp b.timestamp with hlt | heq | hgt
    · have : ¬ a.timestamp > b.timestamp := by omega
      simp [hlt, this]
    · rw [h heq]
    · have : ¬ b.timestamp > a.timestamp := by omega
      simp [hgt, this]
  cases o with
  | none => exact key
  | some st =>
    simp only [newer]
    by_cases h1 : a.timestamp > st.timestamp <;> by_cases h2 : b.timestamp > st.timestamp <;>
      simp only [h1, h2, if_true, if_false]
    · exact key
    · have : ¬ b.timestamp > a.timestamp := by omega
      simp [this]
    · have : ¬ a.timestamp > b.timestamp := by omega
      simp [this]

theorem notifyData_comm (r : Nat → Option PeerData) (a b : PeerData)
    (h : a.id = b.id → a.timestamp = b.timestamp → a = b) :
    notifyData (notifyData r a) b = notifyData (notifyData r b) a := by
  funext x
  simp only [notifyData_apply]
  by_cases hid : a.id = b.id
  · simp only [hid, if_true]
    by_cases hx : x = b.id
    · simp only [hx, if_true]
      exact newer_comm _ a b (h hid)
    · simp [hx]
  · have hid' : ¬ b.id = a.id := fun e => hid e.symm
    by_cases hxa : x = a.id
    · subst hxa
      simp [hid]
    · by_cases hxb : x = b.id
      · subst hxb
        simp [hid']
      · simp [hxa, hxb]

/-- **Order freedom**: the stored link state does not depend on the arrival order, provided two
different updates of one node never carry the same timestamp. -/
theorem foldl_notifyData_perm {l₁ l₂ : List PeerData} (hp : l₁.Perm l₂)
    (hd : ∀ a ∈ l₁, ∀ b ∈ l₁, a.id = b.id → a.timestamp = b.timestamp → a = b)
    (r : Nat → Option PeerData) : l₁.foldl notifyData r = l₂.foldl notifyData r :=
  hp.foldl_eq' (fun x hx y hy z => notifyData_comm z x y (hd x hx y hy)) r

theorem notify_received (s : State) (d : PeerData) :
    (s.notify d).received = notifyData s.received d := by
  unfold State.notify
  split
  · rfl
  · rename_i h
    exact (notifyData_of_not_accepts (by simpa using h)).symm

theorem received_foldl_notify (l : List PeerData) (s : State) :
    (l.foldl State.notify s).received = l.foldl notifyData s.received := by
  induction l generalizing s with
  | nil => rfl
  | cons d rest ih => rw [List.foldl_cons, ih, notify_received, List.foldl_cons]

theorem le_foldl_max (l : List PeerData) (m0 : Nat) :
    m0 ≤ l.foldl (fun m d => max m d.timestamp) m0 := by
  induction l generalizing m0 with
  | nil => exact Nat.le_refl _
  | cons d rest ih => exact Nat.le_trans (Nat.le_max_left _ _) (ih _)

/-- Folding `newer` from a stored entry: it stays unless some update is strictly newer, and then the
earliest update with the largest timestamp wins. -/
theorem foldl_newer_some (l : List PeerData) (st : PeerData) :
    l.foldl newer (some st) =
      if l.foldl (fun m d => max m d.timestamp) st.timestamp = st.timestamp then some st
      else l.find? (·.timestamp == l.foldl (fun m d => max m d.timestamp) st.timestamp) := by
  induction l generalizing st with
  | nil => simp
  | cons d rest ih =>
    simp only [List.foldl_cons, newer]
    by_cases hgt : d.timestamp > st.timestamp
    · have hm : max st.timestamp d.timestamp = d.timestamp := by omega
      have hge := le_foldl_max rest d.timestamp
      rw [if_pos hgt, ih]
      simp only [hm]
      generalize rest.foldl (fun m d => max m d.timestamp) d.timestamp = M at *
      have hne : M ≠ st.timestamp := by omega
      simp only [hne, if_false, List.find?_cons]
      by_cases he : M = d.timestamp
      · simp [he]
      · simp [he, beq_eq_false_iff_ne.mpr (Ne.symm he)]
    · have hm : max st.timestamp d.timestamp = st.timestamp := by omega
      have hge := le_foldl_max rest st.timestamp
      rw [if_neg hgt, ih]
      simp only [hm]
      generalize rest.foldl (fun m d => max m d.timestamp) st.timestamp = M at *
      by_cases he : M = st.timestamp
      · simp [he]
      · have : d.timestamp ≠ M := by omega
        simp [he, beq_eq_false_iff_ne.mpr this]

theorem foldl_newer_none (l : List PeerData) :
    l.foldl newer none = l.find? (·.timestamp == maxTs l) := by
  cases l with
  | nil => rfl
  | cons d rest =>
    have hge := le_foldl_max rest d.timestamp
    simp only [List.foldl_cons, newer, maxTs, Nat.zero_max, foldl_newer_some, List.find?_cons]
    generalize rest.foldl (fun m d => max m d.timestamp) d.timestamp = M at *
    by_cases he : M = d.timestamp
    · simp [he]
    · simp [he, beq_eq_false_iff_ne.mpr (Ne.symm he)]

theorem foldl_notifyData_apply (l : List PeerData) (r : Nat → Option PeerData) (id : Nat) :
    l.foldl notifyData r id = (l.filter (·.id == id)).foldl newer (r id) := by
  induction l generalizing r with
  | nil => rfl
  | cons d rest ih =>
    simp only [List.foldl_cons]
    rw [ih]
    by_cases hd : d.id = id
    · subst hd
      simp [notifyData_apply]
    · have : ¬ id = d.id := fun e => hd e.symm
      simp [hd, notifyData_apply, this]

/-- The model meets the link-state Spec the driver evaluates on the implementation. -/
theorem foldl_notifyData_expected (l : List PeerData) (id : Nat) :
    l.foldl notifyData (fun _ => none) id = expectedStored l id := by
  rw [foldl_notifyData_apply, foldl_newer_none]
  rfl

/-- … whatever the node's own id: starting empty, what is stored for a node is the earliest arrived
update among those with the maximal timestamp. -/
theorem notify_stores_newest (self : Nat) (l : List PeerData) (id : Nat) :
    (l.foldl State.notify (State.init self)).received id = expectedStored l id := by
  rw [received_foldl_notify]
  exact foldl_notifyData_expected l id

theorem filterCLAs_spec (clas : List Nat) : ∀ sent : List Nat,
    (filterCLAs sent clas).2 = sent ++ (filterCLAs sent clas).1 ∧
    (filterCLAs sent clas).1.Nodup ∧
    (∀ c ∈ (filterCLAs sent clas).1, c ∈ clas ∧ c ∉ sent) ∧
    (∀ c ∈ clas, c ∈ sent ∨ c ∈ (filterCLAs sent clas).1) := by
  induction clas with
  | nil => intro sent; simp [filterCLAs]
  | cons c cs ih =>
    intro sent
    by_cases hc : sent.contains c = true
    · obtain ⟨h1, h2, h3, h4⟩ := ih sent
      simp only [filterCLAs, hc, if_true]
      refine ⟨h1, h2, fun x hx => ⟨List.mem_cons_of_mem _ (h3 x hx).1, (h3 x hx).2⟩, ?_⟩
      intro x hx
      rcases List.mem_cons.mp hx with rfl | hx
      · left; simpa using hc
      · exact h4 x hx
    · obtain ⟨h1, h2, h3, h4⟩ := ih (sent ++ [c])
      have hc' : c ∉ sent := by simpa using hc
      simp only [filterCLAs, hc, Bool.false_eq_true, if_false]
      refine ⟨by rw [h1]; simp, ?_, ?_, ?_⟩
      · refine List.nodup_cons.mpr ⟨fun hmem => ?_, h2⟩
        exact (h3 c hmem).2 (by simp)
      · intro x hx
        rcases List.mem_cons.mp hx with rfl | hx
        · exact ⟨List.mem_cons_self, hc'⟩
        · refine ⟨List.mem_cons_of_mem _ (h3 x hx).1, fun hs => (h3 x hx).2 ?_⟩
          simp [hs]
      · intro x hx
        rcases List.mem_cons.mp hx with rfl | hx
        · right; exact List.mem_cons_self
        · rcases h4 x hx with h | h
          · rcases List.mem_append.mp h with h | h
            · exact Or.inl h
            · right; simp at h; subst h; exact List.mem_cons_self
          · exact Or.inr (List.mem_cons_of_mem _ h)

/-- A second attempt with the same senders transmits nothing. -/
theorem filterCLAs_again (sent clas : List Nat) :
    (filterCLAs (filterCLAs sent clas).2 clas).1 = [] := by
  obtain ⟨h1, _, _, h4⟩ := filterCLAs_spec clas sent
  obtain ⟨_, _, g3, _⟩ := filterCLAs_spec clas (filterCLAs sent clas).2
  apply List.eq_nil_iff_forall_not_mem.mpr
  intro x hx
  obtain ⟨hxc, hxs⟩ := g3 x hx
  apply hxs
  rw [h1]
  rcases h4 x hxc with h | h <;> simp [h]

theorem foldl_reportFailure_append (sent : List Nat) : ∀ (fs s : List Nat), (∀ f ∈ fs, f ∉ sent) →
    fs.foldl reportFailure (sent ++ s) = sent ++ fs.foldl reportFailure s := by
  intro fs
  induction fs with
  | nil => intro s _; rfl
  | cons f rest ih =>
    intro s h
    simp only [List.foldl_cons, reportFailure]
    rw [List.erase_append_right _ (h f List.mem_cons_self)]
    exact ih _ (fun x hx => h x (List.mem_cons_of_mem _ hx))

theorem mem_foldl_reportFailure : ∀ (fs s : List Nat), s.Nodup →
    ∀ x, x ∈ fs.foldl reportFailure s ↔ x ∈ s ∧ x ∉ fs := by
  intro fs
  induction fs with
  | nil => intro s h x; simp
  | cons f rest ih =>
    intro s h x
    simp only [List.foldl_cons, reportFailure]
    rw [ih (s.erase f) (h.erase f) x, h.mem_erase_iff]
    simp only [List.mem_cons, not_or]
    constructor
    · rintro ⟨⟨hne, hs⟩, hr⟩; exact ⟨hs, hne, hr⟩
    · rintro ⟨hs, hne, hr⟩; exact ⟨⟨hne, hs⟩, hr⟩

/-- **One forwarding run of a broadcast bundle**: the peers served are pairwise different and are
exactly the connected peers outside the sent list; afterwards the sent list holds what it held
plus the peers served successfully — the failed ones are out again. -/
theorem broadcastAttempt_spec (sent clas fails : List Nat) :
    (broadcastAttempt sent clas fails).1.Nodup ∧
    (∀ x, x ∈ (broadcastAttempt sent clas fails).1 ↔ x ∈ clas ∧ x ∉ sent) ∧
    (∀ x, x ∈ (broadcastAttempt sent clas fails).2 ↔
      x ∈ sent ∨ (x ∈ clas ∧ x ∉ sent ∧ x ∉ fails)) := by
  obtain ⟨h1, h2, h3, h4⟩ := filterCLAs_spec clas sent
  have hsend : ∀ x, x ∈ (filterCLAs sent clas).1 ↔ x ∈ clas ∧ x ∉ sent := by
    intro x
    constructor
    · exact h3 x
    · rintro ⟨hc, hs⟩
      exact (h4 x hc).resolve_left hs
  refine ⟨h2, hsend, ?_⟩
  intro x
  simp only [broadcastAttempt]
  rw [h1, foldl_reportFailure_append sent _ _ (by
    intro f hf
    exact (h3 f (List.mem_filter.mp hf).1).2)]
  have hm := mem_foldl_reportFailure ((filterCLAs sent clas).1.filter fails.contains) _ h2
  rw [List.mem_append, hm x, hsend x]
  simp only [List.mem_filter, List.contains_iff_mem, not_and]
  constructor
  · rintro (h | ⟨⟨hc, hs⟩, hnf⟩)
    · exact Or.inl h
    · exact Or.inr ⟨hc, hs, fun hf => hnf ((hsend x).mpr ⟨hc, hs⟩) hf⟩
  · rintro (h | ⟨hc, hs, hnf⟩)
    · exact Or.inl h
    · exact Or.inr ⟨⟨hc, hs⟩, fun _ hf => hnf hf⟩

/-- `L` is at least as good as `L'`: everything `L'` has labelled, `L` has labelled no worse. -/
def Better (L L' : Labels) : Prop := ∀ v d, L'.get v = some d → ∃ d', L.get v = some d' ∧ d' ≤ d

theorem Better.refl (L : Labels) : Better L L := fun _ d h => ⟨d, h, Int.le_refl d⟩

theorem Better.trans {A B C : Labels} (h₁ : Better A B) (h₂ : Better B C) : Better A C := by
  intro v d hd
  obtain ⟨d', hd', hle'⟩ := h₂ v d hd
  obtain ⟨d'', hd'', hle''⟩ := h₁ v d' hd'
  exact ⟨d'', hd'', by omega⟩

/-- Relaxing an arc either changes nothing — then its head is already labelled no worse than the arc
allows — or gives the head the label `tail + weight`, which beats the old one. -/
theorem relaxArc_cases (L : Labels) (a : Arc) :
    (relaxArc L a = L ∧
      ∀ du, L.get a.1 = some du → ∃ dv, L.get a.2.1 = some dv ∧ dv ≤ du + a.2.2) ∨
    (∃ du, L.get a.1 = some du ∧ relaxArc L a = ⟨upd L.get a.2.1 (some (du + a.2.2))⟩ ∧
      ∀ dv, L.get a.2.1 = some dv → du + a.2.2 < dv) := by
  unfold relaxArc
  cases hu : L.get a.1 with
  | none => exact .inl ⟨rfl, fun du h => by cases h⟩
  | some du =>
    cases hv : L.get a.2.1 with
    | none => exact .inr ⟨du, rfl, rfl, fun dv h => by cases h⟩
    | some dv =>
      simp only
      split
      · next hlt => exact .inr ⟨du, rfl, rfl, fun dv' h => by cases h; exact hlt⟩
      · next hge => exact .inl ⟨rfl, fun du' h => by cases h; exact ⟨dv, rfl, by omega⟩⟩

theorem upd_same {α : Type} (f : Nat → α) (k : Nat) (a : α) : upd f k a k = a := if_pos rfl

theorem upd_ne {α : Type} (f : Nat → α) {k x : Nat} (a : α) (h : x ≠ k) : upd f k a x = f x := if_neg h

theorem relaxArc_better (L : Labels) (a : Arc) : Better (relaxArc L a) L := by
  intro v d hd
  rcases relaxArc_cases L a with ⟨e, _⟩ | ⟨du, _, e, hlt⟩ <;> rw [e]
  · exact ⟨d, hd, Int.le_refl d⟩
  · by_cases hva : v = a.2.1
    · subst hva
      exact ⟨du + a.2.2, upd_same .., Int.le_of_lt (hlt d hd)⟩
    · exact ⟨d, by rw [← hd]; exact upd_ne _ _ hva, Int.le_refl d⟩

theorem relaxRound_better (arcs : List Arc) (L : Labels) : Better (relaxRound arcs L) L := by
  unfold relaxRound
  induction arcs generalizing L with
  | nil => exact Better.refl L
  | cons a rest ih => exact (ih (relaxArc L a)).trans (relaxArc_better L a)

theorem bfRounds_better (arcs : List Arc) (k : Nat) (L : Labels) : Better (bfRounds arcs k L) L := by
  induction k generalizing L with
  | zero => exact Better.refl L
  | succ k ih => exact (ih _).trans (relaxRound_better arcs L)

theorem relaxArc_arc (L : Labels) (a : Arc) {du : Int} (hu : L.get a.1 = some du) :
    ∃ dx, (relaxArc L a).get a.2.1 = some dx ∧ dx ≤ du + a.2.2 := by
  rcases relaxArc_cases L a with ⟨e, h⟩ | ⟨du', hu', e, _⟩ <;> rw [e]
  · exact h du hu
  · rw [hu] at hu'
    cases hu'
    exact ⟨du + a.2.2, upd_same .., Int.le_refl _⟩

/-- After a full round every arc whose tail was labelled is relaxed w.r.t. the old tail label. -/
theorem relaxRound_arc (arcs : List Arc) (a : Arc) (ha : a ∈ arcs) (L : Labels) {du : Int}
    (hu : L.get a.1 = some du) :
    ∃ dx, (relaxRound arcs L).get a.2.1 = some dx ∧ dx ≤ du + a.2.2 := by
  unfold relaxRound
  induction arcs generalizing L du with
  | nil => cases ha
  | cons b rest ih =>
    simp only [List.foldl_cons]
    rcases List.mem_cons.mp ha with rfl | hmem
    · obtain ⟨dx, hdx, hle⟩ := relaxArc_arc L a hu
      obtain ⟨dx', hdx', hle'⟩ := relaxRound_better rest (relaxArc L a) _ _ hdx
      exact ⟨dx', hdx', by omega⟩
    · obtain ⟨du', hdu', hle'⟩ := relaxArc_better L b _ _ hu
      obtain ⟨dx, hdx, hle⟩ := ih hmem (relaxArc L b) hdu'
      exact ⟨dx, hdx, by omega⟩

/-- Total cost of a chain of arcs. -/
def pcost : List Arc → Int
  | [] => 0
  | a :: p => a.2.2 + pcost p

/-- `p` is a chain of arcs of `g` leading from `u` to `v`. -/
def IsPath (g : Graph) : Nat → List Arc → Nat → Prop
  | u, [], v => u = v
  | u, a :: p, v => a ∈ g.arcs ∧ a.1 = u ∧ IsPath g a.2.1 p v

theorem walk_path {g : Graph} {u v : Nat} {c : Int} (h : Walk g u v c) :
    ∃ p, IsPath g u p v ∧ pcost p = c := by
  induction h with
  | nil u => exact ⟨[], rfl, rfl⟩
  | @cons u v x w c ha _ ih =>
    obtain ⟨p, hp, hc⟩ := ih
    exact ⟨(u, v, w) :: p, ⟨ha, rfl, hp⟩, by simp [pcost, hc]⟩

/-- After `k` rounds every path of at most `k` arcs from a labelled vertex is accounted for. -/
theorem bfRounds_path (g : Graph) :
    ∀ (p : List Arc) (k : Nat) (L : Labels) (u v : Nat) (du : Int), p.length ≤ k →
      L.get u = some du → IsPath g u p v →
      ∃ d, (bfRounds g.arcs k L).get v = some d ∧ d ≤ du + pcost p := by
  intro p
  induction p with
  | nil =>
    intro k L u v du _ hu hp
    simp only [IsPath] at hp
    subst hp
    obtain ⟨d, hd, hle⟩ := bfRounds_better g.arcs k L _ _ hu
    exact ⟨d, hd, by simp [pcost]; omega⟩
  | cons a p ih =>
    intro k L u v du hk hu hp
    obtain ⟨ha, hau, hp⟩ := hp
    cases k with
    | zero => simp at hk
    | succ k =>
      subst hau
      obtain ⟨dx, hdx, hle⟩ := relaxRound_arc g.arcs a ha L hu
      obtain ⟨d, hd, hle'⟩ := ih k (relaxRound g.arcs L) a.2.1 v dx (by simpa using hk) hdx hp
      exact ⟨d, hd, by simp only [pcost]; omega⟩

/-- The vertices of a path, start first. -/
def verts (u : Nat) (p : List Arc) : List Nat := u :: p.map (·.2.1)

theorem verts_cons (u : Nat) (a : Arc) (p : List Arc) : verts u (a :: p) = u :: verts a.2.1 p := rfl

theorem pcost_nonneg {g : Graph} (hw : ∀ e ∈ g.arcs, 0 ≤ e.2.2) :
    ∀ {p : List Arc} {u v : Nat}, IsPath g u p v → 0 ≤ pcost p := by
  intro p
  induction p with
  | nil => intro u v _; simp [pcost]
  | cons a p ih =>
    intro u v hp
    obtain ⟨ha, _, hp⟩ := hp
    have := hw a ha
    have := ih hp
    simp only [pcost]; omega

/-- From any vertex on a path, the rest of the path: no more expensive, vertices a sublist. -/
theorem path_suffix {g : Graph} (hw : ∀ e ∈ g.arcs, 0 ≤ e.2.2) :
    ∀ (q : List Arc) (x v y : Nat), IsPath g x q v → y ∈ verts x q →
      ∃ q₂, IsPath g y q₂ v ∧ pcost q₂ ≤ pcost q ∧ (verts y q₂).Sublist (verts x q) := by
  intro q
  induction q with
  | nil =>
    intro x v y hp hy
    simp [verts] at hy
    subst hy
    exact ⟨[], hp, Int.le_refl _, List.Sublist.refl _⟩
  | cons a q ih =>
    intro x v y hp hy
    by_cases hyx : y = x
    · subst hyx
      exact ⟨a :: q, hp, Int.le_refl _, List.Sublist.refl _⟩
    · obtain ⟨ha, _, hp'⟩ := hp
      rw [verts_cons] at hy
      have hy' : y ∈ verts a.2.1 q := (List.mem_cons.mp hy).resolve_left hyx
      obtain ⟨q₂, hq₂, hc, hs⟩ := ih a.2.1 v y hp' hy'
      have := hw a ha
      refine ⟨q₂, hq₂, by simp only [pcost]; omega, ?_⟩
      rw [verts_cons]
      exact List.Sublist.cons _ hs

/-- Every path can be replaced by one that repeats no vertex and costs no more (weights ≥ 0). -/
theorem path_simple {g : Graph} (hw : ∀ e ∈ g.arcs, 0 ≤ e.2.2) :
    ∀ (p : List Arc) (u v : Nat), IsPath g u p v →
      ∃ q, IsPath g u q v ∧ pcost q ≤ pcost p ∧ (verts u q).Nodup := by
  intro p
  induction p with
  | nil => intro u v hp; exact ⟨[], hp, Int.le_refl _, by simp [verts]⟩
  | cons a p ih =>
    intro u v hp
    obtain ⟨ha, hau, hp'⟩ := hp
    obtain ⟨q', hq', hc', hn'⟩ := ih a.2.1 v hp'
    by_cases hmem : u ∈ verts a.2.1 q'
    · obtain ⟨q₂, hq₂, hc₂, hs⟩ := path_suffix hw q' a.2.1 v u hq' hmem
      have := hw a ha
      exact ⟨q₂, hq₂, by simp only [pcost]; omega, hn'.sublist hs⟩
    · refine ⟨a :: q', ⟨ha, hau, hq'⟩, by simp only [pcost]; omega, ?_⟩
      rw [verts_cons]
      exact List.nodup_cons.mpr ⟨hmem, hn'⟩

/-- Pigeonhole: a duplicate-free list of numbers below `n` has at most `n` elements. -/
theorem nodup_length_le (n : Nat) (l : List Nat) (hn : l.Nodup) (hl : ∀ x ∈ l, x < n) : l.length ≤ n := by
  simpa using hn.length_le_of_subset (l₂ := List.range n) fun x hx => List.mem_range.2 (hl x hx)

theorem verts_lt {g : Graph} (hwf : ∀ e ∈ g.arcs, e.2.1 < g.n) :
    ∀ {p : List Arc} {u v : Nat}, u < g.n → IsPath g u p v → ∀ x ∈ verts u p, x < g.n := by
  intro p
  induction p with
  | nil => intro u v hu _ x hx; simp [verts] at hx; subst hx; exact hu
  | cons a p ih =>
    intro u v hu hp
    obtain ⟨ha, _, hp'⟩ := hp
    rw [verts_cons]
    exact List.forall_mem_cons.mpr ⟨hu, ih (hwf a ha) hp'⟩

/-- Every label is the cost of some walk from `s`. -/
def Sound (g : Graph) (s : Nat) (L : Labels) : Prop := ∀ v d, L.get v = some d → Walk g s v d

theorem relaxArc_sound {g : Graph} {s : Nat} {L : Labels} (hs : Sound g s L) {a : Arc} (ha : a ∈ g.arcs) :
    Sound g s (relaxArc L a) := by
  rcases relaxArc_cases L a with ⟨e, _⟩ | ⟨du, hu, e, _⟩ <;> rw [e]
  · exact hs
  · intro v d hd
    by_cases hva : v = a.2.1
    · subst hva
      rw [show (⟨upd L.get a.2.1 (some (du + a.2.2))⟩ : Labels).get a.2.1 = some (du + a.2.2) from
        upd_same ..] at hd
      cases hd
      exact Walk.trans (hs a.1 du hu) (Walk.single ha)
    · exact hs v d (by rw [← hd]; exact (upd_ne _ _ hva).symm)

theorem relaxRound_sound {g : Graph} {s : Nat} (arcs : List Arc) (hsub : ∀ a ∈ arcs, a ∈ g.arcs)
    {L : Labels} (hs : Sound g s L) : Sound g s (relaxRound arcs L) := by
  unfold relaxRound
  induction arcs generalizing L with
  | nil => exact hs
  | cons a rest ih =>
    exact ih (fun b hb => hsub b (List.mem_cons_of_mem _ hb)) (relaxArc_sound hs (hsub a List.mem_cons_self))

theorem bfRounds_sound {g : Graph} {s : Nat} (k : Nat) {L : Labels} (hs : Sound g s L) :
    Sound g s (bfRounds g.arcs k L) := by
  induction k generalizing L with
  | zero => exact hs
  | succ k ih => exact ih (relaxRound_sound g.arcs (fun _ h => h) hs)

theorem bf_sound (g : Graph) (s : Nat) : Sound g s (bf g s) := by
  apply bfRounds_sound
  intro v d hd
  simp only [bfInit] at hd
  split at hd
  · rename_i h; subst h; cases hd; exact Walk.nil _
  · cases hd

/-- **Bellman–Ford is exact** (weights ≥ 0, arcs inside the vertex set): after `n` rounds the label
of `v` is below the cost of every walk from `s` to `v`. -/
theorem bf_complete {g : Graph} (hw : ∀ e ∈ g.arcs, 0 ≤ e.2.2) (hwf : ∀ e ∈ g.arcs, e.2.1 < g.n)
    {s : Nat} (hs : s < g.n) {v : Nat} {c : Int} (h : Walk g s v c) :
    ∃ d, (bf g s).get v = some d ∧ d ≤ c := by
  obtain ⟨p, hp, hc⟩ := walk_path h
  obtain ⟨q, hq, hcq, hnd⟩ := path_simple hw p s v hp
  have hlen : (verts s q).length ≤ g.n := nodup_length_le g.n _ hnd (verts_lt hwf hs hq)
  have hql : q.length ≤ g.n := by simp [verts] at hlen; omega
  obtain ⟨d, hd, hle⟩ := bfRounds_path g q g.n (bfInit s) s v 0 hql (by simp [bfInit]) hq
  exact ⟨d, hd, by omega⟩

theorem bf_isDist {g : Graph} (hw : ∀ e ∈ g.arcs, 0 ≤ e.2.2) (hwf : ∀ e ∈ g.arcs, e.2.1 < g.n)
    {s : Nat} (hs : s < g.n) {v : Nat} {d : Int} (h : (bf g s).get v = some d) : IsDist g s v d := by
  refine ⟨bf_sound g s v d h, ?_⟩
  intro c hc
  obtain ⟨d', hd', hle⟩ := bf_complete hw hwf hs hc
  rw [h] at hd'
  cases hd'
  exact hle

theorem bf_none_iff {g : Graph} (hw : ∀ e ∈ g.arcs, 0 ≤ e.2.2) (hwf : ∀ e ∈ g.arcs, e.2.1 < g.n)
    {s : Nat} (hs : s < g.n) (v : Nat) : (bf g s).get v = none ↔ ¬ Reachable g s v := by
  constructor
  · rintro hnone ⟨c, hc⟩
    obtain ⟨d, hd, _⟩ := bf_complete hw hwf hs hc
    rw [hnone] at hd; cases hd
  · intro hnr
    cases h : (bf g s).get v with
    | none => rfl
    | some d => exact absurd ⟨d, bf_sound g s v d h⟩ hnr

theorem lookup_filterMap_key (F : Nat → Option Nat) (d : Nat) : ∀ l : List Nat,
    lookup (l.filterMap fun x => if x = 0 then none else (F x).map fun h => (x, h)) d =
      if d ∈ l ∧ d ≠ 0 then F d else none := by
  intro l
  induction l with
  | nil => simp [lookup]
  | cons x rest ih =>
    rw [List.filterMap_cons]
    by_cases hxd : x = d
    · -- the entry for `d` itself, if there is one, is found first
      subst hxd
      by_cases hx0 : x = 0
      · subst hx0; simpa using ih
      · cases hF : F x with
        | none => simp [hx0, hF, ih]
        | some h => simp [hx0, lookup]
    · -- an entry for another key is skipped
      have hmem : (if d ∈ x :: rest ∧ d ≠ 0 then F d else none) =
          if d ∈ rest ∧ d ≠ 0 then F d else none := by simp [Ne.symm hxd]
      rw [hmem, ← ih]
      by_cases hx0 : x = 0
      · simp [hx0]
      · cases F x <;> simp [hx0, lookup, hxd]

/-- A table listing, for every vertex `d ≠ 0`, the next hop `F d`, has the property as soon as every
`F d` is a first hop of a least-cost walk and is defined for every reachable `d`. -/
theorem minCost_of_key {g : Graph} (hwf : ∀ e ∈ g.arcs, e.2.1 < g.n) (F : Nat → Option Nat)
    (key : ∀ d, d < g.n → d ≠ 0 →
      (∀ h, F d = some h → ∃ w c, (0, h, w) ∈ g.arcs ∧ Walk g h d c ∧ IsDist g 0 d (w + c)) ∧
      (Reachable g 0 d → (F d).isSome = true)) :
    MinCostNextHop g
      (lookup ((List.range g.n).filterMap fun d => if d = 0 then none else (F d).map fun h => (d, h))) := by
  have hl : (lookup ((List.range g.n).filterMap fun d =>
      if d = 0 then none else (F d).map fun h => (d, h))) = fun d => if d < g.n ∧ d ≠ 0 then F d else none := by
    funext d
    rw [lookup_filterMap_key F d (List.range g.n)]
    simp [List.mem_range]
  rw [hl]
  refine minCost_of_rows hwf _ (fun d h hh => ?_) fun d hlt hd0 => ?_
  · by_cases hd : d < g.n ∧ d ≠ 0
    · exact ⟨hd.2, hd.1⟩
    · simp only [hd, if_false] at hh; cases hh
  · simp only [hlt, hd0, ne_eq, not_false_eq_true, and_self, if_true]
    exact key d hlt hd0

theorem mem_admissibleD {D : Nat → Nat → Option Int} {g : Graph} {d h : Nat} :
    h ∈ admissibleD D g d ↔
      ∃ dd w c, D 0 d = some dd ∧ (0, h, w) ∈ g.arcs ∧ D h d = some c ∧ w + c = dd := by
  unfold admissibleD
  cases h0 : D 0 d with
  | none => simp
  | some dd =>
    simp only [List.mem_filterMap]
    constructor
    · rintro ⟨⟨x, y, w⟩, hmem, hsel⟩
      simp only at hsel
      split at hsel
      · rename_i hx; subst hx
        cases hc : D y d with
        | none => simp [hc] at hsel
        | some c =>
          simp only [hc] at hsel
          split at hsel
          · rename_i hsum
            cases hsel
            exact ⟨dd, w, c, rfl, hmem, hc, hsum⟩
          · cases hsel
      · cases hsel
    · rintro ⟨dd', w, c, hdd, hmem, hc, hsum⟩
      cases hdd
      exact ⟨(0, h, w), hmem, by simp [hc, hsum]⟩

/-- **The reference table is right**: with shortest distances from Bellman–Ford, the first
admissible next hop for every reachable destination satisfies the property's statement. -/
theorem refTable_correct (g : Graph) (hw : ∀ e ∈ g.arcs, 0 ≤ e.2.2)
    (hwf2 : ∀ e ∈ g.arcs, e.2.1 < g.n) (hn : 0 < g.n) :
    MinCostNextHop g (lookup (refTable g)) := by
  refine minCost_of_key hwf2 (fun d => (admissible g d).head?) fun d _ hd0 => ⟨?_, ?_⟩
  · intro h hh
    obtain ⟨dd, w, c, hdd, harc, hc, hsum⟩ := mem_admissibleD.mp (List.mem_of_mem_head? hh)
    refine ⟨w, c, harc, bf_sound g h d c hc, ?_⟩
    rw [hsum]
    exact bf_isDist hw hwf2 hn hdd
  · -- a shortest walk starts with an admissible arc
    rintro ⟨c, hwalk⟩
    obtain ⟨dd, hdd, _⟩ := bf_complete hw hwf2 hn hwalk
    have hdist := bf_isDist hw hwf2 hn hdd
    refine List.isSome_head?.mpr ?_
    cases hdist.1 with
    | nil => exact absurd rfl hd0
    | @cons _ h _ w c' ha hrest =>
      obtain ⟨c'', hc'', hle⟩ := bf_complete hw hwf2 (hwf2 _ ha) hrest
      have := hdist.2 _ (Walk.cons ha (bf_sound g h d c'' hc''))
      exact List.ne_nil_of_mem (mem_admissibleD.mpr ⟨w + c', w, c'', hdd, ha, hc'', by omega⟩)


theorem mem_insertWalk (dist : Nat → Int) (v x : Nat) : ∀ l : List Nat,
    x ∈ insertWalk dist v l ↔ x = v ∨ x ∈ l := by
  intro l
  induction l with
  | nil => simp [insertWalk]
  | cons c rest ih =>
    unfold insertWalk
    split
    · simp only [List.mem_cons, ih]
      exact or_left_comm
    · split
      · rename_i hcv
        subst hcv
        exact ⟨Or.inr, fun h => h.elim (fun h => h ▸ List.mem_cons_self) id⟩
      · exact List.mem_cons

theorem mem_pushOrdered (dist : Nat → Int) (l : List Nat) (v x : Nat) :
    x ∈ pushOrdered dist l v ↔ x = v ∨ x ∈ l := by
  unfold pushOrdered
  split
  · rename_i h
    rw [List.getLast?_eq_none_iff.mp h]
    simp
  · split
    · simp only [List.mem_append, List.mem_singleton]
      exact or_comm
    · exact mem_insertWalk dist v x l

theorem mem_adjOf {arcs : List Arc} {u v : Nat} {w : Int} :
    (v, w) ∈ adjOf arcs u ↔ (u, v, w) ∈ arcs := by
  unfold adjOf
  simp only [List.mem_filterMap]
  constructor
  · rintro ⟨⟨x, y, z⟩, hmem, hsel⟩
    simp only at hsel
    split at hsel
    · rename_i hx; subst hx; cases hsel; exact hmem
    · cases hsel
  · intro h
    exact ⟨(u, v, w), h, by simp⟩

/-- Every labelled vertex other than `src` has a predecessor arc along which (label, stamp) decreases. -/
def Descends (g : Graph) (src : Nat) (dist : Nat → Int) (pred : Nat → Option Nat) (stamp : Nat → Nat) :
    Prop :=
  ∀ v, v ≠ src → dist v < infDist → ∃ u w, pred v = some u ∧ (u, v, w) ∈ g.arcs ∧
    (dist u + w < dist v ∨ (dist u + w = dist v ∧ stamp u < stamp v))

/-- The predecessor pointers cannot form a cycle: along `pred` the pair (label, stamp) decreases
lexicographically, where the ghost `stamp` records the order of the label updates. (With zero-cost
arcs the labels alone need not decrease.) It also says that the predecessor arc fits the labels:
`dist (pred v) + w ≤ dist v`. -/
def Acyc (g : Graph) (src : Nat) (dist : Nat → Int) (pred : Nat → Option Nat) : Prop :=
  ∃ (stamp : Nat → Nat) (bound : Nat), (∀ x, stamp x < bound) ∧ Descends g src dist pred stamp

/-- The invariant of the loop that does not mention the work list's completeness. -/
structure LabelInv (g : Graph) (src dest : Nat) (s : LibSt) : Prop where
  dsrc : s.dist src = 0
  psrc : s.pred src = none
  lo : ∀ v, 0 ≤ s.dist v
  hi : ∀ v, s.dist v ≤ infDist
  snd : ∀ v, s.dist v < infDist → Walk g src v (s.dist v)
  acy : Acyc g src s.dist s.pred
  bst : s.best = if s.visitedDest then s.dist dest else maxInt64
  vis : s.visitedDest = true ↔ s.dist dest < infDist
  lst : ∀ u ∈ s.visiting, s.dist u < infDist ∧ u ≠ dest

theorem LabelInv.prd {g : Graph} {src dest : Nat} {s : LibSt} (h : LabelInv g src dest s) :
    ∀ v, v ≠ src → s.dist v < infDist →
      ∃ u w, s.pred v = some u ∧ (u, v, w) ∈ g.arcs ∧ s.dist u + w ≤ s.dist v := by
  obtain ⟨stamp, bound, _, hch⟩ := h.acy
  intro v hvs hv
  obtain ⟨u, w, hp, ha, hd⟩ := hch v hvs hv
  refine ⟨u, w, hp, ha, ?_⟩
  rcases hd with hd | ⟨hd, _⟩ <;> omega

/-- A relaxation keeps the predecessor structure acyclic: the relaxed vertex gets a fresh stamp. -/
theorem acyc_relax {g : Graph} {src : Nat} {dist : Nat → Int} {pred : Nat → Option Nat}
    (h : Acyc g src dist pred) {cur v : Nat} {w : Int} (ha : (cur, v, w) ∈ g.arcs)
    (hlt : dist cur + w < dist v) (hvcur : v ≠ cur) :
    Acyc g src (upd dist v (dist cur + w)) (upd pred v (some cur)) := by
  obtain ⟨stamp, bound, hb, hch⟩ := h
  refine ⟨upd stamp v bound, bound + 1, ?_, ?_⟩
  · intro x
    simp only [upd]
    split
    · omega
    · have := hb x; omega
  · intro x hxs hx
    by_cases hxv : x = v
    · subst hxv
      refine ⟨cur, w, by simp [upd], ha, Or.inr ⟨?_, ?_⟩⟩
      · simp [upd, hvcur.symm]
      · have := hb cur
        simp [upd, hvcur.symm]; exact this
    · simp only [upd, hxv, if_false] at hx ⊢
      obtain ⟨u, w', hp, hau, hd⟩ := hch x hxs hx
      refine ⟨u, w', hp, hau, ?_⟩
      by_cases huv : u = v
      · subst huv
        left
        simp only [if_true]
        rcases hd with hd | ⟨hd, _⟩ <;> omega
      · simp only [huv, if_false]
        exact hd

/-- `u` needs no (further) expansion: it is pruned, or all its arcs are relaxed. -/
def Done (g : Graph) (s : LibSt) (u : Nat) : Prop :=
  s.best ≤ s.dist u ∨ ∀ v w, (u, v, w) ∈ g.arcs → s.dist v ≤ s.dist u + w

theorem infDist_lt_max : infDist < maxInt64 := by decide

theorem Done.mono {g : Graph} {s s' : LibSt} {u : Nat} (h : Done g s u)
    (hu : s'.dist u = s.dist u) (hd : ∀ x, s'.dist x ≤ s.dist x) (hb : s'.best ≤ s.best) :
    Done g s' u := by
  rcases h with h | h
  · left; rw [hu]; omega
  · right
    intro v w ha
    have := h v w ha
    have := hd v
    rw [hu]; omega

/-- Sum of the labels of the vertices `0 … n-1` (labels are ≥ 0 under the invariant). -/
def labSum (n : Nat) (dist : Nat → Int) : Nat := ((List.range n).map fun v => (dist v).toNat).sum

theorem labSum_succ (n : Nat) (dist : Nat → Int) :
    labSum (n + 1) dist = labSum n dist + (dist n).toNat := by
  simp [labSum, List.range_succ]

theorem labSum_congr {n : Nat} {d d' : Nat → Int} (h : ∀ x, x < n → d' x = d x) :
    labSum n d' = labSum n d := by
  induction n with
  | zero => rfl
  | succ n ih =>
    rw [labSum_succ, labSum_succ, ih (fun x hx => h x (by omega)), h n (by omega)]

theorem labSum_lt {n : Nat} {d d' : Nat → Int} {v : Nat} (hv : v < n)
    (hsame : ∀ x, x ≠ v → d' x = d x) (hlt : (d' v).toNat < (d v).toNat) :
    labSum n d' + 1 ≤ labSum n d := by
  induction n with
  | zero => omega
  | succ n ih =>
    rw [labSum_succ, labSum_succ]
    by_cases hvn : v = n
    · subst hvn
      rw [labSum_congr (n := v) (d := d) (d' := d') (fun x hx => hsame x (by omega))]
      omega
    · have := ih (by omega)
      rw [hsame n (fun e => hvn e.symm)]
      omega

theorem length_insertWalk_le (dist : Nat → Int) (v : Nat) : ∀ l : List Nat,
    (insertWalk dist v l).length ≤ l.length + 1 := by
  intro l
  induction l with
  | nil => simp [insertWalk]
  | cons c rest ih =>
    unfold insertWalk
    split
    · simp; omega
    · split <;> simp

theorem length_pushOrdered_le (dist : Nat → Int) (l : List Nat) (v : Nat) :
    (pushOrdered dist l v).length ≤ l.length + 1 := by
  unfold pushOrdered
  split
  · simp
  · split
    · simp
    · exact length_insertWalk_le dist v l

/-- The termination measure: twice the label sum plus the length of the work list. A relaxation lowers
the sum by at least one and lengthens the list by at most one, and every iteration pops one element, so the
measure drops whatever the factor (1 would do); the 2 is the one in the model's `libFuel`, which bounds
`phi` at the start (`phi_libInit_le`). -/
def phi (n : Nat) (s : LibSt) : Nat := 2 * labSum n s.dist + s.visiting.length

theorem phi_relax {n : Nat} {s t : LibSt} {v : Nat} (hv : v < n)
    (hsame : ∀ x, x ≠ v → t.dist x = s.dist x) (hlt : (t.dist v).toNat < (s.dist v).toNat)
    (hlen : t.visiting.length ≤ s.visiting.length + 1) : phi n t ≤ phi n s := by
  have := labSum_lt hv hsame hlt
  unfold phi
  omega

section
variable (dest cur v : Nat) (w : Int) (s : LibSt)

theorem relaxOne_dist : (relaxOne dest cur v w s).dist = upd s.dist v (s.dist cur + w) := by
  unfold relaxOne; split <;> rfl

theorem relaxOne_pred : (relaxOne dest cur v w s).pred = upd s.pred v (some cur) := by
  unfold relaxOne; split <;> rfl

theorem relaxOne_oldCurrent : (relaxOne dest cur v w s).oldCurrent = s.oldCurrent := by
  unfold relaxOne; split <;> rfl

theorem relaxOne_dest (h : v = dest) : relaxOne dest cur v w s =
    { s with dist := upd s.dist v (s.dist cur + w), pred := upd s.pred v (some cur),
             best := s.dist cur + w, visitedDest := true } := by
  simp only [relaxOne, h, if_true]

theorem relaxOne_other (h : v ≠ dest) : relaxOne dest cur v w s =
    { s with dist := upd s.dist v (s.dist cur + w), pred := upd s.pred v (some cur),
             visiting := pushOrdered (upd s.dist v (s.dist cur + w)) s.visiting v } := by
  simp only [relaxOne, h, if_false]

theorem mem_relaxOne_visiting (x : Nat) :
    x ∈ (relaxOne dest cur v w s).visiting ↔ (x = v ∧ v ≠ dest) ∨ x ∈ s.visiting := by
  by_cases h : v = dest
  · rw [relaxOne_dest _ _ _ _ _ h]; simp [h]
  · rw [relaxOne_other _ _ _ _ _ h]; simp [mem_pushOrdered, h]

theorem length_relaxOne_visiting :
    (relaxOne dest cur v w s).visiting.length ≤ s.visiting.length + 1 := by
  by_cases h : v = dest
  · rw [relaxOne_dest _ _ _ _ _ h]; exact Nat.le_succ _
  · rw [relaxOne_other _ _ _ _ _ h]; exact length_pushOrdered_le _ _ _
end

section
variable {g : Graph} {src dest : Nat}

/-- Lowering the label of `v` through the arc `cur → v` keeps the invariant. -/
theorem relaxOne_core (hw : ∀ e ∈ g.arcs, 0 ≤ e.2.2) {s : LibSt} (hI : LabelInv g src dest s)
    {cur v : Nat} {w : Int} (hcur : s.dist cur < infDist) (ha : (cur, v, w) ∈ g.arcs)
    (hlt : s.dist cur + w < s.dist v) :
    LabelInv g src dest (relaxOne dest cur v w s) ∧ v ≠ cur ∧
      ∀ x, (relaxOne dest cur v w s).dist x ≤ s.dist x := by
  have hw0 : 0 ≤ w := hw _ ha
  have hlo := hI.lo cur
  have hvcur : v ≠ cur := by intro e; subst e; omega
  have hvsrc : v ≠ src := by intro e; subst e; rw [hI.dsrc] at hlt; omega
  have hnew : s.dist cur + w < infDist := by have := hI.hi v; omega
  have hle : ∀ x, (relaxOne dest cur v w s).dist x ≤ s.dist x ∧
      0 ≤ (relaxOne dest cur v w s).dist x := by
    intro x; rw [relaxOne_dist]
    by_cases hx : x = v
    · subst hx; rw [upd_same]; omega
    · rw [upd_ne _ _ hx]; exact ⟨Int.le_refl _, hI.lo x⟩
  refine ⟨⟨?_, ?_, fun x => (hle x).2, fun x => Int.le_trans (hle x).1 (hI.hi x), ?_, ?_, ?_, ?_, ?_⟩,
    hvcur, fun x => (hle x).1⟩
  · rw [relaxOne_dist, upd_ne _ _ hvsrc.symm, hI.dsrc]
  · rw [relaxOne_pred, upd_ne _ _ hvsrc.symm, hI.psrc]
  · intro x hx
    rw [relaxOne_dist] at hx ⊢
    by_cases hxv : x = v
    · subst hxv; rw [upd_same]; exact Walk.trans (hI.snd cur hcur) (Walk.single ha)
    · rw [upd_ne _ _ hxv] at hx ⊢; exact hI.snd x hx
  · rw [relaxOne_dist, relaxOne_pred]; exact acyc_relax hI.acy ha hlt hvcur
  · rw [relaxOne_dist]
    by_cases hvd : v = dest
    · rw [relaxOne_dest _ _ _ _ _ hvd, ← hvd, upd_same]; rfl
    · rw [relaxOne_other _ _ _ _ _ hvd, upd_ne _ _ (Ne.symm hvd)]; exact hI.bst
  · rw [relaxOne_dist]
    by_cases hvd : v = dest
    · rw [relaxOne_dest _ _ _ _ _ hvd, ← hvd, upd_same]; exact ⟨fun _ => hnew, fun _ => rfl⟩
    · rw [relaxOne_other _ _ _ _ _ hvd, upd_ne _ _ (Ne.symm hvd)]; exact hI.vis
  · intro u hu
    rcases (mem_relaxOne_visiting dest cur v w s u).mp hu with ⟨rfl, hud⟩ | hus
    · rw [relaxOne_dist, upd_same]; exact ⟨hnew, hud⟩
    · exact ⟨Int.lt_of_le_of_lt (hle u).1 (hI.lst u hus).1, (hI.lst u hus).2⟩

theorem relaxOne_best_le {s : LibSt} (hI : LabelInv g src dest s) {cur v : Nat} {w : Int}
    (hlt : s.dist cur + w < s.dist v) : (relaxOne dest cur v w s).best ≤ s.best := by
  by_cases h : v = dest
  · rw [relaxOne_dest _ _ _ _ _ h]
    show s.dist cur + w ≤ s.best
    rw [hI.bst]
    split
    · subst h; omega
    · have := hI.hi v; have := infDist_lt_max; omega
  · rw [relaxOne_other _ _ _ _ _ h]; exact Int.le_refl _

/-- The inner loop over the arcs of `cur`: never the loop error, keeps the invariant, relaxes every
listed arc, only lowers labels, and does not raise the termination measure. -/
theorem relaxArcs_inv (hw : ∀ e ∈ g.arcs, 0 ≤ e.2.2) (hwf : ∀ e ∈ g.arcs, e.2.1 < g.n) {cur : Nat} :
    ∀ (todo : List (Nat × Int)) (s : LibSt), LabelInv g src dest s → s.dist cur < infDist →
      (∀ p ∈ todo, (cur, p.1, p.2) ∈ g.arcs) →
      (∀ u, s.dist u < infDist → u ≠ dest → u ≠ cur → u ∈ s.visiting ∨ Done g s u) →
      ∃ s', relaxArcs dest cur todo s = .ok s' ∧ LabelInv g src dest s' ∧ s'.dist cur = s.dist cur ∧
        (∀ x, s'.dist x ≤ s.dist x) ∧ s'.oldCurrent = s.oldCurrent ∧
        (∀ u, s'.dist u < infDist → u ≠ dest → u ≠ cur → u ∈ s'.visiting ∨ Done g s' u) ∧
        (∀ p ∈ todo, s'.dist p.1 ≤ s'.dist cur + p.2) ∧ phi g.n s' ≤ phi g.n s := by
  intro todo
  induction todo with
  | nil =>
    intro s hI _ _ hset
    exact ⟨s, rfl, hI, rfl, fun _ => Int.le_refl _, rfl, hset, by simp, Nat.le_refl _⟩
  | cons p rest ih =>
    obtain ⟨v, w⟩ := p
    intro s hI hcur hsub hset
    obtain ⟨(ha : (cur, v, w) ∈ g.arcs), hsub'⟩ := List.forall_mem_cons.mp hsub
    have hw0 : 0 ≤ w := hw _ ha
    by_cases hlt : s.dist cur + w < s.dist v
    · -- the loop error cannot fire
      have hnoerr : ¬ (s.pred cur = some v ∧ v ≠ dest) := by
        rintro ⟨hp, _⟩
        by_cases hcs : cur = src
        · rw [hcs, hI.psrc] at hp; cases hp
        · obtain ⟨u, w', hp', hau, hle⟩ := hI.prd cur hcs hcur
          rw [hp] at hp'
          cases hp'
          have h0 : 0 ≤ w' := hw _ hau
          omega
      obtain ⟨hI1, hvcur, hmono1⟩ := relaxOne_core hw hI hcur ha hlt
      have hdv : (relaxOne dest cur v w s).dist v = s.dist cur + w := by
        rw [relaxOne_dist, upd_same]
      have hdx : ∀ x, x ≠ v → (relaxOne dest cur v w s).dist x = s.dist x := fun x hx => by
        rw [relaxOne_dist, upd_ne _ _ hx]
      have hvis1 := mem_relaxOne_visiting dest cur v w s
      have hphi1 : phi g.n (relaxOne dest cur v w s) ≤ phi g.n s :=
        phi_relax (hwf _ ha) hdx
          (by rw [hdv]
              exact (Int.toNat_lt_toNat (Int.lt_of_le_of_lt (Int.add_nonneg (hI.lo cur) hw0) hlt)).mpr hlt)
          (length_relaxOne_visiting dest cur v w s)
      have hcur1 : (relaxOne dest cur v w s).dist cur = s.dist cur := hdx cur (fun e => hvcur e.symm)
      have hset1 : ∀ u, (relaxOne dest cur v w s).dist u < infDist → u ≠ dest → u ≠ cur → u ∈ (relaxOne dest cur v w s).visiting ∨ Done g (relaxOne dest cur v w s) u := by
        intro u hu hud huc
        by_cases huv : u = v
        · subst huv
          left; exact (hvis1 u).mpr (Or.inl ⟨rfl, hud⟩)
        · have hdu := hdx u huv
          rw [hdu] at hu
          rcases hset u hu hud huc with h | h
          · left; exact (hvis1 u).mpr (Or.inr h)
          · right; exact h.mono hdu hmono1 (relaxOne_best_le hI hlt)
      obtain ⟨s', hr, hI', hc', hm', ho', hs', hrel', hphi'⟩ :=
        ih (relaxOne dest cur v w s) hI1 (by rw [hcur1]; exact hcur) hsub' hset1
      refine ⟨s', ?_, hI', by rw [hc', hcur1], ?_, by rw [ho', relaxOne_oldCurrent], hs',
        List.forall_mem_cons.mpr ⟨?_, hrel'⟩, Nat.le_trans hphi' hphi1⟩
      · simp only [relaxArcs, hlt, if_true, hnoerr, if_false]
        exact hr
      · intro x; have := hm' x; have := hmono1 x; omega
      · have := hm' v
        simp only
        rw [hc', hcur1]; omega
    · obtain ⟨s', hr, hI', hc', hm', ho', hs', hrel', hphi'⟩ := ih s hI hcur hsub' hset
      refine ⟨s', ?_, hI', hc', hm', ho', hs', List.forall_mem_cons.mpr ⟨?_, hrel'⟩, hphi'⟩
      · simp only [relaxArcs, hlt, if_false]
        exact hr
      · have := hm' v
        simp only
        rw [hc']; omega

/-- `LabelInv` plus completeness of the work list: every labelled vertex other than `dest` is still listed or
needs no further expansion (`set`); `old` says the same of the vertex popped last, which is what lets the
`oldCurrent` skip drop a vertex that is popped twice in a row. -/
structure LoopInv (g : Graph) (src dest : Nat) (s : LibSt) : Prop extends LabelInv g src dest s where
  set : ∀ u, s.dist u < infDist → u ≠ dest → u ∈ s.visiting ∨ Done g s u
  old : ∀ u, s.oldCurrent = some u → Done g s u

/-- One iteration of the main loop with a non-empty work list: the next state satisfies the
invariant again and the measure has dropped; the loop error does not occur. -/
theorem loop_step (hw : ∀ e ∈ g.arcs, 0 ≤ e.2.2) (hwf : ∀ e ∈ g.arcs, e.2.1 < g.n) {s : LibSt}
    (hI : LoopInv g src dest s) {cur : Nat} {rest : List Nat} (hv : s.visiting = cur :: rest) :
    ∃ s₁, (∀ fuel, evalLoop (adjOf g.arcs) dest (fuel + 1) s = evalLoop (adjOf g.arcs) dest fuel s₁) ∧
      LoopInv g src dest s₁ ∧ phi g.n s₁ + 1 ≤ phi g.n s := by
  obtain ⟨hcur, hcd⟩ := hI.lst cur (by rw [hv]; exact List.mem_cons_self)
  have hset0 : ∀ u, s.dist u < infDist → u ≠ dest → u ≠ cur → u ∈ rest ∨ Done g s u := by
    intro u hu hud huc
    refine (hI.set u hu hud).imp_left fun h => ?_
    rw [hv] at h
    exact (List.mem_cons.mp h).resolve_left huc
  have hphi0 : ∀ oc, phi g.n { s with visiting := rest, oldCurrent := oc } + 1 ≤ phi g.n s := by
    intro oc; simp only [phi, hv, List.length_cons]; omega
  have hcore1 : ∀ oc, LabelInv g src dest { s with visiting := rest, oldCurrent := oc } :=
    fun oc => { hI.toLabelInv with lst := fun u hu => hI.lst u (hv ▸ List.mem_cons_of_mem _ hu) }
  -- `cur` leaves the work list without being expanded: it has to be done already
  have pop : ∀ oc, (∀ u, oc = some u → Done g s u) → Done g s cur →
      LoopInv g src dest { s with visiting := rest, oldCurrent := oc } := by
    intro oc hold hdone
    refine { toLabelInv := hcore1 oc, set := ?_, old := hold }
    intro u hu hud
    by_cases huc : u = cur
    · subst huc; exact .inr hdone
    · exact hset0 u hu hud huc
  by_cases hold : s.oldCurrent = some cur
  · refine ⟨{ s with visiting := rest }, ?_, pop s.oldCurrent hI.old (hI.old cur hold), hphi0 s.oldCurrent⟩
    intro fuel; simp only [evalLoop, hv, hold, if_true]
  · by_cases hprune : s.dist cur ≥ s.best
    · have hdone : Done g s cur := Or.inl hprune
      refine ⟨{ s with visiting := rest, oldCurrent := some cur }, ?_,
        pop (some cur) (fun u hu => by cases hu; exact hdone) hdone, hphi0 (some cur)⟩
      intro fuel; simp only [evalLoop, hv, hold, if_false, hprune, if_true]
    · obtain ⟨s', hr, hI', _, _, ho', hs', hrel', hphi⟩ :=
        relaxArcs_inv (g := g) (src := src) (dest := dest) hw hwf (adjOf g.arcs cur)
          { s with visiting := rest, oldCurrent := some cur } (hcore1 _) hcur
          (fun p hp => mem_adjOf.mp hp) hset0
      refine ⟨s', ?_, ?_, by have := hphi0 (some cur); omega⟩
      · intro fuel; simp only [evalLoop, hv, hold, if_false, hprune, hr]
      · have hdone : Done g s' cur := .inr fun v w ha => hrel' (v, w) (mem_adjOf.mpr ha)
        refine { toLabelInv := hI', set := ?_, old := ?_ }
        · intro u hu hud
          by_cases huc : u = cur
          · subst huc; right; exact hdone
          · exact hs' u hu hud huc
        · intro u hu
          rw [ho'] at hu
          cases hu; exact hdone

theorem evalLoop_nil (adj : Nat → List (Nat × Int)) (fuel : Nat) {s : LibSt} (h : s.visiting = []) :
    evalLoop adj dest fuel s = .ok (some s) := by
  cases fuel <;> simp [evalLoop, h]

/-- Partial correctness of the main loop, for any fuel: it never returns the loop error, and if it
ends, then with the invariant and an empty work list. -/
theorem evalLoop_inv (hw : ∀ e ∈ g.arcs, 0 ≤ e.2.2) (hwf : ∀ e ∈ g.arcs, e.2.1 < g.n) :
    ∀ (fuel : Nat) (s : LibSt), LoopInv g src dest s →
      match evalLoop (adjOf g.arcs) dest fuel s with
      | .error _ => False
      | .ok none => True
      | .ok (some s') => LoopInv g src dest s' ∧ s'.visiting = [] := by
  intro fuel
  induction fuel with
  | zero =>
    intro s hI
    cases hv : s.visiting with
    | nil => rw [evalLoop_nil _ _ hv]; exact ⟨hI, hv⟩
    | cons c r =>
      have : evalLoop (adjOf g.arcs) dest 0 s = .ok none := by simp [evalLoop, hv]
      rw [this]; trivial
  | succ fuel ih =>
    intro s hI
    cases hv : s.visiting with
    | nil => rw [evalLoop_nil _ _ hv]; exact ⟨hI, hv⟩
    | cons cur rest =>
      obtain ⟨s₁, hstep, hI₁, _⟩ := loop_step hw hwf hI hv
      rw [hstep]; exact ih s₁ hI₁

/-- The loop ends by itself as soon as the fuel covers the measure (with the invariant and an empty
work list, by `evalLoop_inv`). -/
theorem evalLoop_total (hw : ∀ e ∈ g.arcs, 0 ≤ e.2.2) (hwf : ∀ e ∈ g.arcs, e.2.1 < g.n) :
    ∀ (fuel : Nat) (s : LibSt), LoopInv g src dest s → phi g.n s ≤ fuel →
      ∃ s', evalLoop (adjOf g.arcs) dest fuel s = .ok (some s') := by
  intro fuel
  induction fuel with
  | zero =>
    intro s hI hphi
    have : s.visiting.length = 0 := by unfold phi at hphi; omega
    exact ⟨s, evalLoop_nil _ _ (List.length_eq_zero_iff.mp this)⟩
  | succ fuel ih =>
    intro s hI hphi
    cases hv : s.visiting with
    | nil => exact ⟨s, evalLoop_nil _ _ hv⟩
    | cons cur rest =>
      obtain ⟨s₁, hstep, hI₁, hdec⟩ := loop_step hw hwf hI hv
      obtain ⟨s', hr⟩ := ih s₁ hI₁ (by omega)
      exact ⟨s', by rw [hstep]; exact hr⟩
theorem walk_cost_nonneg (hw : ∀ e ∈ g.arcs, 0 ≤ e.2.2) {u v : Nat} {c : Int} (h : Walk g u v c) :
    0 ≤ c := by
  obtain ⟨p, hp, rfl⟩ := walk_path h
  exact pcost_nonneg hw hp

/-- When the work list is empty the destination's label is below every walk's cost (through any
vertex). -/
theorem final_le (hw : ∀ e ∈ g.arcs, 0 ≤ e.2.2) {s : LibSt} (hI : LoopInv g src dest s)
    (he : s.visiting = []) {u : Nat} {c : Int} (h : Walk g u dest c) :
    s.dist dest ≤ s.dist u + c := by
  induction h with
  | nil => omega
  | @cons u x z w c' ha hrest ih =>
    have ih := ih hI
    have hc' := walk_cost_nonneg hw hrest
    have hw0 : 0 ≤ w := hw _ ha
    by_cases hud : u = z
    · subst hud; omega
    · by_cases hlab : s.dist u < infDist
      · rcases hI.set u hlab hud with h | h
        · rw [he] at h; cases h
        · rcases h with h | h
          · rw [hI.bst] at h
            split at h
            · omega
            · have := infDist_lt_max; omega
          · have := h x w ha; omega
      · have := hI.hi z; omega

/-- A list of vertices that is a walk, with its cost. -/
inductive VWalk (g : Graph) : List Nat → Int → Prop
  | one (v : Nat) : VWalk g [v] 0
  | cons {a b : Nat} {rest : List Nat} {w c : Int} (ha : (a, b, w) ∈ g.arcs)
      (h : VWalk g (b :: rest) c) : VWalk g (a :: b :: rest) (w + c)

theorem VWalk.walk {l : List Nat} {c : Int} (h : VWalk g l c) :
    ∀ a z, l.head? = some a → l.getLast? = some z → Walk g a z c := by
  induction h with
  | one v =>
    intro a z ha hz
    simp at ha hz
    subst ha; subst hz
    exact Walk.nil _
  | @cons a' b rest w c ha _ ih =>
    intro a z hha hz
    simp at hha
    subst hha
    rw [List.getLast?_cons_cons] at hz
    exact Walk.cons ha (ih b z rfl hz)

/-- `bestPath`: following the predecessors from a vertex whose chain so far is a walk to `dest`
that fits below `dest`'s label yields a walk from `src` to `dest` that fits below it, too. -/
theorem bestPathAux_spec (hw : ∀ e ∈ g.arcs, 0 ≤ e.2.2) {s : LibSt} (hI : LabelInv g src dest s) :
    ∀ (fuel c : Nat) (acc : List Nat) (cst : Int), VWalk g (c :: acc) cst →
      (c :: acc).getLast? = some dest → s.dist c + cst ≤ s.dist dest → s.dist c < infDist →
      ∀ p, bestPathAux s.pred src fuel c acc = some p →
        ∃ cst', VWalk g p cst' ∧ p.head? = some src ∧ p.getLast? = some dest ∧ cst' ≤ s.dist dest := by
  intro fuel
  induction fuel with
  | zero => intro c acc cst _ _ _ _ p hp; simp [bestPathAux] at hp
  | succ fuel ih =>
    intro c acc cst hvw hlast hle hlab p hp
    simp only [bestPathAux] at hp
    split at hp
    · rename_i hcs
      subst hcs
      cases hp
      refine ⟨cst, hvw, rfl, hlast, ?_⟩
      rw [hI.dsrc] at hle; omega
    · rename_i hcs
      obtain ⟨u, w, hpu, hau, hle'⟩ := hI.prd c hcs hlab
      rw [hpu] at hp
      simp only at hp
      have hw' : VWalk g (u :: c :: acc) (w + cst) := VWalk.cons hau hvw
      have hlast' : (u :: c :: acc).getLast? = some dest := by rwa [List.getLast?_cons_cons]
      have hw0 : 0 ≤ w := hw _ hau
      exact ih u (c :: acc) (w + cst) hw' hlast' (by omega) (by omega) p hp
end

theorem labSum_le (n : Nat) (d : Nat → Int) (B : Nat) (h : ∀ v, (d v).toNat ≤ B) :
    labSum n d ≤ n * B := by
  induction n with
  | zero => simp [labSum]
  | succ n ih =>
    rw [labSum_succ, Nat.add_one_mul]
    have := h n
    omega

theorem phi_libInit_le (g : Graph) (src : Nat) : phi g.n (libInit src) ≤ libFuel g := by
  have h := labSum_le g.n (libInit src).dist infDist.toNat (by
    intro v
    simp only [libInit]
    split
    · simp
    · exact Nat.le_refl _)
  have hB : 1 ≤ infDist.toNat := by decide
  have e : infDist.toNat * (2 * g.n + 1) = 2 * (g.n * infDist.toNat) + infDist.toNat := by
    rw [Nat.mul_add, Nat.mul_one, Nat.mul_comm infDist.toNat (2 * g.n), Nat.mul_assoc]
  unfold phi libFuel
  simp only [libInit, List.length_singleton] at h ⊢
  omega

/-- Lexicographic order on (label, stamp). -/
def KeyLt (dist : Nat → Int) (stamp : Nat → Nat) (a b : Nat) : Prop :=
  dist a < dist b ∨ (dist a = dist b ∧ stamp a < stamp b)

theorem KeyLt.trans {dist : Nat → Int} {stamp : Nat → Nat} {a b c : Nat}
    (h₁ : KeyLt dist stamp a b) (h₂ : KeyLt dist stamp b c) : KeyLt dist stamp a c := by
  unfold KeyLt at *
  rcases h₁ with h₁ | ⟨h₁, h₁'⟩ <;> rcases h₂ with h₂ | ⟨h₂, h₂'⟩
  · left; omega
  · left; omega
  · left; omega
  · right; exact ⟨by omega, by omega⟩

theorem KeyLt.ne {dist : Nat → Int} {stamp : Nat → Nat} {a b : Nat} (h : KeyLt dist stamp a b) :
    a ≠ b := by
  intro e; subst e
  rcases h with h | ⟨_, h⟩ <;> omega

/-- `bestPath` reaches `src`: the chain of predecessors visits pairwise different vertices (their
keys decrease), and there are only `n` of them. (`hch` is `hI.acy` with its stamp function opened: the
statement has to mention `stamp`.) -/
theorem bestPathAux_total {g : Graph} {src dest : Nat} (hw : ∀ e ∈ g.arcs, 0 ≤ e.2.2)
    (hwf : ∀ e ∈ g.arcs, e.2.1 < g.n) (hs : src < g.n) {s : LibSt} (hI : LabelInv g src dest s)
    {stamp : Nat → Nat} (hch : Descends g src s.dist s.pred stamp) :
    ∀ (fuel c : Nat) (acc : List Nat), (c :: acc).Pairwise (KeyLt s.dist stamp) →
      (∀ x ∈ c :: acc, s.dist x < infDist) → g.n + 1 ≤ acc.length + fuel →
      bestPathAux s.pred src fuel c acc ≠ none := by
  have hlt : ∀ x, s.dist x < infDist → x < g.n := by
    intro x hx
    rcases walk_end_lt hwf (hI.snd x hx) with h | h
    · rw [h]; exact hs
    · exact h
  intro fuel
  induction fuel with
  | zero =>
    intro c acc hp hl hlen
    exfalso
    have hnd : (c :: acc).Nodup := hp.imp (fun h => h.ne)
    have := nodup_length_le g.n (c :: acc) hnd (fun x hx => hlt x (hl x hx))
    simp at this; omega
  | succ fuel ih =>
    intro c acc hp hl hlen
    simp only [bestPathAux]
    split
    · simp
    · rename_i hcs
      have hc := hl c List.mem_cons_self
      obtain ⟨u, w, hpu, hau, hd⟩ := hch c hcs hc
      rw [hpu]
      simp only
      have hw0 : 0 ≤ w := hw _ hau
      have hlo := hI.lo u
      have hkey : KeyLt s.dist stamp u c := by
        unfold KeyLt
        rcases hd with hd | ⟨hd, hst⟩
        · left; omega
        · by_cases h0 : w = 0
          · right; exact ⟨by omega, hst⟩
          · left; omega
      apply ih u (c :: acc)
      · refine List.pairwise_cons.mpr ⟨List.forall_mem_cons.mpr ⟨hkey, fun x hx => ?_⟩, hp⟩
        exact hkey.trans ((List.pairwise_cons.mp hp).1 x hx)
      · refine List.forall_mem_cons.mpr ⟨?_, hl⟩
        rcases hd with hd | ⟨hd, _⟩ <;> omega
      · simp; omega

theorem libInit_inv (g : Graph) {src dest : Nat} (hsd : src ≠ dest) :
    LoopInv g src dest (libInit src) := by
  have hinf : (0 : Int) < infDist := by decide
  refine { dsrc := by simp [libInit], psrc := rfl, lo := ?_, hi := ?_, snd := ?_, acy := ?_,
           bst := rfl, vis := ?_, lst := ?_, set := ?_, old := ?_ }
  · intro v; simp only [libInit]; split <;> omega
  · intro v; simp only [libInit]; split <;> omega
  · intro v hv
    simp only [libInit] at hv ⊢
    split at hv
    · rename_i h; subst h; simp; exact Walk.nil _
    · omega
  · refine ⟨fun _ => 0, 1, fun _ => Nat.zero_lt_one, ?_⟩
    intro v hvs hv
    simp only [libInit, hvs, if_false] at hv
    omega
  · simp [libInit, hsd.symm]
  · intro u hu
    simp only [libInit, List.mem_singleton] at hu
    subst hu
    exact ⟨by simp [libInit]; exact hinf, hsd⟩
  · intro u hu _
    simp only [libInit] at hu ⊢
    split at hu
    · rename_i h; left; simp [h]
    · omega
  · intro u hu; simp [libInit] at hu

/-- What an answer of `Shortest(src, dest)` must satisfy: a least cost with a path that attains it and
starts with an arc of `src`; "no path" only if every walk costs at least the library's infinity; never the
loop error or a broken predecessor chain. (Running out of fuel says nothing.) -/
def ShortestSpec (g : Graph) (src dest : Nat) : LibRes → Prop
  | .ok d p => IsDist g src dest d ∧
      ∃ h rest w c, p = src :: h :: rest ∧ (src, h, w) ∈ g.arcs ∧ Walk g h dest c ∧ w + c = d
  | .noPath => ∀ c, Walk g src dest c → infDist ≤ c
  | .loopErr => False
  | .outOfFuel => True
  | .badPred => False

/-- **Partial correctness of the ported `Shortest`** for weights ≥ 0: whenever it answers, the
answer is right; the loop error never occurs. -/
theorem libShortest_spec (g : Graph) (hw : ∀ e ∈ g.arcs, 0 ≤ e.2.2)
    (hwf : ∀ e ∈ g.arcs, e.2.1 < g.n) {src dest : Nat} (hs : src < g.n)
    (hsd : src ≠ dest) (fuel : Nat) :
    ShortestSpec g src dest (libShortest fuel g.n (adjOf g.arcs) src dest) := by
  unfold ShortestSpec
  have hloop := evalLoop_inv hw hwf fuel (libInit src) (libInit_inv g hsd)
  unfold libShortest
  cases hev : evalLoop (adjOf g.arcs) dest fuel (libInit src) with
  | error e => rw [hev] at hloop; exact hloop.elim
  | ok r =>
    cases r with
    | none => trivial
    | some s =>
      rw [hev] at hloop
      obtain ⟨hI, he⟩ := hloop
      simp only
      have hmin : ∀ c, Walk g src dest c → s.dist dest ≤ c := by
        intro c hc
        have := final_le hw hI he hc
        rw [hI.dsrc] at this; omega
      by_cases hvd : s.visitedDest = true
      · simp only [hvd, if_true]
        have hlab : s.dist dest < infDist := hI.vis.mp hvd
        cases hbp : bestPathAux s.pred src (g.n + 1) dest [] with
        | none =>
          obtain ⟨stamp, bound, _, hch⟩ := hI.acy
          exact bestPathAux_total hw hwf hs hI.toLabelInv hch (g.n + 1) dest []
            (List.pairwise_singleton _ _) (by intro x hx; simp at hx; subst hx; exact hlab)
            (by simp) hbp
        | some p =>
          simp only
          obtain ⟨cst', hvw, hhead, hlast, hle⟩ :=
            bestPathAux_spec hw hI.toLabelInv (g.n + 1) dest [] 0 (VWalk.one dest) rfl (by omega) hlab p hbp
          refine ⟨⟨hI.snd dest hlab, hmin⟩, ?_⟩
          have hge := hmin _ (hvw.walk src dest hhead hlast)
          cases hvw with
          | one v =>
            simp at hhead hlast
            exact absurd (hhead.symm.trans hlast) hsd
          | @cons a b rest w c ha hrest =>
            simp at hhead
            subst hhead
            rw [List.getLast?_cons_cons] at hlast
            exact ⟨b, rest, w, c, rfl, ha, hrest.walk b dest rfl hlast, by omega⟩
      · simp only [hvd]
        intro c hc
        have hnl : ¬ s.dist dest < infDist := fun h => hvd (hI.vis.mpr h)
        have := hmin c hc
        omega

/-- **The ported loop terminates by itself**: whenever the fuel covers the initial value of the
measure `phi` (which drops in every iteration) the answer is not `outOfFuel`. Stated for an
arbitrary fuel so that nothing tempts the elaborator to unfold the loop. -/
theorem libShortest_terminates_of_fuel (g : Graph) (hw : ∀ e ∈ g.arcs, 0 ≤ e.2.2)
    (hwf : ∀ e ∈ g.arcs, e.2.1 < g.n) {src dest : Nat} (hsd : src ≠ dest) (fuel : Nat)
    (hfuel : phi g.n (libInit src) ≤ fuel) :
    libShortest fuel g.n (adjOf g.arcs) src dest ≠ .outOfFuel := by
  obtain ⟨s', hr⟩ := evalLoop_total (g := g) (src := src) (dest := dest) hw hwf fuel
    (libInit src) (libInit_inv g hsd) hfuel
  unfold libShortest
  rw [hr]
  simp only
  split
  · split <;> simp
  · simp

/-- … in particular with the fuel the port uses. -/
theorem libShortest_terminates (g : Graph) (hw : ∀ e ∈ g.arcs, 0 ≤ e.2.2)
    (hwf : ∀ e ∈ g.arcs, e.2.1 < g.n) {src dest : Nat} (hsd : src ≠ dest) :
    libShortest (libFuel g) g.n (adjOf g.arcs) src dest ≠ .outOfFuel :=
  libShortest_terminates_of_fuel g hw hwf hsd (libFuel g) (phi_libInit_le g src)

/-- From the specification of a `Shortest` answer to the next hop taken from it (the answer is a
variable here: nothing about the loop has to be evaluated). -/
theorem hopOf_spec {g : Graph}
    (hcost : ∀ d c, Walk g 0 d c → ∃ c', Walk g 0 d c' ∧ c' < infDist) (d : Nat) (r : LibRes)
    (hspec : ShortestSpec g 0 d r)
    (hnf : r ≠ .outOfFuel) :
    (∀ h, hopOf r = some h → ∃ w c, (0, h, w) ∈ g.arcs ∧ Walk g h d c ∧ IsDist g 0 d (w + c)) ∧
    (Reachable g 0 d → (hopOf r).isSome = true) := by
  cases r with
  | ok dist p =>
    obtain ⟨hdist, h, rest, w, c, rfl, ha, hwalk, rfl⟩ := hspec
    refine ⟨?_, fun _ => rfl⟩
    intro h' hh'
    cases hh'
    exact ⟨w, c, ha, hwalk, hdist⟩
  | noPath =>
    refine ⟨fun h hh => by simp [hopOf] at hh, ?_⟩
    rintro ⟨c, hc⟩
    obtain ⟨c', hc', hlt⟩ := hcost d c hc
    have := hspec c' hc'
    omega
  | loopErr => exact hspec.elim
  | outOfFuel => exact absurd rfl hnf
  | badPred => exact hspec.elim

/-- **The routing table computed with the ported library loop is right** — for every graph with
weights ≥ 0 and every iteration order of the arc maps (the order of `g.arcs`), provided reachable
destinations are reachable at a cost below `MaxInt64 - 2` (the library's "infinity"). -/
theorem libTable_correct (g : Graph) (hw : ∀ e ∈ g.arcs, 0 ≤ e.2.2)
    (hwf : ∀ e ∈ g.arcs, e.2.1 < g.n)
    (hcost : ∀ d c, Walk g 0 d c → ∃ c', Walk g 0 d c' ∧ c' < infDist) :
    MinCostNextHop g (lookup (libTable g)) := by
  refine minCost_of_key hwf (libNextHop g) fun d hd hd0 => ?_
  exact hopOf_spec hcost d _
    (libShortest_spec g hw hwf (src := 0) (dest := d) (by omega) (fun e => hd0 e.symm) (libFuel g))
    (libShortest_terminates g hw hwf (src := 0) (dest := d) (fun e => hd0 e.symm))


theorem toInt64_small {x : Nat} (h : x < two64 / 2) : toInt64 x = (x : Int) := by
  have h2 : x < two64 := by unfold two64 at h ⊢; omega
  unfold toInt64
  rw [Nat.mod_eq_of_lt h2]
  simp [h]

/-- A loss time in the past costs the elapsed time; a live link costs nothing. -/
theorem edgeCost_past {now ts : Nat} (hts : 0 < ts) (hle : ts ≤ now) (hnow : now < two64 / 2) :
    edgeCost now ts = ((now - ts : Nat) : Int) := by
  have half : two64 / 2 ≤ two64 := Nat.div_le_self _ _
  have hn2 : now < two64 := Nat.lt_of_lt_of_le hnow half
  have ht2 : ts < two64 := Nat.lt_of_le_of_lt hle hn2
  have hd : now - ts < two64 / 2 := Nat.lt_of_le_of_lt (Nat.sub_le _ _) hnow
  have e : (now + two64 - ts) % two64 = now - ts := by
    rw [Nat.add_comm, Nat.add_sub_assoc hle, Nat.add_mod_left,
      Nat.mod_eq_of_lt (Nat.lt_of_lt_of_le hd half)]
  rw [edgeCost, if_neg (Nat.ne_of_gt hts), Nat.mod_eq_of_lt hn2, Nat.mod_eq_of_lt ht2, e]
  exact toInt64_small hd

theorem edgeCost_nonneg {now ts : Nat} (hle : ts ≤ now) (hnow : now < two64 / 2) :
    0 ≤ edgeCost now ts := by
  by_cases h0 : ts = 0
  · simp [edgeCost, h0]
  · rw [edgeCost_past (by omega) hle hnow]
    exact Int.natCast_nonneg _

theorem mem_foldl_addArc (l : List Arc) : ∀ (acc : List Arc) (a : Arc),
    a ∈ l.foldl addArc acc → a ∈ acc ∨ a ∈ l := by
  induction l with
  | nil => intro acc a h; exact Or.inl h
  | cons b rest ih =>
    intro acc a h
    simp only [List.foldl_cons] at h
    rcases ih _ a h with h | h
    · unfold addArc at h
      rcases List.mem_append.mp h with h | h
      · exact Or.inl (List.mem_filter.mp h).1
      · simp at h; subst h; exact Or.inr List.mem_cons_self
    · exact Or.inr (List.mem_cons_of_mem _ h)

theorem idxOf_lt {ix : List Nat} (h : ix ≠ []) (id : Nat) : idxOf ix id < ix.length := by
  unfold idxOf
  simp only
  split
  · assumption
  · exact List.length_pos_iff.mpr h

/-- All loss times known to the node lie in the past. -/
def PastLosses (now : Nat) (s : State) : Prop :=
  (∀ e ∈ s.peers, e.2 ≤ now) ∧
  ∀ id d, s.received id = some d → ∀ e ∈ d.peers, e.2 ≤ now

theorem buildGraph_arc {now : Nat} {s : State} {a : Arc} (h : a ∈ (buildGraph now s).arcs) :
    (∃ e ∈ s.peers, a = (0, idxOf s.indexNode e.1, edgeCost now e.2)) ∨
    (∃ id d, s.received id = some d ∧ ∃ e ∈ d.peers,
      a = (idxOf s.indexNode d.id, idxOf s.indexNode e.1, edgeCost now e.2)) := by
  simp only [buildGraph] at h
  rcases mem_foldl_addArc _ _ _ h with h | h
  · cases h
  · rcases List.mem_append.mp h with h | h
    · left
      simp only [ownArcs, List.mem_map] at h
      obtain ⟨e, he, rfl⟩ := h
      exact ⟨e, he, rfl⟩
    · right
      simp only [recvArcs, List.mem_flatMap] at h
      obtain ⟨id, _, hid⟩ := h
      cases hr : s.received id with
      | none => simp [hr] at hid
      | some d =>
        simp only [hr, List.mem_map] at hid
        obtain ⟨e, he, rfl⟩ := hid
        exact ⟨id, d, hr, e, he, rfl⟩

theorem buildGraph_nonneg {now : Nat} {s : State} (hp : PastLosses now s) (hnow : now < two64 / 2) :
    ∀ e ∈ (buildGraph now s).arcs, 0 ≤ e.2.2 := by
  intro a ha
  rcases buildGraph_arc ha with ⟨e, he, rfl⟩ | ⟨id, d, hr, e, he, rfl⟩
  · exact edgeCost_nonneg (hp.1 e he) hnow
  · exact edgeCost_nonneg (hp.2 id d hr e he) hnow

theorem buildGraph_wf {now : Nat} {s : State} (hix : s.indexNode ≠ []) :
    ∀ e ∈ (buildGraph now s).arcs, e.1 < (buildGraph now s).n ∧ e.2.1 < (buildGraph now s).n := by
  intro a ha
  have hn : (buildGraph now s).n = s.indexNode.length := rfl
  rw [hn]
  rcases buildGraph_arc ha with ⟨e, _, rfl⟩ | ⟨id, d, _, e, _, rfl⟩
  · exact ⟨List.length_pos_iff.mpr hix, idxOf_lt hix _⟩
  · exact ⟨idxOf_lt hix _, idxOf_lt hix _⟩

theorem senderForBundle_unicast (table : Table) (clas sent : List Nat) (d : Nat) :
    (senderForBundle table clas sent (.node d)).sent = sent ∧
    ((senderForBundle table clas sent (.node d)).senders = [] ∧
        (senderForBundle table clas sent (.node d)).delete = false ∨
      ∃ h, lookup table d = some h ∧ h ∈ clas ∧
        (senderForBundle table clas sent (.node d)).senders = [h] ∧
        (senderForBundle table clas sent (.node d)).delete = true) := by
  cases hl : lookup table d with
  | none => simp [senderForBundle, hl]
  | some h =>
    by_cases hc : h ∈ clas
    · refine ⟨by simp [senderForBundle, hl, hc], Or.inr ⟨h, rfl, hc, ?_, ?_⟩⟩ <;>
        simp [senderForBundle, hl, hc]
    · simp [senderForBundle, hl, hc]

theorem forwardTargets_unicast (table : Table) (clas sent : List Nat) (d : Nat) :
    (∀ p ∈ (forwardTargets table clas sent (.node d)).senders, p = d ∨ lookup table d = some p) ∧
    ((forwardTargets table clas sent (.node d)).senders ≠ [] →
      (forwardTargets table clas sent (.node d)).delete = true) ∧
    (d ∉ clas → (forwardTargets table clas sent (.node d)).senders.length ≤ 1) := by
  unfold forwardTargets
  simp only
  by_cases hdir : (clas.filter (· == d)).isEmpty = true
  · simp only [hdir, if_true]
    obtain ⟨_, h⟩ := senderForBundle_unicast table clas sent d
    rcases h with ⟨h1, h2⟩ | ⟨h, hl, _, h1, h2⟩
    · rw [h1]; simp
    · rw [h1, h2]
      refine ⟨?_, fun _ => rfl, fun _ => by simp⟩
      intro p hp
      simp at hp
      subst hp
      exact Or.inr hl
  · simp only [hdir, Bool.false_eq_true, if_false]
    refine ⟨?_, fun _ => trivial, ?_⟩
    · intro p hp
      have := (List.mem_filter.mp hp).2
      left; simpa using this
    · intro hd
      exfalso
      apply hdir
      simp only [List.isEmpty_iff]
      apply List.filter_eq_nil_iff.mpr
      intro x hx hxd
      have : x = d := by simpa using hxd
      exact hd (this ▸ hx)

theorem newNode_nodup {ix : List Nat} (h : ix.Nodup) (id : Nat) : (newNode ix id).Nodup := by
  unfold newNode
  split
  · exact h
  · rename_i hc
    have : id ∉ ix := by simpa using hc
    exact List.nodup_append.mpr ⟨h, by simp, by
      intro a ha b hb hab
      simp at hb
      subst hb; subst hab
      exact this ha⟩

theorem newNode_head {ix : List Nat} (h : ix ≠ []) (id : Nat) : (newNode ix id).head? = ix.head? := by
  unfold newNode
  split
  · rfl
  · cases ix with
    | nil => exact absurd rfl h
    | cons a rest => rfl

theorem newNode_ne_nil {ix : List Nat} (h : ix ≠ []) (id : Nat) : newNode ix id ≠ [] := by
  unfold newNode
  split
  · exact h
  · simp

theorem newNode_mem {ix : List Nat} (id x : Nat) : x ∈ newNode ix id ↔ x = id ∨ x ∈ ix := by
  unfold newNode
  split
  · rename_i hc
    have : id ∈ ix := by simpa using hc
    constructor
    · exact Or.inr
    · rintro (h | h)
      · subst h; exact this
      · exact h
  · simp [or_comm]

theorem foldl_newNode_nodup (l : List Nat) : ∀ {ix : List Nat}, ix.Nodup → (l.foldl newNode ix).Nodup := by
  induction l with
  | nil => intro ix h; exact h
  | cons a rest ih => intro ix h; exact ih (newNode_nodup h a)

theorem foldl_newNode_head (l : List Nat) : ∀ {ix : List Nat}, ix ≠ [] →
    (l.foldl newNode ix).head? = ix.head? := by
  induction l with
  | nil => intro ix h; rfl
  | cons a rest ih => intro ix h; rw [List.foldl_cons, ih (newNode_ne_nil h a), newNode_head h]

/-- Well-formed node index: no node twice, the own node first. -/
def IndexOk (self : Nat) (s : State) : Prop := s.indexNode.Nodup ∧ s.indexNode.head? = some self

theorem indexOk_init (self : Nat) : IndexOk self (State.init self) := by
  simp [IndexOk, State.init]

theorem indexOk_ne_nil {self : Nat} {s : State} (h : IndexOk self s) : s.indexNode ≠ [] := by
  intro e
  have := h.2
  rw [e] at this
  cases this

theorem indexOk_notify {self : Nat} {s : State} (h : IndexOk self s) (d : PeerData) :
    IndexOk self (s.notify d) := by
  unfold State.notify
  split
  · have hne := indexOk_ne_nil h
    simp only [IndexOk]
    split
    · have hne' := newNode_ne_nil hne d.id
      refine ⟨foldl_newNode_nodup _ (newNode_nodup h.1 _), ?_⟩
      rw [foldl_newNode_head _ hne', newNode_head hne]
      exact h.2
    · refine ⟨foldl_newNode_nodup _ h.1, ?_⟩
      rw [foldl_newNode_head _ hne]
      exact h.2
  · exact h

theorem indexOk_peerAppeared {self : Nat} {s : State} (h : IndexOk self s) (p : Nat) :
    IndexOk self (s.peerAppeared p) := by
  simp only [IndexOk, State.peerAppeared]
  exact ⟨newNode_nodup h.1 p, by rw [newNode_head (indexOk_ne_nil h)]; exact h.2⟩

theorem indexOk_peerDisappeared {self : Nat} {s : State} (h : IndexOk self s) (now p : Nat) :
    IndexOk self (s.peerDisappeared now p) := h

/-- In a duplicate-free index, `nodeIndex` and `indexNode` are inverse to each other. -/
theorem idxOf_getD {ix : List Nat} (h : ix.Nodup) {i : Nat} (hi : i < ix.length) :
    idxOf ix (ix.getD i 0) = i := by
  unfold idxOf
  have hget : ix.getD i 0 = ix[i] := by simp [List.getD, hi]
  rw [hget]
  have : ix.idxOf ix[i] = i := List.Nodup.idxOf_getElem h i hi
  simp [this, hi]

theorem getD_idxOf {ix : List Nat} {id : Nat} (h : id ∈ ix) : ix.getD (idxOf ix id) 0 = id := by
  unfold idxOf
  have hlt : ix.idxOf id < ix.length := List.idxOf_lt_length_of_mem h
  simp [hlt, List.getD]

theorem idxOf_self {self : Nat} {s : State} (h : IndexOk self s) : idxOf s.indexNode self = 0 := by
  have h2 := h.2
  cases hix : s.indexNode with
  | nil => rw [hix] at h2; cases h2
  | cons a rest =>
    rw [hix] at h2
    simp at h2
    subst h2
    simp [idxOf]

end Dtn7.Dtlsr.Lemmas
