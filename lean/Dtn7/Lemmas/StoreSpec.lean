import Dtn7.Lemmas.StoreFrag

/-!
C08: facts about the reference map itself (`specStep`, `specRun`): an operation touches the record of
its id only, and every part it holds stems from a push or a replacement of the history. `Dtn7.Props.C08`
transfers them to the store through `exec_refines` / `run_refines`.
-/
namespace Dtn7.Store.Lemmas

section AList
variable {κ : Type} {α : Type} [DecidableEq κ]

theorem mem_put_weak {k : κ} {v : α} {l : List (κ × α)} {e : κ × α} (h : e ∈ put k v l) :
    e = (k, v) ∨ e ∈ l := by
  induction l with
  | nil => simp only [put, List.mem_singleton] at h; exact Or.inl h
  | cons e' r ih =>
    obtain ⟨k', v'⟩ := e'
    by_cases h' : k' = k
    · simp only [put, h', if_true, List.mem_cons] at h
      rcases h with h | h
      · exact Or.inl h
      · exact Or.inr (List.mem_cons_of_mem _ h)
    · simp only [put, h', if_false, List.mem_cons] at h
      rcases h with h | h
      · exact Or.inr (by simp [h])
      · rcases ih h with h | h
        · exact Or.inl h
        · exact Or.inr (List.mem_cons_of_mem _ h)

end AList

/-- The id an operation works on. -/
def target : Op → Id
  | .push b => b.id
  | .update id _ _ _ => id
  | .delete id => id
  | .replace b => b.id

theorem mem_setPart {k : Nat × Nat} {v : Option (Nat × Bytes)}
    {ps : List ((Nat × Nat) × Option (Nat × Bytes))} {kv : (Nat × Nat) × Option (Nat × Bytes)}
    (h : kv ∈ setPart k v ps) : kv = (k, v) ∨ kv ∈ ps := by
  simp only [setPart, List.mem_map] at h
  obtain ⟨p, hp, he⟩ := h
  by_cases hk : p.1 = k
  · rw [if_pos hk] at he; exact Or.inl he.symm
  · rw [if_neg hk] at he; exact Or.inr (he ▸ hp)

/-- What an operation does to the reference map: nothing, or it deletes the record of its id, or it
writes that record, and then every part of the new record is an old part of it or the content of
the bundle the operation carries. -/
theorem specStep_op (m : SMap) (op : Op) :
    specStep m (.op op) = m ∨ specStep m (.op op) = del (target op) m ∨
    ∃ r', specStep m (.op op) = put (target op) r' m ∧
      ∀ kv ∈ r'.parts, (∃ r, get (target op) m = some r ∧ kv ∈ r.parts) ∨
        ∃ b, (op = .push b ∨ op = .replace b) ∧ kv = (fragKey b, content b) := by
  cases op with
  | push b =>
    simp only [specStep, target]
    cases hg : get b.id m with
    | none =>
      refine Or.inr (Or.inr ⟨_, rfl, fun kv hkv => Or.inr ⟨b, Or.inl rfl, ?_⟩⟩)
      simpa using hkv
    | some r =>
      simp only
      split
      · split
        · split
          · exact Or.inr (Or.inr ⟨_, rfl, fun kv hkv => (mem_setPart hkv).elim
              (fun e => Or.inr ⟨b, Or.inl rfl, e⟩) (fun e => Or.inl ⟨r, rfl, e⟩)⟩)
          · exact Or.inl rfl
        · refine Or.inr (Or.inr ⟨_, rfl, fun kv hkv => ?_⟩)
          rcases List.mem_append.mp hkv with e | e
          · exact Or.inl ⟨r, rfl, e⟩
          · exact Or.inr ⟨b, Or.inl rfl, by simpa using e⟩
      · exact Or.inl rfl
  | update id pe ex pr =>
    simp only [specStep, target]
    cases hg : get id m with
    | none => exact Or.inl rfl
    | some r => exact Or.inr (Or.inr ⟨_, rfl, fun kv hkv => Or.inl ⟨r, rfl, hkv⟩⟩)
  | delete id => exact Or.inr (Or.inl rfl)
  | replace b =>
    simp only [specStep, target]
    cases hg : get b.id m with
    | none => exact Or.inl rfl
    | some r =>
      simp only
      split
      · exact Or.inr (Or.inr ⟨_, rfl, fun kv hkv => (mem_setPart hkv).elim
          (fun e => Or.inr ⟨b, Or.inr rfl, e⟩) (fun e => Or.inl ⟨r, rfl, e⟩)⟩)
      · exact Or.inl rfl

theorem spec_frame (m : SMap) (op : Op) (id : Id) (h : id ≠ target op) :
    get id (specStep m (.op op)) = get id m := by
  rcases specStep_op m op with e | e | ⟨r', e, _⟩ <;> rw [e]
  · exact get_del_ne _ _ _ (fun e => h e.symm)
  · exact get_put_ne _ _ _ _ (fun e => h e.symm)

theorem spec_delete_gone (m : SMap) (id : Id) : get id (specStep m (.op (.delete id))) = none :=
  get_del_self id m

theorem spec_sweep_get (m : SMap) (hn : (keys m).Nodup) (now : Nat) (id : Id) :
    get id (specStep m (.sweep now)) = (get id m).filter (fun r => !decide (r.expires < now)) := by
  simp only [specStep]
  induction m with
  | nil => rfl
  | cons e r ih =>
    obtain ⟨k, v⟩ := e
    simp only [keys, List.map_cons, List.nodup_cons] at hn
    have ih' := ih hn.2
    by_cases hk : k = id
    · subst hk
      by_cases hv : v.expires < now
      · have hnone : get k r = none := (get_none_iff k r).mpr hn.1
        simp only [List.filter_cons, hv, decide_true, Bool.not_true, Bool.false_eq_true, if_false,
          get_cons, if_true, Option.filter_some]
        rw [ih', hnone]; rfl
      · simp [hv, get_cons, Option.filter_some]
    · by_cases hv : v.expires < now
      · simp only [List.filter_cons, hv, decide_true, Bool.not_true, Bool.false_eq_true, if_false,
          get_cons, hk]
        exact ih'
      · simp only [List.filter_cons, hv, decide_false, Bool.not_false, if_true, get_cons, hk, if_false]
        exact ih'

/-- Bundles handed to the store by the history (`Push` or `ReplaceBundle`). -/
def Given (cs : List Cmd) (b : Bundle) : Prop := Cmd.op (.push b) ∈ cs ∨ Cmd.op (.replace b) ∈ cs

/-- Every part held by the reference map stems from a push or a replacement of the history, with
its bytes. -/
def SpecOk (cs : List Cmd) (m : SMap) : Prop :=
  ∀ e ∈ m, ∀ kv ∈ e.2.parts,
    ∃ b, Given cs b ∧ b.id = e.1 ∧ fragKey b = kv.1 ∧ kv.2 = content b

theorem specOk_mono {cs cs' : List Cmd} {m : SMap} (h : SpecOk cs m) (hs : ∀ c ∈ cs, c ∈ cs') :
    SpecOk cs' m := by
  intro e he kv hkv
  obtain ⟨b, hb, r⟩ := h e he kv hkv
  exact ⟨b, hb.imp (hs _) (hs _), r⟩

theorem specOk_step (cs : List Cmd) (m : SMap) (c : Cmd) (h : SpecOk cs m) :
    SpecOk (cs ++ [c]) (specStep m c) := by
  have h' : SpecOk (cs ++ [c]) m := specOk_mono h (fun x hx => List.mem_append_left _ hx)
  cases c with
  | op o =>
    rcases specStep_op m o with e | e | ⟨r', e, hparts⟩ <;> rw [e]
    · exact h'
    · exact fun e he => h' e (List.mem_filter.mp he).1
    · intro e he kv hkv
      rcases mem_put_weak he with rfl | he
      · rcases hparts kv hkv with ⟨r, hg, hkv⟩ | ⟨b, hb, rfl⟩
        · exact h' (target o, r) (get_some_mem hg) kv hkv
        · rcases hb with rfl | rfl
          · exact ⟨b, Or.inl (by simp), rfl, rfl, rfl⟩
          · exact ⟨b, Or.inr (by simp), rfl, rfl, rfl⟩
      · exact h' e he kv hkv
  | sweep now => exact fun e he => h' e (List.mem_filter.mp he).1
  | reopen => exact h'

theorem specOk_run (cs : List Cmd) : SpecOk cs (specRun [] cs) := by
  have : ∀ (pre cs : List Cmd) (m : SMap), SpecOk pre m → SpecOk (pre ++ cs) (specRun m cs) := by
    intro pre cs
    induction cs generalizing pre with
    | nil => intro m h; simpa [specRun] using h
    | cons c r ih =>
      intro m h
      have := ih (pre ++ [c]) (specStep m c) (specOk_step pre m c h)
      simpa [specRun, List.append_assoc] using this
  have := this [] cs [] (by intro e he; simp at he)
  simpa using this

end Dtn7.Store.Lemmas
