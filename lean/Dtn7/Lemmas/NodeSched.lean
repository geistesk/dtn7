/-
Lemmas about the interleavings of concurrent failure reports (`Dtn7.Model.NodeSched`).
With the mutex every schedule leaves exactly the failed peers out of the sent list.
-/
import Dtn7.Model.NodeSched
import Dtn7.Lemmas.Node

namespace Dtn7.NodeSched
open Dtn7.Node

/-- The invariant of the locked protocol. `W` is the list of peers already written off. -/
structure Inv (sent0 failed : List Eid) (s : St) : Prop where
  eids : s.threads.map (·.eid) = failed
  written : ∃ W : List Eid, s.sent = sent0.filter (fun x => !W.contains x) ∧
      (∀ (j : Nat) (t : Thread), s.threads[j]? = some t → (t.pc = Pc.rel ∨ t.pc = Pc.done) → t.eid ∈ W) ∧
      (∀ e ∈ W, e ∈ failed)
  lockIff : ∀ (j : Nat) (t : Thread), s.threads[j]? = some t →
      ((t.pc = Pc.read ∨ t.pc = Pc.write ∨ t.pc = Pc.rel) ↔ s.lock = some j)
  locOk : ∀ (j : Nat) (t : Thread), s.threads[j]? = some t → t.pc = Pc.write → t.loc = s.sent

theorem map_eid_set (ts : List Thread) (i : Nat) (t t' : Thread) (h : ts[i]? = some t) (he : t'.eid = t.eid) :
    (ts.set i t').map (·.eid) = ts.map (·.eid) := by
  apply List.ext_getElem?
  intro j
  simp only [List.getElem?_map, List.getElem?_set]
  by_cases hij : i = j
  · subst hij
    rcases List.getElem?_eq_some_iff.mp h with ⟨hlt, hget⟩
    simp [hlt, he, hget]
  · simp [hij]

theorem get_set_self (ts : List Thread) (i : Nat) (t t' : Thread) (h : ts[i]? = some t) :
    (ts.set i t')[i]? = some t' := by
  have hlt : i < ts.length := by
    rcases List.getElem?_eq_some_iff.mp h with ⟨hl, _⟩
    exact hl
  simp [hlt]

theorem get_set_other (ts : List Thread) (i j : Nat) (t' : Thread) (h : i ≠ j) :
    (ts.set i t')[j]? = ts[j]? := by
  simp [h]

/-- Every thread starts at `acq`. -/
theorem start_pc {sent failed : List Eid} {j : Nat} {t : Thread} (h : (start true sent failed).threads[j]? = some t) :
    t.pc = .acq := by
  simp only [start, List.getElem?_map, Option.map_eq_some_iff] at h
  obtain ⟨e, _, rfl⟩ := h
  rfl

theorem inv_start (sent failed : List Eid) : Inv sent failed (start true sent failed) := by
  refine ⟨?_, ⟨[], ?_, ?_, ?_⟩, ?_, ?_⟩
  · simp [start, Function.comp_def]
  · simp [start]
    exact (List.filter_eq_self.mpr (fun _ _ => rfl)).symm
  · intro j t h hp
    rw [start_pc h] at hp
    simp at hp
  · intro e he; cases he
  · intro j t h
    rw [start_pc h]
    simp [start]
  · intro j t h hp
    rw [start_pc h] at hp
    cases hp

/-- A statement about all threads after thread `i` was replaced: about the new thread, and about the others. -/
theorem forall_set {ts : List Thread} {i : Nat} {t : Thread} (t' : Thread) (hti : ts[i]? = some t)
    (P : Nat → Thread → Prop) :
    (∀ j u, (ts.set i t')[j]? = some u → P j u) ↔ P i t' ∧ ∀ j u, i ≠ j → ts[j]? = some u → P j u := by
  constructor
  · intro h
    exact ⟨h i t' (get_set_self ts i t t' hti), fun j u hij hj => h j u (by rw [get_set_other _ _ _ _ hij]; exact hj)⟩
  · rintro ⟨h1, h2⟩ j u hj
    by_cases hij : i = j
    · subst hij; rw [get_set_self _ _ _ _ hti] at hj; cases hj; exact h1
    · rw [get_set_other _ _ _ _ hij] at hj; exact h2 j u hij hj

theorem inv_step (sent0 failed : List Eid) (h0 : sent0.Nodup) (s : St) (i : Nat) (inv : Inv sent0 failed s) :
    Inv sent0 failed (step true s i) := by
  unfold step
  cases hti : s.threads[i]? with
  | none => simpa using inv
  | some t =>
    simp only
    rcases inv with ⟨heids, ⟨W, hW1, hW2, hW3⟩, hlock, hloc⟩
    have heids' : ∀ t' : Thread, t'.eid = t.eid → (s.threads.set i t').map (·.eid) = failed :=
      fun t' he => (map_eid_set s.threads i t t' hti he).trans heids
    cases hpc : t.pc with
    | acq =>
      simp only
      cases hl : s.lock with
      | some k => simpa using (⟨heids, ⟨W, hW1, hW2, hW3⟩, hlock, hloc⟩ : Inv sent0 failed s)
      | none =>
        refine ⟨heids' _ rfl, ⟨W, hW1, ?_, hW3⟩, ?_, ?_⟩
        · exact (forall_set _ hti _).mpr ⟨fun hp => by simp at hp, fun j u _ hj => hW2 j u hj⟩
        · refine (forall_set _ hti _).mpr ⟨by simp, fun j u hij hj => ?_⟩
          have := hlock j u hj
          rw [hl] at this
          exact ⟨fun hp => absurd (this.mp hp) (by simp), fun hk => absurd (Option.some.inj hk) hij⟩
        · exact (forall_set _ hti _).mpr ⟨fun hp => by simp at hp, fun j u _ hj => hloc j u hj⟩
    | read =>
      have hli : s.lock = some i := (hlock i t hti).mp (Or.inl hpc)
      refine ⟨heids' _ rfl, ⟨W, hW1, ?_, hW3⟩, ?_, ?_⟩
      · exact (forall_set _ hti _).mpr ⟨fun hp => by simp at hp, fun j u _ hj => hW2 j u hj⟩
      · exact (forall_set _ hti _).mpr ⟨by simp [St.setThread, hli], fun j u _ hj => hlock j u hj⟩
      · exact (forall_set _ hti _).mpr ⟨fun _ => rfl, fun j u _ hj => hloc j u hj⟩
    | write =>
      simp only [if_true]
      have hli : s.lock = some i := (hlock i t hti).mp (Or.inr (Or.inl hpc))
      have hlc : t.loc = s.sent := hloc i t hti hpc
      have hnd : s.sent.Nodup := by
        rw [hW1]
        exact h0.sublist List.filter_sublist
      have hte : t.eid ∈ failed := by
        rw [← heids]
        exact List.mem_map.mpr ⟨t, List.mem_of_getElem? hti, rfl⟩
      refine ⟨heids' _ rfl, ⟨t.eid :: W, ?_, ?_, ?_⟩, ?_, ?_⟩
      · show eraseFirst t.eid t.loc = _
        rw [hlc, eraseFirst_eq_erase, hnd.erase_eq_filter, hW1, List.filter_filter]
        apply List.filter_congr
        intro x _
        by_cases hx : x = t.eid <;> simp [hx]
      · exact (forall_set _ hti _).mpr
          ⟨fun _ => List.mem_cons_self, fun j u _ hj hp => List.mem_cons_of_mem _ (hW2 j u hj hp)⟩
      · intro e he
        rcases List.mem_cons.mp he with h | h
        · exact h ▸ hte
        · exact hW3 e h
      · exact (forall_set _ hti _).mpr ⟨by simp [St.setThread, hli], fun j u _ hj => hlock j u hj⟩
      · refine (forall_set _ hti _).mpr ⟨fun hp => by simp at hp, fun j u hij hj hp => ?_⟩
        -- another thread in `write` would hold the lock as well
        have := (hlock j u hj).mp (Or.inr (Or.inl hp))
        rw [hli] at this
        exact absurd (Option.some.inj this) hij
    | rel =>
      have hli : s.lock = some i := (hlock i t hti).mp (Or.inr (Or.inr hpc))
      refine ⟨heids' _ rfl, ⟨W, hW1, ?_, hW3⟩, ?_, ?_⟩
      · exact (forall_set _ hti _).mpr ⟨fun _ => hW2 i t hti (Or.inl hpc), fun j u _ hj => hW2 j u hj⟩
      · refine (forall_set _ hti _).mpr ⟨by simp, fun j u hij hj => ?_⟩
        have := hlock j u hj
        rw [hli] at this
        exact ⟨fun hp => absurd (Option.some.inj (this.mp hp)) hij, fun hk => by simp at hk⟩
      · exact (forall_set _ hti _).mpr ⟨fun hp => by simp at hp, fun j u _ hj => hloc j u hj⟩
    | done =>
      simpa using (⟨heids, ⟨W, hW1, hW2, hW3⟩, hlock, hloc⟩ : Inv sent0 failed s)

theorem inv_run (sent0 failed : List Eid) (h0 : sent0.Nodup) (σ : List Nat) :
    ∀ s, Inv sent0 failed s → Inv sent0 failed (run true s σ) := by
  induction σ with
  | nil => intro s h; exact h
  | cons i σ ih =>
    intro s h
    exact ih _ (inv_step sent0 failed h0 s i h)

/-- With the mutex: whatever the schedule, once all failure reports are finished the sent list is the original
one without the failed peers (in its order, nothing added). -/
theorem locked_final_sent (sent failed : List Eid) (h0 : sent.Nodup) (σ : List Nat)
    (hd : allDone (run true (start true sent failed) σ) = true) :
    (run true (start true sent failed) σ).sent = sent.filter (fun x => !failed.contains x) := by
  obtain ⟨heids, ⟨W, hW1, hW2, hW3⟩, _, _⟩ := inv_run sent failed h0 σ _ (inv_start sent failed)
  rw [hW1]
  apply List.filter_congr
  intro x _
  congr 1
  apply Bool.eq_iff_iff.mpr
  simp only [List.contains_iff_mem]
  refine ⟨hW3 x, fun hx => ?_⟩
  rw [← heids] at hx
  obtain ⟨t, ht, rfl⟩ := List.mem_map.mp hx
  obtain ⟨j, hj⟩ := List.mem_iff_getElem?.mp ht
  exact hW2 j t hj (Or.inr (by simpa using List.all_eq_true.mp hd t ht))

end Dtn7.NodeSched
