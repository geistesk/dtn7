import Dtn7.Model.BbcFrag
import Dtn7.Lemmas.Wire

namespace Dtn7.Bbc.Lemmas
open Dtn7.Cbor (Bytes)
open Dtn7.Wire Dtn7.Wire.Lemmas Dtn7.Bbc

/-- Only the low five bits of the sequence number enter the identifier. -/
theorem mkIdent_mask (seq : UInt8) (s e f : Bool) : mkIdent (seq &&& 0x1F) s e f = mkIdent seq s e f := by
  unfold mkIdent; rw [UInt8.and_assoc]; rfl

theorem ident_fields_lt : ∀ (q : Fin 32) (s e f : Bool),
    let i := mkIdent (UInt8.ofNat q) s e f
    ((i >>> 3) &&& 0x1F) = UInt8.ofNat q ∧ (i &&& startBit != 0) = s ∧ (i &&& endBit != 0) = e ∧
      (i &&& failBit != 0) = f := by
  decide +kernel

theorem ident_fields (seq : UInt8) (s e f : Bool) :
    let i := mkIdent seq s e f
    ((i >>> 3) &&& 0x1F) = seq &&& 0x1F ∧ (i &&& startBit != 0) = s ∧ (i &&& endBit != 0) = e ∧
      (i &&& failBit != 0) = f := by
  have h : (seq &&& 0x1F).toNat < 32 := by
    rw [UInt8.toNat_and]; exact Nat.lt_succ_of_le Nat.and_le_right
  have := ident_fields_lt ⟨_, h⟩ s e f
  rwa [UInt8.ofNat_toNat, mkIdent_mask] at this

theorem and_1F_of_lt : ∀ b : BitVec 8, (UInt8.ofBitVec b).toNat < 32 → (UInt8.ofBitVec b) &&& 0x1F = UInt8.ofBitVec b := by
  decide +kernel

/-- Every identifier byte is the identifier of the fragment its accessors describe (the header has no
unused or ambiguous encodings). -/
theorem ident_surjective_bv : ∀ b : BitVec 8,
    let i := UInt8.ofBitVec b
    mkIdent ((i >>> 3) &&& 0x1F) (i &&& startBit != 0) (i &&& endBit != 0) (i &&& failBit != 0) = i := by
  decide +kernel

theorem nextSeq_lt_bv : ∀ b : BitVec 8, (nextSeq (UInt8.ofBitVec b)).toNat < 16 ∧
    (nextSeq (UInt8.ofBitVec b)).toNat = ((UInt8.ofBitVec b).toNat + 1) % 256 % 16 := by
  decide +kernel

end Dtn7.Bbc.Lemmas
