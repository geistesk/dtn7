import Dtn7.Lemmas.Store
import Dtn7.Lemmas.Intervals

/-!
C08, completeness of a fragment set: the sweep of `prepareReassembly` over the fragments sorted by
offset succeeds exactly when the fragments cover the payload.
-/
namespace Dtn7.Store.Lemmas

/-- The ends `o + l` of the intervals never fall below the running end index `last`. -/
def IncEnds : Nat → List (Nat × Nat) → Prop
  | _, [] => True
  | last, (o, l) :: r => last ≤ o + l ∧ IncEnds (o + l) r

/-- The loop that overwrites the end index agrees with the maximising one when the ends grow. -/
theorem sweep_nomax_eq (l : List (Nat × Nat)) (last : Nat) (h : IncEnds last l) :
    sweepEnd false last l = sweepEnd true last l := by
  induction l generalizing last with
  | nil => rfl
  | cons iv r ih =>
    obtain ⟨o, len⟩ := iv
    simp only [IncEnds] at h
    simp only [sweepEnd, if_true, Bool.false_eq_true, if_false]
    rw [Nat.max_eq_right h.1, ih _ h.2]

theorem incEnds_of_noContained (l : List (Nat × Nat)) (last : Nat)
    (h0 : ∀ iv, l.head? = some iv → last ≤ iv.1 + iv.2) (h : noContained l = true) : IncEnds last l := by
  induction l generalizing last with
  | nil => trivial
  | cons iv r ih =>
    obtain ⟨o, len⟩ := iv
    refine ⟨h0 (o, len) rfl, ?_⟩
    cases r with
    | nil => trivial
    | cons iv' r' =>
      obtain ⟨o', len'⟩ := iv'
      simp only [noContained, Bool.and_eq_true, decide_eq_true_eq] at h
      refine ih _ ?_ h.2
      intro iv hiv
      simp only [List.head?_cons, Option.some.injEq] at hiv
      subst hiv; simp only; omega

theorem mem_insertByOff (b x : Bundle) (l : List Bundle) : x ∈ insertByOff b l ↔ x = b ∨ x ∈ l := by
  induction l with
  | nil => simp [insertByOff]
  | cons c r ih =>
    by_cases h : bOff b < bOff c
    · simp [insertByOff, h]
    · simp only [insertByOff, h, if_false, List.mem_cons, ih]
      exact or_left_comm

theorem mem_sortByOff (x : Bundle) (l : List Bundle) : x ∈ sortByOff l ↔ x ∈ l := by
  induction l with
  | nil => simp [sortByOff]
  | cons c r ih => simp [sortByOff, mem_insertByOff, ih]

theorem sorted_insertByOff (b : Bundle) (l : List Bundle)
    (h : l.Pairwise (fun a c => bOff a ≤ bOff c)) :
    (insertByOff b l).Pairwise (fun a c => bOff a ≤ bOff c) := by
  induction l with
  | nil => simp [insertByOff]
  | cons c r ih =>
    simp only [List.pairwise_cons] at h
    by_cases hlt : bOff b < bOff c
    · simp only [insertByOff, hlt, if_true, List.pairwise_cons]
      refine ⟨?_, h⟩
      intro a ha
      rcases List.mem_cons.mp ha with ha | ha
      · subst ha; omega
      · have := h.1 a ha; omega
    · simp only [insertByOff, hlt, if_false, List.pairwise_cons]
      refine ⟨?_, ih h.2⟩
      intro a ha
      rcases (mem_insertByOff b a r).mp ha with ha | ha
      · subst ha; omega
      · exact h.1 a ha

theorem sorted_sortByOff (l : List Bundle) : (sortByOff l).Pairwise (fun a c => bOff a ≤ bOff c) := by
  induction l with
  | nil => simp [sortByOff]
  | cons c r ih => exact sorted_insertByOff c _ ih

/-- Interval (offset, payload length) of a loaded fragment. -/
def ivOf (b : Bundle) : Nat × Nat := (bOff b, b.payLen)

theorem covers_of_mem_iff {l l' : List (Nat × Nat)} {T : Nat} (h : ∀ iv, iv ∈ l ↔ iv ∈ l') :
    Covers l T → Covers l' T := by
  rintro ⟨h1, h2, h3⟩
  refine ⟨?_, fun x hx => ?_, fun iv hiv => h3 iv ((h iv).mpr hiv)⟩
  · rintro rfl
    cases l with
    | nil => exact h1 rfl
    | cons a r => exact absurd ((h a).mp (by simp)) (by simp)
  · obtain ⟨iv, hiv, hc⟩ := h2 x hx
    exact ⟨iv, (h iv).mp hiv, hc⟩

theorem covers_congr (l l' : List (Nat × Nat)) (T : Nat) (h : ∀ iv, iv ∈ l ↔ iv ∈ l') :
    Covers l T ↔ Covers l' T :=
  ⟨covers_of_mem_iff h, covers_of_mem_iff fun iv => (h iv).symm⟩

theorem reassemblable_iff_covers (bs : List Bundle) (T : Nat) (hne : bs ≠ [])
    (hfrag : ∀ b ∈ bs, b.frag.isSome = true) (hT : ∀ b ∈ bs, bTotal b = T) :
    reassemblable true bs = true ↔ Covers (bs.map ivOf) T := by
  have hcong : Covers (bs.map ivOf) T ↔ Covers ((sortByOff bs).map ivOf) T :=
    covers_congr _ _ _ (fun iv => by simp only [List.mem_map, mem_sortByOff])
  rw [hcong]
  have hsorted : ((sortByOff bs).map ivOf).Pairwise (fun a c => a.1 ≤ c.1) := by
    rw [List.pairwise_map]; exact sorted_sortByOff bs
  cases hs : sortByOff bs with
  | nil =>
    exfalso
    cases bs with
    | nil => exact hne rfl
    | cons a r =>
      have : a ∈ sortByOff (a :: r) := (mem_sortByOff a _).mpr (by simp)
      rw [hs] at this; simp at this
  | cons b0 r =>
    have hb0 : b0 ∈ bs := (mem_sortByOff b0 bs).mp (by rw [hs]; simp)
    have hall : (b0 :: r).all (fun b => b.frag.isSome) = true := by
      rw [List.all_eq_true]; intro b hb
      exact hfrag b ((mem_sortByOff b bs).mp (by rw [hs]; exact hb))
    rw [hs] at hsorted
    simp only [reassemblable, hs, hall, Bool.true_and, hT b0 hb0, beq_iff_eq]
    constructor
    · intro h
      obtain ⟨_, h2, h3⟩ := Intervals.sweepEnd_sound _ 0 T h
      exact ⟨by simp, fun x hx => h2 x (Nat.zero_le _) hx, h3⟩
    · rintro ⟨_, h2, h3⟩
      exact Intervals.sweepEnd_complete _ 0 T hsorted (fun x _ hx => h2 x hx) h3 (Nat.zero_le _)

end Dtn7.Store.Lemmas
