/-
Facts about the concrete `rne` of `Dtn7.Model.F64` (core Lean only: `omega` + `Nat` lemmas).

  * `rneNat_mono`       rounding is monotone
  * `rneNat_exact`      identity on binary64 values
  * `rneNat_isF64`      the result is a binary64 value
  * `rneNat_le_one`     anything ≤ 1 + 2⁻⁵³ rounds to at most 1 (the tie goes to the even mantissa of 1)
  * `rneNat_err_le`     for y ≤ 1 the rounding error is at most 2⁻⁵⁴ (upwards)
and from them the three inequalities the PRoPHET invariants need:
  `mul_le_left` (`rne(a·c) ≤ a` for `c ≤ 1`), `add_ge_left`, `add_one_sub_le_one`
  (`rne(p + t) ≤ 1` whenever `t ≤ rne(1 − p)`).
-/
import Dtn7.Model.F64

namespace Dtn7.Lemmas.F64
open Dtn7.F64

theorem lt_pow_bitLen (k : Nat) : k < 2 ^ bitLen k := by
  unfold bitLen
  split
  · next h => subst h; decide
  · exact Nat.lt_log2_self

theorem pow_bitLen_le (k : Nat) (h : k ≠ 0) : 2 ^ (bitLen k - 1) ≤ k := by
  unfold bitLen
  simp only [h, if_false, Nat.add_sub_cancel]
  exact Nat.log2_self_le h

theorem bitLen_le_iff (k l : Nat) : bitLen k ≤ l ↔ k < 2 ^ l := by
  constructor
  · intro h
    exact Nat.lt_of_lt_of_le (lt_pow_bitLen k) (Nat.pow_le_pow_right (by decide) h)
  · intro h
    apply Classical.byContradiction
    intro hn
    have hk : k ≠ 0 := by
      intro h0; subst h0; simp [bitLen] at hn
    have h1 := pow_bitLen_le k hk
    have h2 : 2 ^ l ≤ 2 ^ (bitLen k - 1) := Nat.pow_le_pow_right (by decide) (by omega)
    omega

theorem bitLen_mono {a b : Nat} (h : a ≤ b) : bitLen a ≤ bitLen b :=
  (bitLen_le_iff a _).2 (Nat.lt_of_le_of_lt h (lt_pow_bitLen b))

theorem rs_le_succ (k s : Nat) : roundShift k s ≤ k / 2 ^ s + 1 := by
  unfold roundShift
  simp only
  split
  · exact Nat.le_refl _
  · exact Nat.le_succ _

theorem div_le_rs (k s : Nat) : k / 2 ^ s ≤ roundShift k s := by
  unfold roundShift
  simp only
  split
  · exact Nat.le_succ _
  · exact Nat.le_refl _

/-- The round-up test of `roundShift` (remainder `r`, divisor `D`, parity of the quotient) is monotone
in the remainder. -/
theorem up_mono {D r1 r2 : Nat} {odd : Prop} (hr : r1 ≤ r2)
    (h : 2 * r1 > D ∨ (2 * r1 = D ∧ odd)) : 2 * r2 > D ∨ (2 * r2 = D ∧ odd) := by
  have h2 : 2 * r1 ≤ 2 * r2 := Nat.mul_le_mul_left 2 hr
  rcases h with h | ⟨h, ho⟩
  · exact Or.inl (Nat.lt_of_lt_of_le h h2)
  · rcases Nat.lt_or_ge D (2 * r2) with g | g
    · exact Or.inl g
    · exact Or.inr ⟨Nat.le_antisymm g (h ▸ h2), ho⟩

/-- The rounded quotient is within half a unit of the exact one. -/
theorem rs_near (k s : Nat) :
    2 * (roundShift k s * 2 ^ s) ≤ 2 * k + 2 ^ s ∧ 2 * k ≤ 2 * (roundShift k s * 2 ^ s) + 2 ^ s := by
  have hD : 0 < 2 ^ s := Nat.two_pow_pos s
  have hdm := Nat.div_add_mod k (2 ^ s)
  have hr := Nat.mod_lt k hD
  unfold roundShift
  simp only
  generalize 2 ^ s = D at *
  generalize hn : k / D = n at *
  generalize k % D = r at *
  split
  · next hc =>
    rw [Nat.add_mul, Nat.mul_comm n D]
    generalize D * n = nd at *
    omega
  · next hc =>
    rw [Nat.mul_comm n D]
    generalize D * n = nd at *
    omega

theorem rs_upper (k s : Nat) : 2 * (roundShift k s * 2 ^ s) ≤ 2 * k + 2 ^ s := (rs_near k s).1

theorem rs_lower (k s : Nat) : 2 * k ≤ 2 * (roundShift k s * 2 ^ s) + 2 ^ s := (rs_near k s).2

theorem rs_exact (g s : Nat) : roundShift (g * 2 ^ s) s = g := by
  have hD : 0 < 2 ^ s := Nat.two_pow_pos s
  unfold roundShift
  simp only [Nat.mul_mod_left, Nat.mul_div_cancel _ hD]
  split
  · next hc => omega
  · rfl

theorem rs_mono {k1 k2 : Nat} (s : Nat) (h : k1 ≤ k2) : roundShift k1 s ≤ roundShift k2 s := by
  have hdiv : k1 / 2 ^ s ≤ k2 / 2 ^ s := Nat.div_le_div_right h
  rcases Nat.lt_or_ge (k1 / 2 ^ s) (k2 / 2 ^ s) with hlt | hge
  · exact Nat.le_trans (rs_le_succ k1 s) (Nat.le_trans hlt (div_le_rs k2 s))
  · -- same quotient: the remainders are ordered like the arguments
    have heq : k1 / 2 ^ s = k2 / 2 ^ s := Nat.le_antisymm hdiv hge
    have hr : k1 % 2 ^ s ≤ k2 % 2 ^ s := by
      have h1 := Nat.div_add_mod k1 (2 ^ s)
      have h2 := Nat.div_add_mod k2 (2 ^ s)
      rw [heq] at h1
      generalize 2 ^ s * (k2 / 2 ^ s) = q at h1 h2
      omega
    unfold roundShift
    simp only [heq]
    split
    · next hc1 => rw [if_pos (up_mono hr hc1)]; exact Nat.le_refl _
    · split
      · exact Nat.le_succ _
      · exact Nat.le_refl _

theorem rs_le_of_le {k g s : Nat} (h : k ≤ g * 2 ^ s) : roundShift k s ≤ g := by
  have := rs_mono s h
  rwa [rs_exact] at this

theorem rs_ge_of_ge {k g s : Nat} (h : g * 2 ^ s ≤ k) : g ≤ roundShift k s := by
  have := rs_mono s h
  rwa [rs_exact] at this

theorem le_shiftOf (x k : Nat) : x ≤ shiftOf x k := by unfold shiftOf; omega

theorem shiftOf_mono (x : Nat) {k1 k2 : Nat} (h : k1 ≤ k2) : shiftOf x k1 ≤ shiftOf x k2 :=
  Nat.max_le.2 ⟨Nat.le_trans (Nat.sub_le_sub_right (bitLen_mono h) 53) (Nat.le_max_left _ _),
    Nat.le_max_right _ _⟩

theorem lt_pow_shiftOf (x k : Nat) : k < 2 ^ (shiftOf x k + 53) := by
  apply (bitLen_le_iff k _).1
  unfold shiftOf
  omega

theorem pow_mul_pow_sub {a b : Nat} (h : b ≤ a) : 2 ^ (a - b) * 2 ^ b = 2 ^ a := by
  rw [← Nat.pow_add]; congr 1; omega

/-- A shift above the minimum `x` means that all 53 significant bits are in use. -/
theorem pow_le_of_lt_shiftOf {x k s : Nat} (hx : x ≤ s) (h : s < shiftOf x k) :
    2 ^ 52 * 2 ^ shiftOf x k ≤ k := by
  have hb : bitLen k = shiftOf x k + 53 := by unfold shiftOf at h ⊢; omega
  have hk : k ≠ 0 := by rintro rfl; simp [bitLen] at hb
  have := pow_bitLen_le k hk
  rwa [hb, Nat.add_sub_assoc (by decide), Nat.add_comm, Nat.pow_add] at this

/-- Values in different binades: the boundary `2^(s2+52)` separates them and lies on both grids. -/
theorem binade_step {x s1 s2 k1 k2 : Nat} (hx : x ≤ s1) (hlt : s1 < s2) (hup : k1 < 2 ^ (s1 + 53))
    (hlow : 2 ^ 52 * 2 ^ s2 ≤ k2) :
    roundShift k1 s1 * 2 ^ (s1 - x) ≤ roundShift k2 s2 * 2 ^ (s2 - x) := by
  have hle : s1 ≤ s2 + 52 := Nat.le_trans (Nat.le_of_lt hlt) (Nat.le_add_right _ _)
  have he : s2 + 52 - s1 + (s1 - x) = 52 + (s2 - x) := by
    rw [Nat.sub_add_sub_cancel hle hx, Nat.add_comm s2 52,
      Nat.add_sub_assoc (Nat.le_trans hx (Nat.le_of_lt hlt))]
  have h1 : roundShift k1 s1 ≤ 2 ^ (s2 + 52 - s1) := by
    apply rs_le_of_le
    rw [pow_mul_pow_sub hle]
    exact Nat.le_of_lt (Nat.lt_of_lt_of_le hup
      (Nat.pow_le_pow_right (by decide) (Nat.add_le_add_right (Nat.succ_le_of_lt hlt) 52)))
  calc roundShift k1 s1 * 2 ^ (s1 - x)
      ≤ 2 ^ (s2 + 52 - s1) * 2 ^ (s1 - x) := Nat.mul_le_mul_right _ h1
    _ = 2 ^ 52 * 2 ^ (s2 - x) := by rw [← Nat.pow_add, ← Nat.pow_add, he]
    _ ≤ roundShift k2 s2 * 2 ^ (s2 - x) := Nat.mul_le_mul_right _ (rs_ge_of_ge hlow)

theorem rneNat_mono (x : Nat) {k1 k2 : Nat} (h : k1 ≤ k2) : rneNat x k1 ≤ rneNat x k2 := by
  unfold rneNat
  rcases Nat.lt_or_ge (shiftOf x k1) (shiftOf x k2) with hlt | hge
  · exact binade_step (le_shiftOf x k1) hlt (lt_pow_shiftOf x k1)
      (pow_le_of_lt_shiftOf (le_shiftOf x k1) hlt)
  · rw [Nat.le_antisymm (shiftOf_mono x h) hge]
    exact Nat.mul_le_mul_right _ (rs_mono _ h)

/-- **Identity on binary64 values** (`f` double, in any unit `x`). -/
theorem rneNat_exact (x f : Nat) (hf : IsF64 f) : rneNat x (f * 2 ^ x) = f := by
  obtain ⟨m, q, hm, rfl⟩ := hf
  unfold rneNat
  have hx := le_shiftOf x (m * 2 ^ q * 2 ^ x)
  have hsq : shiftOf x (m * 2 ^ q * 2 ^ x) ≤ q + x := by
    have : m * 2 ^ q * 2 ^ x < 2 ^ (53 + (q + x)) := by
      rw [Nat.mul_assoc, ← Nat.pow_add, Nat.pow_add 2 53]
      exact Nat.mul_lt_mul_of_pos_right hm (Nat.two_pow_pos _)
    have := (bitLen_le_iff _ _).2 this
    unfold shiftOf
    omega
  generalize shiftOf x (m * 2 ^ q * 2 ^ x) = s at *
  have e : m * 2 ^ q * 2 ^ x = (m * 2 ^ (q + x - s)) * 2 ^ s := by
    rw [Nat.mul_assoc, Nat.mul_assoc, ← Nat.pow_add, pow_mul_pow_sub hsq]
  rw [e, rs_exact, Nat.mul_assoc, ← Nat.pow_add]
  congr 2
  omega

theorem rneNat_exact0 (f : Nat) (hf : IsF64 f) : rneNat 0 f = f := by
  have e := rneNat_exact 0 f hf
  rwa [Nat.pow_zero, Nat.mul_one] at e

theorem rneNat_isF64 (x k : Nat) : IsF64 (rneNat x k) := by
  unfold rneNat
  have hlt := lt_pow_shiftOf x k
  generalize shiftOf x k = s at *
  have hle : roundShift k s ≤ 2 ^ 53 := by
    apply rs_le_of_le
    rw [← Nat.pow_add, Nat.add_comm]
    exact Nat.le_of_lt hlt
  rcases Nat.lt_or_ge (roundShift k s) (2 ^ 53) with h | h
  · exact ⟨_, _, h, rfl⟩
  · have : roundShift k s = 2 ^ 53 := Nat.le_antisymm hle h
    refine ⟨2 ^ 52, s - x + 1, by decide, ?_⟩
    rw [this, Nat.pow_succ 2 (s - x)]
    generalize 2 ^ (s - x) = P
    omega

theorem isF64_zero : IsF64 0 := ⟨0, 0, by decide, rfl⟩
theorem isF64_pow (e : Nat) : IsF64 (2 ^ e) := ⟨1, e, by decide, by rw [Nat.one_mul]⟩

/-- The double 1.0 (in units of 2^-1074). -/
def oneN : Nat := 2 ^ 1074

theorem one_eq : (one : Int) = ((oneN : Nat) : Int) := by
  simp [one, oneN]

theorem bitLen_of_range {k e : Nat} (h1 : 2 ^ e ≤ k) (h2 : k < 2 ^ (e + 1)) : bitLen k = e + 1 := by
  have hle := (bitLen_le_iff k (e + 1)).2 h2
  have hge : ¬ bitLen k ≤ e := fun h => by
    have := (bitLen_le_iff k e).1 h
    omega
  omega

/-- `rneNat` (unit 2^-1074) on `k = q·2^s + r`, `s` the shift of `k`: the quotient `q` rounded by the
remainder `r`. -/
theorem rneNat_of_binade {k s q r : Nat} (hs : shiftOf 0 k = s) (hk : k = q * 2 ^ s + r)
    (hr : r < 2 ^ s) :
    rneNat 0 k = (if 2 * r > 2 ^ s ∨ (2 * r = 2 ^ s ∧ q % 2 = 1) then q + 1 else q) * 2 ^ s := by
  have hq : k / 2 ^ s = q := by
    rw [hk, Nat.add_comm, Nat.add_mul_div_right _ _ (Nat.two_pow_pos s), Nat.div_eq_of_lt hr, Nat.zero_add]
  have hm : k % 2 ^ s = r := by
    rw [hk, Nat.add_comm, Nat.add_mul_mod_self_right, Nat.mod_eq_of_lt hr]
  unfold rneNat roundShift
  simp only [hs, hq, hm, Nat.sub_zero]

theorem shiftOf_of_range {k e : Nat} (h1 : 2 ^ e ≤ k) (h2 : k < 2 ^ (e + 1)) :
    shiftOf 0 k = e + 1 - 53 := by
  unfold shiftOf
  rw [bitLen_of_range h1 h2]
  exact Nat.max_eq_left (Nat.zero_le _)

theorem two_pow_1074 : (2 : Nat) ^ 1074 = 2 ^ 52 * 2 ^ 1022 := by rw [← Nat.pow_add]

theorem two_pow_1022 : (2 : Nat) ^ 1022 = 2 * 2 ^ 1021 := by rw [Nat.mul_comm, ← Nat.pow_succ]

/-- In the binade of 1 the grid is 2⁻⁵². -/
theorem shiftOf_near_one {k : Nat} (h1 : 2 ^ 1074 ≤ k) (h2 : k ≤ 2 ^ 1074 + 2 ^ 1022) :
    shiftOf 0 k = 1022 := by
  refine shiftOf_of_range (e := 1074) h1 ?_
  have : (2 : Nat) ^ 1022 < 2 ^ 1074 := Nat.pow_lt_pow_right (by decide) (by decide)
  have e2 : (2 : Nat) ^ (1074 + 1) = 2 ^ 1074 + 2 ^ 1074 := by rw [Nat.pow_succ]; omega
  omega

/-- **Anything up to 1 + 2⁻⁵³ rounds to at most 1** (unit 2^-1074): above 1 the grid is 2⁻⁵², the
midpoint to the next double is a tie and 1 has the even mantissa. -/
theorem rneNat_le_one (k : Nat) (h : k ≤ oneN + 2 ^ 1021) : rneNat 0 k ≤ oneN := by
  rcases Nat.lt_or_ge k oneN with hlt | hge
  · have := rneNat_mono 0 (Nat.le_of_lt hlt)
    rwa [rneNat_exact0 oneN (isF64_pow 1074)] at this
  · -- k = 2^52 · 2^1022 + r with r ≤ 2^1021: quotient 2^52 (even), remainder at most half
    unfold oneN at *
    have e3 := two_pow_1022
    have hr : k - 2 ^ 1074 < 2 ^ 1022 := by omega
    rw [rneNat_of_binade (q := 2 ^ 52) (r := k - 2 ^ 1074) (shiftOf_near_one hge (by omega))
      (by rw [← two_pow_1074]; omega) hr, if_neg, ← two_pow_1074]
    · exact Nat.le_refl _
    · rintro (hc | ⟨_, hc⟩)
      · omega
      · have : (2 : Nat) ^ 52 % 2 = 0 := by decide
        omega

/-- The bound is attained: 1 + 2⁻⁵³ itself rounds to 1 (at most 1 by `rneNat_le_one`, at least 1
because 1 is a double and rounding is monotone). -/
theorem rneNat_tie_one : rneNat 0 (2 ^ 1074 + 2 ^ 1021) = 2 ^ 1074 := by
  have hle := rneNat_le_one (oneN + 2 ^ 1021) (Nat.le_refl _)
  have hge : oneN ≤ rneNat 0 (oneN + 2 ^ 1021) := by
    have := rneNat_mono 0 (Nat.le_add_right oneN (2 ^ 1021))
    rwa [rneNat_exact0 oneN (isF64_pow 1074)] at this
  unfold oneN at hle hge
  exact Nat.le_antisymm hle hge

/-- For `y ≤ 1` rounding (unit 2^-1074) goes up by at most 2⁻⁵⁴. -/
theorem rneNat_err_le (y : Nat) (h : y ≤ oneN) : rneNat 0 y ≤ y + 2 ^ 1021 := by
  unfold rneNat
  have hs : shiftOf 0 y ≤ 1022 := by
    have : bitLen y ≤ 1075 := (bitLen_le_iff _ _).2 (Nat.lt_of_le_of_lt h (by
      unfold oneN; exact Nat.pow_lt_pow_right (by decide) (by decide)))
    unfold shiftOf; omega
  have hu := rs_upper y (shiftOf 0 y)
  generalize shiftOf 0 y = s at *
  have hp : 2 ^ s ≤ 2 ^ 1022 := Nat.pow_le_pow_right (by decide) hs
  have e3 : (2 : Nat) ^ 1022 = 2 * 2 ^ 1021 := by rw [Nat.mul_comm, ← Nat.pow_succ]
  rw [Nat.sub_zero]
  omega

/-- `rne(a · c) ≤ a` for a double `a` and `c ≤ 1`. -/
theorem mul_le_left (a c : Nat) (ha : IsF64 a) (hc : c ≤ oneN) : rneNat 1074 (a * c) ≤ a := by
  have h1 : a * c ≤ a * 2 ^ 1074 := Nat.mul_le_mul_left _ hc
  have := rneNat_mono 1074 h1
  rwa [rneNat_exact 1074 a ha] at this

/-- `p ≤ rne(p + t)` for a double `p`. -/
theorem add_ge_left (p t : Nat) (hp : IsF64 p) : p ≤ rneNat 0 (p + t) := by
  have := rneNat_mono 0 (Nat.le_add_right p t)
  rwa [rneNat_exact0 p hp] at this

/-- `rne(p + t) ≤ 1` whenever `t ≤ rne(1 − p)`: the subtraction errs by at most 2⁻⁵⁴ and
everything up to 1 + 2⁻⁵³ rounds to 1. -/
theorem add_one_sub_le_one (p t : Nat) (hp : p ≤ oneN) (ht : t ≤ rneNat 0 (oneN - p)) :
    rneNat 0 (p + t) ≤ oneN := by
  apply rneNat_le_one
  have := rneNat_err_le (oneN - p) (Nat.sub_le _ _)
  omega

theorem rneNat_sub_le_one (p : Nat) : rneNat 0 (oneN - p) ≤ oneN := by
  have := rneNat_mono 0 (Nat.sub_le oneN p)
  rwa [rneNat_exact0 oneN (isF64_pow 1074)] at this

theorem rne_ofNat (x k : Nat) : rne x (k : Int) = ((rneNat x k : Nat) : Int) := by
  unfold rne
  have : ¬ ((k : Int) < 0) := by omega
  simp [this]

end Dtn7.Lemmas.F64
