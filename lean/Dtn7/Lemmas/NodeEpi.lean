/-
`routing/epidemic/destination`: under epidemic routing every stored item carries the property, and it names
the destination of the stored bundle — at every event boundary of every history, for the code as it is
(`SendBundle` assigns a free ID first). The gate of epidemic routing reads this property.
-/
import Dtn7.Lemmas.NodeDirect
import Dtn7.Lemmas.NodeSkip

namespace Dtn7.Node

/-- As `EpiOk`, except that the item of the bundle being accepted right now may still be without the property
(between `Store.Push` and `NotifyNewBundle`). -/
def EpiOk' (b : Bundle) (n : Node) : Prop :=
  ∀ k it, n.store.get k = some it →
    it.rt.epiDst = some it.bundle.dst ∨ (k = b.key ∧ it.bundle = b ∧ it.rt.epiDst = none)

theorem EpiOk.weak {n : Node} (b : Bundle) (h : EpiOk n) : EpiOk' b n := fun k it hg => Or.inl (h k it hg)

theorem present_of_rt {k : Key} {n n' : Node} (h : RtStep k n n') (hp : (n.store.get k).isSome = true) :
    (n'.store.get k).isSome = true := by
  cases h0 : n.store.get k with
  | none => rw [h0] at hp; cases hp
  | some it0 =>
    rcases h.item it0 h0 with ⟨it1, g1, _⟩
    rw [g1]; rfl

/-- Routing bookkeeping never changes a written `routing/epidemic/destination`. -/
theorem rtStep_epiOk {k : Key} {n n' : Node} (h : RtStep k n n') (ho : EpiOk n) : EpiOk n' :=
  items_step ho h.only.other fun it' hg => by
    cases h0 : n.store.get k with
    | none => rw [h.absent h0] at hg; cases hg
    | some it0 =>
      rcases h.item it0 h0 with ⟨it1, g1, b1, _, _, _, _, d1⟩
      cases hg.symm.trans g1
      rw [b1]
      exact d1 _ (ho _ _ h0)

/-- An item that `Sync` updates keeps its bundle and its routing properties. -/
theorem syncItem_of_some {d : Desc} {n : Node} {it0 it : Item} (h0 : n.store.get d.key = some it0)
    (h : syncItem d n = some it) : it.bundle = it0.bundle ∧ it.rt = it0.rt := by
  unfold syncItem at h
  rw [h0] at h
  dsimp only at h
  split at h
  · cases h
  · cases h; exact ⟨rfl, rfl⟩

theorem sync_epiOk (d : Desc) (n : Node) (ho : EpiOk n)
    (hp : (n.store.get d.key).isSome = true ∨ d.bndl = none) : EpiOk (sync d n) := by
  have hb : n.store.get d.key = none → ∀ b, d.bndl = some b → b.key = d.key := by
    intro h0 b hb
    rcases hp with hp | hp
    · rw [h0] at hp; cases hp
    · rw [hp] at hb; cases hb
  refine items_step ho (fun k' hk => by rw [sync_get d n hb, if_neg hk]) fun it hg => ?_
  rw [sync_get d n hb, if_pos rfl] at hg
  cases h0 : n.store.get d.key with
  | none =>
    rcases hp with hp | hp
    · rw [h0] at hp; cases hp
    · simp [syncItem, h0, hp] at hg
  | some it0 =>
    rcases syncItem_of_some h0 hg with ⟨e1, e2⟩
    rw [e1, e2]
    exact ho _ it0 h0

theorem sync_present (d : Desc) (n : Node) (hc : d.cons.isEmpty = false)
    (hp : (n.store.get d.key).isSome = true) : ((sync d n).store.get d.key).isSome = true := by
  cases h0 : n.store.get d.key with
  | none => rw [h0] at hp; cases hp
  | some it0 => rw [sync_update d n it0 h0 hc]; rfl

theorem sync_epiOk' (b : Bundle) (d : Desc) (n : Node) (hb : d.bndl = some b) (hk : b.key = d.key)
    (ho : EpiOk' b n) : EpiOk' b (sync d n) := by
  have hbk : n.store.get d.key = none → ∀ b0, d.bndl = some b0 → b0.key = d.key :=
    fun _ b0 h => by cases hb.symm.trans h; exact hk
  refine items_step ho (fun k' hk' => by rw [sync_get d n hbk, if_neg hk']) fun it hg => ?_
  rw [sync_get d n hbk, if_pos rfl] at hg
  cases h0 : n.store.get d.key with
  | none =>
    simp only [syncItem, h0, hb, Option.map_some, Option.some.injEq] at hg
    subst hg
    exact Or.inr ⟨hk.symm, rfl, rfl⟩
  | some it0 =>
    rcases syncItem_of_some h0 hg with ⟨e1, e2⟩
    rw [e1, e2]
    exact ho _ it0 h0

/-- Deleting the item of the bundle being accepted leaves only items that carry the property. -/
theorem epiOk_of_erased (b : Bundle) (n n' : Node) (ho : EpiOk' b n) (hk : OnlyKey b.key n n')
    (hn : n'.store.get b.key = none) : EpiOk n' := by
  intro k it hg
  by_cases hkk : k = b.key
  · subst hkk; rw [hn] at hg; cases hg
  · rw [hk.other k hkk] at hg
    rcases ho k it hg with h | ⟨h, _⟩
    · exact h
    · exact absurd h hkk

theorem epiNotify_sets (b : Bundle) (r : Routing) (h : r.epiDst = none) : (epiNotify b r).epiDst = some b.dst := by
  unfold epiNotify
  simp only [h, Option.isNone_none, if_true]
  cases b.prev with
  | none => rfl
  | some p => simp only; split <;> rfl

theorem notifyNew_epiOk (b : Bundle) (n : Node) (halgo : n.cfg.algo = .epidemic) (ho : EpiOk' b n) :
    EpiOk (notifyNew b.key b n) := by
  unfold notifyNew
  simp only [halgo]
  intro k it hg
  by_cases hk : k = b.key
  · subst hk
    rw [modRt_get] at hg
    cases h0 : n.store.get b.key with
    | none => rw [h0] at hg; cases hg
    | some it0 =>
      rw [h0] at hg
      simp only [Option.map_some] at hg
      cases hg
      rcases ho _ _ h0 with h | ⟨_, hb, hn⟩
      · exact epiNotify_keeps b _ _ h
      · show (epiNotify b it0.rt).epiDst = some it0.bundle.dst
        rw [hb]
        exact epiNotify_sets b _ hn
  · rw [(modRt_only _ _ n).other k hk] at hg
    rcases ho k it hg with h | ⟨h, _⟩
    · exact h
    · exact absurd h hk

theorem forward_epiOk (env : Env) (d : Desc) (b : Bundle) (n : Node) (ho : EpiOk n)
    (hp : (n.store.get d.key).isSome = true) : EpiOk (forward env d b n).1 := by
  have h1 := sync_epiOk (fwdDesc d) n ho (Or.inl hp)
  have p1 := sync_present (fwdDesc d) n (fwdDesc_nonempty d) hp
  by_cases hf : forwardable n.now b
  · rw [forward_sends env d b n hf]
    generalize hr : selectSenders env (fwdDesc d) b (sync (fwdDesc d) n) = r
    have hrt := selectSenders_rt env (fwdDesc d) b (sync (fwdDesc d) n)
    have hkey := (selectSenders_desc env (fwdDesc d) b (sync (fwdDesc d) n)).1
    rw [hr] at hrt hkey
    have hs := sendAll_rt env r.2.2.1 b r.1 r.2.2.2
    rw [hkey] at hs
    have h3 := rtStep_epiOk hs (rtStep_epiOk hrt h1)
    have p3 : ((sendAll env r.2.2.1 b r.1 r.2.2.2).1.store.get r.2.2.1.key).isSome = true := by
      rw [hkey]; exact present_of_rt hs (present_of_rt hrt p1)
    unfold forwardSend
    simp only
    split
    · exact sync_epiOk _ _ h3 (Or.inl p3)
    · exact sync_epiOk _ _ h3 (Or.inl p3)
  · rw [forward_refused env d b n hf]
    exact sync_epiOk _ _ h1 (Or.inl p1)

theorem localDelivery_epiOk (d : Desc) (n : Node) (ho : EpiOk n) (hp : (n.store.get d.key).isSome = true) :
    EpiOk (localDelivery d n) := by
  unfold localDelivery
  simp only
  have hne : ({ d.cons with le := true } : Cons).isEmpty = false := by simp [Cons.isEmpty]
  have h1 := sync_epiOk { d with cons := { d.cons with le := true } } n ho (Or.inl hp)
  have p1 := sync_present { d with cons := { d.cons with le := true } } n hne hp
  exact sync_epiOk _ _ h1 (Or.inl p1)

/-- `dispatching` of a stored bundle (or of a descriptor without in-memory bundle) keeps the invariant. -/
theorem dispatching_epiOk (env : Env) (d : Desc) (n : Node) (ho : EpiOk n)
    (hp : (n.store.get d.key).isSome = true ∨ d.bndl = none) : EpiOk (dispatching env d n).1 := by
  have hpres : ∀ b, d.bundle n = some b → (n.store.get d.key).isSome = true := by
    intro b hb
    rcases hp with h | h
    · exact h
    · rcases Desc.bundle_eq hb with h' | ⟨_, it, g, _⟩
      · rw [h] at h'; cases h'
      · rw [g]; rfl
  rcases dispatching_cases env d n with ⟨ha, he⟩ | ⟨_, ⟨_, he⟩ | ⟨b, hb, ⟨_, he⟩ | ⟨_, he⟩⟩⟩ <;> rw [he]
  · have hrt := dispatchingAllowed_rt env d n
    rw [ha] at hrt
    have h1 := rtStep_epiOk hrt ho
    split
    · exact sync_epiOk _ _ h1 (hp.imp (present_of_rt hrt) id)
    · exact h1
  · exact ho
  · exact localDelivery_epiOk _ _ ho (hpres b hb)
  · exact forward_epiOk env _ b _ ho (hpres b hb)

theorem dispatchKeys_epiOk (env : Env) : ∀ (ks : List Key) (n : Node), EpiOk n → EpiOk (dispatchKeys env ks n).1
  | [], _, ho => ho
  | k :: ks, n, ho => by
    simp only [dispatchKeys]
    exact dispatchKeys_epiOk env ks _ (dispatching_epiOk env (newDesc n k) n ho (Or.inr (newDesc_bndl n k)))

theorem checkPending_epiOk (env : Env) (n : Node) (ho : EpiOk n) : EpiOk (checkPending env n).1 :=
  dispatchKeys_epiOk env _ n ho

theorem deleteExpired_epiOk (n : Node) (ho : EpiOk n) : EpiOk (deleteExpired n) := by
  intro k it hg
  unfold deleteExpired at hg
  simp only [Store.get_foldl_erase] at hg
  split at hg
  · cases hg
  · exact ho k it hg

theorem receive_epiOk (env : Env) (b : Bundle) (r : Option Eid) (n : Node) (halgo : n.cfg.algo = .epidemic)
    (ho : EpiOk n) : EpiOk (receive env b r n).1 := by
  rcases receive_cases env b r n with ⟨it, hg, hne, heq⟩ | ⟨_, cs, m, itm, hst, hgm, hbm, hrt, hdeleted, heq⟩
  · have p0 : (n.store.get b.key).isSome = true := by rw [hg]; rfl
    rw [heq]
    exact sync_epiOk ⟨b.key, r, it.cons, some b⟩ _
      (sync_epiOk ⟨b.key, it.receiver, it.cons, some b⟩ n ho (Or.inl p0))
      (Or.inl (sync_present ⟨b.key, it.receiver, it.cons, some b⟩ n hne p0))
  · -- the accepted item is fresh: it has the bundle and no routing property yet
    have o3 : EpiOk' b m := by
      intro k it hg
      by_cases hk : k = b.key
      · subst hk
        cases hgm.symm.trans hg
        exact Or.inr ⟨rfl, hbm, by rw [hrt]; rfl⟩
      · rw [hst.only.other k hk] at hg
        exact Or.inl (ho k it hg)
    rw [heq]
    cases hdel : b.delBlock
    · simp only [Bool.false_eq_true, if_false]
      have h1 : EpiOk (notifyNew b.key b m) := notifyNew_epiOk b m (by rw [hst.only.env.cfg]; exact halgo) o3
      exact dispatching_epiOk env ⟨b.key, r, cs, some b⟩ _ h1
        (Or.inl (present_of_rt (notifyNew_rt b.key b m) (by rw [hgm]; rfl)))
    · simp only [if_true]
      exact epiOk_of_erased b _ _ o3
        (bundleDeletion_step (d := ⟨b.key, r, cs, some b⟩) (Carries.of_eq (b := b) rfl rfl) _).only hdeleted

theorem transmit_epiOk (env : Env) (d : Desc) (b : Bundle) (n : Node) (hseq : n.cfg.seqFirst = true)
    (ho : EpiOk n) (hp : (n.store.get d.key).isSome = true) : EpiOk (transmit env d b n).1 := by
  unfold transmit
  simp only [hseq, if_true]
  have hne : ({ d.cons with dp := true } : Cons).isEmpty = false := by simp [Cons.isEmpty]
  have o3 := sync_epiOk { d with bndl := some b, cons := { d.cons with dp := true } } n ho (Or.inl hp)
  have p3 := sync_present { d with bndl := some b, cons := { d.cons with dp := true } } n hne hp
  split
  · unfold bundleDeletion
    exact sync_epiOk _ _ o3 (Or.inl p3)
  · exact dispatching_epiOk env _ _ o3 (Or.inl p3)

theorem sendBundle_epiOk (env : Env) (b : Bundle) (n : Node) (halgo : n.cfg.algo = .epidemic)
    (hseq : n.cfg.seqFirst = true) (hskip : n.cfg.skipStored = true) (ho : EpiOk n) :
    EpiOk (sendBundle env b n).1 := by
  rcases preSend_of_cur b n hseq hskip with ⟨x, hx⟩
  have hfree := (assignSeq_free b n hskip).2.2
  rw [sendBundle_fresh env b n _ x hx hfree]
  generalize (assignSeq b n).1 = b' at hfree ⊢
  have hm : EpiOk (n.setIdk x) := fun k it hg => ho k it hg
  have o1 : EpiOk' b' (push b' (n.setIdk x)) := by
    rw [← sync_push ⟨b'.key, none, Cons.empty, some b'⟩ (n.setIdk x) b' hfree rfl]
    exact sync_epiOk' b' _ _ rfl rfl (hm.weak b')
  rcases fresh_start b' (n.setIdk x) hfree with ⟨henv, _, it, g, _⟩
  have o2 := notifyNew_epiOk b' _ (by rw [(push_only b' _).env.cfg]; exact halgo) o1
  exact transmit_epiOk env _ b' _ (by rw [henv.cfg]; exact hseq) o2 (by rw [g]; rfl)

/-- **The invariant along every event**, for epidemic routing and the code as it is. -/
theorem epiOk_step (env : Env) (n : Node) (e : Event) (halgo : n.cfg.algo = .epidemic)
    (hseq : n.cfg.seqFirst = true) (hskip : n.cfg.skipStored = true) (ho : EpiOk n) :
    EpiOk (step env n e).1 := by
  have key : EpiOk (stepCore env n e).1 := by
    cases e with
    | submit b => exact sendBundle_epiOk env b n halgo hseq hskip ho
    | receive b r => exact receive_epiOk env b r n halgo ho
    | peerUp p =>
      simp only [stepCore]
      apply checkPending_epiOk
      split <;> exact ho
    | peerDown a => exact ho
    | retryTick => exact checkPending_epiOk env n ho
    | cleanTick t => exact deleteExpired_epiOk _ ho
    | restart => exact ho
  exact key

end Dtn7.Node
