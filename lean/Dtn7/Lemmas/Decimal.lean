import Dtn7.Model.EidText
import Dtn7.Lemmas.Cbor

/-! Decimal printing / parsing of natural numbers (`%d`, `strconv.ParseUint`). -/
namespace Dtn7.EidText.Lemmas
open Dtn7.Cbor (Bytes)
open Dtn7.EidText

theorem toDigitsF_indep : ∀ (n f g : Nat), n ≤ f → n ≤ g → toDigitsF f n = toDigitsF g n := by
  intro n
  induction n using Nat.strongRecOn with
  | _ n ih =>
    intro f g hf hg
    cases f with
    | zero =>
      have : n = 0 := by omega
      subst this
      cases g <;> simp [toDigitsF]
    | succ f =>
      cases g with
      | zero =>
        have : n = 0 := by omega
        subst this
        simp [toDigitsF]
      | succ g =>
        simp only [toDigitsF]
        by_cases h : n < 10
        · simp [h]
        · simp only [h, ↓reduceIte]
          rw [ih (n / 10) (by omega) f g (by omega) (by omega)]

theorem toDigits_eq (n : Nat) : toDigits n = if n < 10 then [n] else toDigits (n / 10) ++ [n % 10] := by
  unfold toDigits
  cases n with
  | zero => simp [toDigitsF]
  | succ n =>
    simp only [toDigitsF]
    by_cases h : n + 1 < 10
    · simp [h]
    · simp only [h, ↓reduceIte]
      rw [toDigitsF_indep ((n + 1) / 10) n ((n + 1) / 10) (by omega) (Nat.le_refl _)]

theorem toDigits_small {n : Nat} (h : n < 10) : toDigits n = [n] := by
  rw [toDigits_eq]; simp [h]

theorem toDigits_big {n : Nat} (h : ¬ n < 10) : toDigits n = toDigits (n / 10) ++ [n % 10] := by
  rw [toDigits_eq]; simp [h]

theorem valBE_snoc (l : List Nat) (d : Nat) : valBE (l ++ [d]) = 10 * valBE l + d := by
  simp [valBE, List.foldl_append]

theorem valBE_toDigits (n : Nat) : valBE (toDigits n) = n := by
  induction n using Nat.strongRecOn with
  | _ n ih =>
    by_cases h : n < 10
    · rw [toDigits_small h]; simp [valBE]
    · rw [toDigits_big h, valBE_snoc, ih (n / 10) (by omega)]; omega

theorem toDigits_lt (n : Nat) : ∀ d ∈ toDigits n, d < 10 := by
  induction n using Nat.strongRecOn with
  | _ n ih =>
    by_cases h : n < 10
    · rw [toDigits_small h]; simp [h]
    · rw [toDigits_big h]
      intro d hd
      simp only [List.mem_append, List.mem_singleton] at hd
      rcases hd with hd | hd
      · exact ih (n / 10) (by omega) d hd
      · omega

theorem toDigits_head (n : Nat) (hn : 0 < n) : ∃ d t, toDigits n = d :: t ∧ d ≠ 0 := by
  induction n using Nat.strongRecOn with
  | _ n ih =>
    by_cases h : n < 10
    · exact ⟨n, [], toDigits_small h, by omega⟩
    · obtain ⟨d, t, ht, hd⟩ := ih (n / 10) (by omega) (by omega)
      exact ⟨d, t ++ [n % 10], by rw [toDigits_big h, ht]; rfl, hd⟩

theorem toDigits_ne_nil (n : Nat) : toDigits n ≠ [] := by
  by_cases h : n < 10
  · rw [toDigits_small h]; simp
  · rw [toDigits_big h]; simp

theorem toDigits_foldl (ds : List Nat) : ∀ acc, 0 < acc → (∀ d ∈ ds, d < 10) →
    toDigits (ds.foldl (fun a d => 10 * a + d) acc) = toDigits acc ++ ds := by
  induction ds with
  | nil => intro acc _ _; simp
  | cons d t ih =>
    intro acc hacc hds
    have hd : d < 10 := hds d (by simp)
    simp only [List.foldl_cons]
    rw [ih (10 * acc + d) (by omega) (fun x hx => hds x (by simp [hx]))]
    have hbig : ¬ (10 * acc + d < 10) := by omega
    rw [toDigits_big hbig]
    have h1 : (10 * acc + d) / 10 = acc := by omega
    have h2 : (10 * acc + d) % 10 = d := by omega
    rw [h1, h2]
    simp

/-- **Uniqueness of the decimal form**: a non-empty digit string without a superfluous leading zero is
the printed form of its value. -/
theorem toDigits_valBE (ds : List Nat) (hne : ds ≠ []) (hlt : ∀ d ∈ ds, d < 10)
    (hz : 1 < ds.length → ds.head? ≠ some 0) : toDigits (valBE ds) = ds := by
  cases ds with
  | nil => exact absurd rfl hne
  | cons d0 t =>
    have hd0 : d0 < 10 := hlt d0 (by simp)
    cases t with
    | nil => simp [valBE, toDigits_small hd0]
    | cons d1 t' =>
      have hnz : d0 ≠ 0 := by
        intro h0
        apply hz (by simp)
        simp [h0]
      have : valBE (d0 :: d1 :: t') = (d1 :: t').foldl (fun a d => 10 * a + d) d0 := by
        simp [valBE]
      rw [this, toDigits_foldl (d1 :: t') d0 (by omega) (fun x hx => hlt x (by simp only [List.mem_cons] at hx ⊢; exact Or.inr hx))]
      rw [toDigits_small hd0]
      rfl

def digitByte (d : Nat) : UInt8 := UInt8.ofNat (48 + d)
def byteDigit (b : UInt8) : Nat := b.toNat - 48

theorem printDec_eq (n : Nat) : printDec n = (toDigits n).map digitByte := rfl

theorem digitByte_toNat {d : Nat} (h : d < 10) : (digitByte d).toNat = 48 + d := by
  unfold digitByte
  rw [Dtn7.Cbor.Lemmas.toNat_ofNat_lt _ (by omega)]

theorem isDigit_digitByte {d : Nat} (h : d < 10) : isDigit (digitByte d) = true := by
  unfold isDigit
  rw [digitByte_toNat h]
  simp
  omega

theorem byteDigit_digitByte {d : Nat} (h : d < 10) : byteDigit (digitByte d) = d := by
  unfold byteDigit
  rw [digitByte_toNat h]
  omega

theorem digitByte_byteDigit {b : UInt8} (h : isDigit b = true) : digitByte (byteDigit b) = b := by
  unfold isDigit at h
  simp only [Bool.and_eq_true, decide_eq_true_eq] at h
  unfold digitByte byteDigit
  apply UInt8.toNat_inj.mp
  rw [Dtn7.Cbor.Lemmas.toNat_ofNat_lt _ (by omega)]
  omega

theorem byteDigit_lt {b : UInt8} (h : isDigit b = true) : byteDigit b < 10 := by
  unfold isDigit at h
  simp only [Bool.and_eq_true, decide_eq_true_eq] at h
  unfold byteDigit
  omega

theorem printDec_all_digit (n : Nat) : (printDec n).all isDigit = true := by
  rw [printDec_eq, List.all_eq_true]
  intro b hb
  simp only [List.mem_map] at hb
  obtain ⟨d, hd, rfl⟩ := hb
  exact isDigit_digitByte (toDigits_lt n d hd)

theorem map_byteDigit_printDec (n : Nat) : (printDec n).map (fun b => b.toNat - 48) = toDigits n := by
  rw [printDec_eq, List.map_map]
  have : ∀ d ∈ toDigits n, ((fun b : UInt8 => b.toNat - 48) ∘ digitByte) d = d := by
    intro d hd
    exact byteDigit_digitByte (toDigits_lt n d hd)
  rw [List.map_congr_left this]
  simp

theorem printDec_no_leading_zero (n : Nat) : ¬ ((printDec n).length > 1 ∧ (printDec n).head? = some 48) := by
  intro ⟨hl, hh⟩
  by_cases hn : n = 0
  · subst hn
    rw [printDec_eq, toDigits_small (by omega)] at hl
    simp at hl
  · obtain ⟨d, t, ht, hd⟩ := toDigits_head n (by omega)
    have hdl : d < 10 := toDigits_lt n d (by rw [ht]; simp)
    rw [printDec_eq, ht] at hh
    simp only [List.map_cons, List.head?_cons, Option.some.injEq] at hh
    have := congrArg UInt8.toNat hh
    rw [digitByte_toNat hdl] at this
    simp at this
    omega

/-- **print → parse** (with or without the leading-zero rule). -/
theorem parseDec_printDec (strict : Bool) (n : Nat) : parseDec strict (printDec n) = some n := by
  unfold parseDec
  have h1 : (printDec n).isEmpty = false := by
    rw [printDec_eq]; simp [toDigits_ne_nil]
  have h3 : ¬ ((printDec n).length > 1 ∧ (printDec n).head? = some 48) := printDec_no_leading_zero n
  have h3' : (strict && decide ((printDec n).length > 1) && ((printDec n).head? == some 48)) = false := by
    cases strict with
    | false => simp
    | true =>
      simp only [Bool.true_and, Bool.and_eq_false_iff, decide_eq_false_iff_not, beq_eq_false_iff_ne, ne_eq]
      by_cases hl : (printDec n).length > 1
      · right; intro hh; exact h3 ⟨hl, hh⟩
      · left; exact hl
  simp only [h1, printDec_all_digit, Bool.not_true, Bool.or_false, Bool.false_eq_true, ↓reduceIte, h3']
  rw [map_byteDigit_printDec, valBE_toDigits]

/-- **parse → print** under the leading-zero rule: the only string that parses to `n` is `printDec n`. -/
theorem printDec_of_parseDec (bs : Bytes) (n : Nat) (h : parseDec true bs = some n) : printDec n = bs := by
  unfold parseDec at h
  by_cases h1 : (bs.isEmpty || !bs.all isDigit) = true
  · simp [h1] at h
  · simp only [h1, Bool.false_eq_true, ↓reduceIte] at h
    simp only [Bool.or_eq_true, Bool.not_eq_true', not_or, Bool.not_eq_true, Bool.not_eq_false] at h1
    obtain ⟨hne, hall⟩ := h1
    by_cases h2 : (true && decide (bs.length > 1) && (bs.head? == some 48)) = true
    · rw [if_pos h2] at h
      exact absurd h (by simp)
    · rw [if_neg h2] at h
      simp only [Option.some.injEq] at h
      rw [List.all_eq_true] at hall
      let ds := bs.map (fun b => b.toNat - 48)
      have hds_lt : ∀ d ∈ ds, d < 10 := by
        intro d hd
        simp only [ds, List.mem_map] at hd
        obtain ⟨b, hb, rfl⟩ := hd
        exact byteDigit_lt (hall b hb)
      have hds_ne : ds ≠ [] := by
        simp only [ds, ne_eq, List.map_eq_nil_iff]
        intro hnil; rw [hnil] at hne; simp at hne
      have hz : 1 < ds.length → ds.head? ≠ some 0 := by
        intro hl hh
        apply h2
        simp only [ds, List.length_map] at hl
        simp only [Bool.true_and, Bool.and_eq_true, decide_eq_true_eq, beq_iff_eq]
        refine ⟨hl, ?_⟩
        cases hb : bs with
        | nil => rw [hb] at hl; simp at hl
        | cons b t =>
          simp only [ds, hb, List.map_cons, List.head?_cons, Option.some.injEq] at hh
          have hbd : isDigit b = true := hall b (by rw [hb]; simp)
          have : b = digitByte (byteDigit b) := (digitByte_byteDigit hbd).symm
          simp only [List.head?_cons, Option.some.injEq]
          rw [this]
          unfold byteDigit
          rw [hh]
          rfl
      have := toDigits_valBE ds hds_ne hds_lt hz
      rw [← h, printDec_eq, this]
      simp only [ds, List.map_map]
      have hid : ∀ b ∈ bs, (digitByte ∘ fun b : UInt8 => b.toNat - 48) b = b := by
        intro b hb
        exact digitByte_byteDigit (hall b hb)
      rw [List.map_congr_left hid]
      simp

end Dtn7.EidText.Lemmas
