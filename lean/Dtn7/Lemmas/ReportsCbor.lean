import Dtn7.Model.ReportsCbor
import Dtn7.Lemmas.Cbor
import Dtn7.Lemmas.Reports

namespace Dtn7.Reports.Lemmas
open Dtn7.Reports Dtn7.Cbor Dtn7.Cbor.Lemmas

theorem ok_bind {α β : Type} (a : α) (f : α → Except Err β) : (Except.ok a >>= f) = f a := rfl

theorem decBool_encBool (b : Bool) (rest : Bytes) : decBool (encBool b ++ rest) = .ok (b, rest) := by
  cases b <;> simp [decBool, encBool]

theorem nodeChar_ne_slash (n : Bytes) (hn : n.all nodeChar = true) :
    n.all (· != slash) = true := by
  simp only [List.all_eq_true] at *
  intro x hx
  have h := hn x hx
  cases hxs : x == slash
  · simp [bne, hxs]
  · have : x = slash := by simpa using hxs
    subst this
    simp [nodeChar, slash] at h

theorem parseSsp_dtnSsp (n d : Bytes) (h1 : n ≠ []) (h2 : n.all nodeChar = true)
    (h3 : d.contains 10 = false) : parseSsp (dtnSsp n d) = .ok (.dtn n d) := by
  have hs : (fun (x : UInt8) => x != slash) slash = false := by simp
  simp only [dtnSsp, List.cons_append, List.nil_append, List.append_assoc, parseSsp, and_self,
    if_true]
  rw [takeWhile_sep n d slash (nodeChar_ne_slash n h2) hs, dropWhile_sep n d slash (nodeChar_ne_slash n h2) hs]
  have h3' : ¬ (10 : UInt8) ∈ d := by simpa using h3
  simp [h1, h2, h3']

theorem decEid_encEid (e : Eid) (rest : Bytes) (hw : e.wf) :
    decEid (encEid e ++ rest) = .ok (e, rest) := by
  cases e with
  | none =>
    have : decHead (encUInt 0 ++ rest) = .ok (majUInt, 0, rest) :=
      decHead_encHead majUInt 0 rest (by decide) (by decide)
    simp only [encEid, List.append_assoc, decEid, decArray_encArray, decUInt_encUInt, this, ok_bind,
      Nat.reducePow, Nat.reduceLT, ne_eq, not_true_eq_false, if_false, if_true]
  | dtn n d =>
    obtain ⟨h1, h2, h3, h4⟩ := hw
    have hl : (dtnSsp n d).length < 2 ^ 64 := by unfold maxInt32 at h4; omega
    have : decHead (encText (dtnSsp n d) ++ rest) =
        .ok (majText, (dtnSsp n d).length, dtnSsp n d ++ rest) := by
      unfold encText
      rw [List.append_assoc]
      exact decHead_encHead majText _ _ (by decide) hl
    have hne : majText ≠ majUInt := by decide
    simp only [encEid, List.append_assoc, decEid, decArray_encArray, decUInt_encUInt, this, ok_bind, hne,
      readRaw_append _ _ h4, parseSsp_dtnSsp n d h1 h2 h3,
      Nat.reducePow, Nat.reduceLT, ne_eq, not_true_eq_false, if_false, if_true]
  | ipn n s =>
    obtain ⟨h1, h2⟩ := hw
    simp only [encEid, List.append_assoc, decEid, decArray_encArray, decUInt_encUInt, decUInt_encUInt n _ h1,
      decUInt_encUInt s _ h2, ok_bind, Nat.reducePow, Nat.reduceLT, Nat.reduceEqDiff, ne_eq, not_true_eq_false, if_false, if_true]

theorem decItem_encItem (it : Item) (rest : Bytes) (hw : it.wf) :
    decItem (encItem it ++ rest) = .ok (it, rest) := by
  obtain ⟨a, t⟩ := it
  obtain ⟨h1, h2⟩ := hw
  have one : ∀ b : Bool, decItem (encArray 1 ++ (encBool b ++ rest)) = .ok (⟨b, none⟩, rest) := by
    intro b
    simp only [decItem, decArray_encArray, decBool_encBool, ok_bind, Nat.reducePow, Nat.reduceLT, Nat.reduceEqDiff,
      ne_eq, not_true_eq_false, false_and, if_false]
  cases t with
  | none => cases a <;> simp only [encItem, List.append_assoc] <;> exact one _
  | some tv =>
    cases h1 rfl
    simp only [encItem, List.append_assoc, decItem, decArray_encArray, decBool_encBool,
      decUInt_encUInt tv _ (h2 tv rfl), ok_bind, Nat.reducePow, Nat.reduceLT, Nat.reduceEqDiff, ne_eq,
      not_true_eq_false, and_false, if_false, if_true]

theorem decItems_encItems (items : List Item) (rest : Bytes) (hw : ∀ it ∈ items, it.wf) :
    decItems items.length (encItems items ++ rest) = .ok (items, rest) := by
  induction items with
  | nil => simp [decItems, encItems]
  | cons it t ih =>
    simp only [List.length_cons, decItems, encItems, List.append_assoc]
    rw [decItem_encItem it _ (hw it (by simp)), ok_bind, ih (fun x hx => hw x (by simp [hx])), ok_bind]

theorem decStatusReport_enc (r : Record) (rest : Bytes) (hw : r.wf) :
    decStatusReport (encStatusReport r ++ rest) = .ok (r, rest) := by
  obtain ⟨items, reason, ⟨src, t, sq, frag⟩⟩ := r
  obtain ⟨hi, hl, hr, hs, ht, hq, hf⟩ := hw
  dsimp only at hi hl hr hs ht hq hf
  cases frag with
  | none =>
    simp only [encStatusReport, encBundleId, BundleId.len, Option.isSome_none, Bool.false_eq_true,
      List.append_assoc, List.append_nil, decStatusReport, decArray_encArray, decArray_encArray _ _ hl,
      decItems_encItems items _ hi, decUInt_encUInt reason _ hr, decEid_encEid src _ hs, decUInt_encUInt t _ ht,
      decUInt_encUInt sq _ hq, ok_bind, Nat.reducePow, Nat.reduceLT, Nat.reduceAdd, Nat.reduceEqDiff, ne_eq,
      not_true_eq_false, false_and, if_false]
  | some p =>
    obtain ⟨o, tot⟩ := p
    obtain ⟨ho, htot⟩ := hf o tot rfl
    simp only [encStatusReport, encBundleId, BundleId.len, Option.isSome_some,
      List.append_assoc, decStatusReport, decArray_encArray, decArray_encArray _ _ hl,
      decItems_encItems items _ hi, decUInt_encUInt reason _ hr, decEid_encEid src _ hs, decUInt_encUInt t _ ht,
      decUInt_encUInt sq _ hq, decUInt_encUInt o _ ho, decUInt_encUInt tot _ htot, ok_bind, Nat.reducePow,
      Nat.reduceLT, Nat.reduceAdd, Nat.reduceEqDiff, ne_eq, not_true_eq_false, and_false, if_false, if_true]

/-- The receiver of a report reads back exactly the record the node wrote, consuming exactly the
bytes written. -/
theorem decAdminRecord_enc (r : Record) (rest : Bytes) (hw : r.wf) :
    decAdminRecord (encAdminRecord r ++ rest) = .ok (r, rest) := by
  simp only [encAdminRecord, List.append_assoc, decAdminRecord, decArray_encArray, decUInt_encUInt, ok_bind,
    decStatusReport_enc r rest hw, Nat.reducePow, Nat.reduceLT, ne_eq, not_true_eq_false, if_false]

theorem newItem_wf (t : Option Nat) (p i : Nat) (ht : ∀ x, t = some x → u64 x) :
    (newItem t p i).wf := by
  unfold newItem Item.wf
  split <;> simp
  exact ht

/-- The record of every report the model emits is one the codec round-trips. -/
theorem record_wf_of_ssr {n : Node} {s : Subject} {p reason now : Nat} {r : Report}
    (h : sendStatusReport n s p reason now = some r) (hreason : reason ≤ 11)
    (hsrc : s.source.wf) (hnow : u64 now) (ht : u64 s.time) (hq : u64 s.seq)
    (hfo : u64 s.fragOffset) (hft : u64 s.totalLen) : r.record.wf := by
  obtain ⟨_, _, _, _, _, _, hi, hr, hid, _⟩ := ssr_some h
  have htm : ∀ x, (if s.reqTime = true then some now else none) = some x → u64 x := by
    intro x hx
    split at hx
    · cases hx; exact hnow
    · cases hx
  refine ⟨?_, ?_, ?_, ?_, ?_, ?_, ?_⟩
  · intro it hit
    simp only [Report.record, hi, newItems, List.mem_cons, List.mem_nil_iff, or_false] at hit
    rcases hit with rfl | rfl | rfl | rfl <;> exact newItem_wf _ _ _ htm
  · simp [Report.record, hi, newItems, u64]
  · simp only [Report.record, hr, u64]; omega
  · simpa [Report.record, hid, Subject.id] using hsrc
  · simpa [Report.record, hid, Subject.id] using ht
  · simpa [Report.record, hid, Subject.id] using hq
  · intro o t hf
    simp only [Report.record, hid, Subject.id] at hf
    split at hf
    · cases hf; exact ⟨hfo, hft⟩
    · cases hf

end Dtn7.Reports.Lemmas
