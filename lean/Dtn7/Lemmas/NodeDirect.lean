/-
C05: direct delivery when the destination node is connected, epidemic flooding to a new peer.
-/
import Dtn7.Lemmas.NodeC05

namespace Dtn7.Node

/-! ## Who is tried -/

theorem find_addr_of_mem {peers : List Peer} (hn : (peers.map (·.addr)).Nodup) {p : Peer} (hp : p ∈ peers) :
    peers.find? (fun q => q.addr == p.addr) = some p := by
  induction peers with
  | nil => cases hp
  | cons q ps ih =>
    simp only [List.map_cons, List.nodup_cons] at hn
    rcases List.mem_cons.mp hp with h | h
    · subst h; simp
    · have hne : q.addr ≠ p.addr := by
        intro e
        exact hn.1 (List.mem_map.mpr ⟨p, h, e.symm⟩)
      have : (q.addr == p.addr) = false := by simp [hne]
      simp only [List.find?_cons, this]
      exact ih hn.2 h

theorem mem_arrange_of_mem {pref : List Nat} {peers : List Peer} (hn : (peers.map (·.addr)).Nodup) {p : Peer}
    (hp : p ∈ peers) : p ∈ arrange pref peers := by
  unfold arrange
  by_cases h : p.addr ∈ pref.eraseDups
  · apply List.mem_append_left
    exact List.mem_filterMap.mpr ⟨p.addr, h, find_addr_of_mem hn hp⟩
  · apply List.mem_append_right
    apply List.mem_filter.mpr
    refine ⟨hp, ?_⟩
    simp [h]

theorem mem_senders_of_mem {env : Env} {n : Node} {k : Key} (hn : (n.peers.map (·.addr)).Nodup) {p : Peer}
    (hp : p ∈ n.peers) : p ∈ senders env n k := mem_arrange_of_mem hn hp

theorem filterCLAs_nonempty : ∀ (sent : List Eid) (ps : List Peer) (p : Peer), p ∈ ps → sent.contains p.eid = false →
    (filterCLAs sent ps).1.isEmpty = false
  | sent, [], p, hp, _ => by cases hp
  | sent, q :: ps, p, hp, hs => by
    simp only [filterCLAs]
    by_cases hq : sent.contains q.eid = true
    · simp only [hq, if_true]
      rcases List.mem_cons.mp hp with h | h
      · subst h; rw [hq] at hs; cases hs
      · exact filterCLAs_nonempty sent ps p h hs
    · have hq' : ¬ q.eid ∈ sent := by simpa using hq
      simp [hq']

theorem filterCLAs_mem : ∀ (sent : List Eid) (ps : List Peer) (p : Peer), p ∈ ps → sent.contains p.eid = false →
    (∀ q ∈ ps, q.eid = p.eid → q = p) → p ∈ (filterCLAs sent ps).1
  | sent, [], p, hp, _, _ => by cases hp
  | sent, q :: ps, p, hp, hs, hu => by
    simp only [filterCLAs]
    by_cases hq : sent.contains q.eid = true
    · simp only [hq, if_true]
      rcases List.mem_cons.mp hp with h | h
      · subst h; rw [hq] at hs; cases hs
      · exact filterCLAs_mem sent ps p h hs (fun x hx => hu x (List.mem_cons_of_mem _ hx))
    · simp only [hq, Bool.false_eq_true, if_false]
      by_cases hqp : q = p
      · subst hqp; exact List.mem_cons_self
      · have h : p ∈ ps := by
          rcases List.mem_cons.mp hp with h | h
          · exact absurd h.symm hqp
          · exact h
        have hne : q.eid ≠ p.eid := fun e => hqp (hu q List.mem_cons_self e)
        apply List.mem_cons_of_mem
        apply filterCLAs_mem _ ps p h
        · have hs' : ¬ p.eid ∈ sent := by simpa using hs
          simp only [List.contains_eq_mem, List.mem_append, List.mem_cons, List.not_mem_nil, or_false,
            decide_eq_false_iff_not, not_or]
          exact ⟨hs', fun e => hne e.symm⟩
        · exact fun x hx => hu x (List.mem_cons_of_mem _ hx)

/-! ## forward: direct delivery and epidemic flooding -/

theorem forward_direct (env : Env) (d : Desc) (b : Bundle) (n : Node)
    (hf : forwardable n.now b) (hn : (n.peers.map (·.addr)).Nodup) (p : Peer) (hp : p ∈ n.peers)
    (hs : p.eid.sameNode b.dst = true) : ∃ ok, Output.sent p b ok ∈ (forward env d b n).2 := by
  rw [forward_sends env d b n hf]
  have henv := sync_env (fwdDesc d) n
  have hmem : p ∈ (senders env (sync (fwdDesc d) n) d.key).filter (fun q => q.eid.sameNode b.dst) :=
    List.mem_filter.mpr ⟨mem_senders_of_mem (by rw [henv.peers]; exact hn) (by rw [henv.peers]; exact hp), hs⟩
  apply forwardSend_all env b _ p
  unfold selectSenders
  dsimp only
  split
  · rename_i he
    rw [fwdDesc_key, List.isEmpty_iff] at he
    rw [he] at hmem
    cases hmem
  · exact hmem

theorem forward_flood (env : Env) (d : Desc) (b : Bundle) (n : Node) (it : Item)
    (halgo : n.cfg.algo = .epidemic) (hmule : n.cfg.mule = false)
    (hg : n.store.get d.key = some it)
    (hf : forwardable n.now b) (hn : (n.peers.map (·.addr)).Nodup) (p : Peer) (hp : p ∈ n.peers)
    (hnd : ∀ q ∈ n.peers, q.eid.sameNode b.dst = false)
    (hs : it.rt.sentE.contains p.eid = false) (hu : ∀ q ∈ n.peers, q.eid = p.eid → q = p) :
    ∃ ok, Output.sent p b ok ∈ (forward env d b n).2 := by
  rw [forward_sends env d b n hf]
  have henv := sync_env (fwdDesc d) n
  have h1 : (sync (fwdDesc d) n).store.get d.key = _ := sync_update (fwdDesc d) n it hg (fwdDesc_nonempty d)
  have hall : ∀ q ∈ senders env (sync (fwdDesc d) n) d.key, q ∈ n.peers :=
    fun q hq => henv.peers ▸ mem_senders hq
  have hempty : ((senders env (sync (fwdDesc d) n) d.key).filter (fun q => q.eid.sameNode b.dst)).isEmpty = true := by
    rw [List.isEmpty_iff]
    apply List.filter_eq_nil_iff.mpr
    intro q hq
    rw [hnd q (hall q hq)]
    simp
  have hpm : p ∈ senders env (sync (fwdDesc d) n) d.key :=
    mem_senders_of_mem (by rw [henv.peers]; exact hn) (by rw [henv.peers]; exact hp)
  apply forwardSend_all env b _ p
  unfold selectSenders
  simp only [fwdDesc_key, hempty, if_true]
  unfold sendersFor
  simp only [henv.cfg, hmule, Bool.false_eq_true, if_false]
  unfold innerSenders
  simp only [henv.cfg, halgo, fwdDesc_key, h1]
  exact filterCLAs_mem _ _ p hpm hs fun q hq => hu q (hall q hq)

/-! ## dispatching a waiting bundle again -/

theorem allowed_of (env : Env) (d : Desc) (m : Node) (it : Item) (hg : m.store.get d.key = some it)
    (hn : (m.peers.map (·.addr)).Nodup)
    (h : m.cfg.algo ≠ .epidemic ∨ (m.cfg.gateDirect = true ∧ epiDirect m it = true) ∨
      ∃ q ∈ m.peers, it.rt.sentE.contains q.eid = false) :
    (dispatchingAllowed env d m).1 = true := by
  unfold dispatchingAllowed
  cases ha : m.cfg.algo with
  | epidemic =>
    simp only [hg]
    by_cases hloc : epiLocal m.cfg it = true
    · simp only [hloc, if_true]
    · rcases h with h | ⟨hg1, hg2⟩ | ⟨q, hq, hs⟩
      · exact absurd ha h
      · simp only [hloc, hg1, hg2, Bool.and_self, Bool.false_eq_true, if_false, if_true]
      · have := filterCLAs_nonempty it.rt.sentE (senders env m d.key) q (mem_senders_of_mem hn hq) hs
        by_cases hgd : (m.cfg.gateDirect && epiDirect m it) = true
        · simp only [hloc, hgd, Bool.false_eq_true, if_false, if_true]
        · simp only [hloc, hgd, this, Bool.false_eq_true, if_false]
  | spray => rfl
  | binarySpray => rfl
  | prophet => rfl
  | dtlsr => rfl

/-- Every stored item carries `routing/epidemic/destination`, and it names the destination of the stored
bundle (an invariant of epidemic routing for the code as it is: `Dtn7.Node.epiOk_step`). -/
def EpiOk (n : Node) : Prop := ∀ k it, n.store.get k = some it → it.rt.epiDst = some it.bundle.dst

theorem epiDirect_of (m : Node) (it : Item) (p : Peer) (hp : p ∈ m.peers)
    (hs : p.eid.sameNode it.bundle.dst = true) (he : it.rt.epiDst = some it.bundle.dst) :
    epiDirect m it = true := by
  unfold epiDirect
  rw [he]
  exact List.any_eq_true.mpr ⟨p, hp, hs⟩

theorem dispatching_retry (env : Env) (m : Node) (k : Key) (it : Item) (hg : m.store.get k = some it)
    (hall : (dispatchingAllowed env (newDesc m k) m).1 = true) (hl : loadable m.now it.bundle = true)
    (hdst : hasEndpoint m.cfg it.bundle.dst = false) :
    dispatching env (newDesc m k) m =
      forward env { newDesc m k with bndl := some it.bundle } it.bundle m := by
  have hb : (newDesc m k).bundle m = some it.bundle := by
    unfold Desc.bundle
    simp only [newDesc_bndl, newDesc_key, hg, hl, if_true]
  rcases dispatching_cases env (newDesc m k) m with ⟨ha, _⟩ | ⟨_, ⟨hb0, _⟩ | ⟨b1, hb1, ⟨he, _⟩ | ⟨_, h⟩⟩⟩
  · rw [ha] at hall; cases hall
  · rw [hb] at hb0; cases hb0
  · rw [hb] at hb1; cases hb1; rw [hdst] at he; cases he
  · rw [hb] at hb1; cases hb1; exact h

/-- Something that the retry of key `k` outputs is output by `checkPendingBundles`, whatever the other
bundles do before. -/
theorem dispatchKeys_sent (env : Env) (k : Key) (P : Output → Prop) (it : Item) : ∀ (ks : List Key) (n : Node),
    WF n → k ∈ ks → n.store.get k = some it →
    (∀ m, SameEnv n m → m.store.get k = some it → ∃ o ∈ (dispatching env (newDesc m k) m).2, P o) →
    ∃ o ∈ (dispatchKeys env ks n).2, P o
  | [], _, _, hk, _, _ => by cases hk
  | k₁ :: ks, n, w, hk, hg, H => by
    simp only [dispatchKeys]
    by_cases h1 : k₁ = k
    · subst h1
      rcases H n (SameEnv.refl n) hg with ⟨o, ho, hp⟩
      exact ⟨o, List.mem_append_left _ ho, hp⟩
    · have hd := retry_kstep env n k₁ w
      have hk' : k ∈ ks := by
        rcases List.mem_cons.mp hk with h | h
        · exact absurd h.symm h1
        · exact h
      have hg' : (dispatching env (newDesc n k₁) n).1.store.get k = some it := by
        rw [hd.only.other k (fun e => h1 e.symm)]; exact hg
      rcases dispatchKeys_sent env k P it ks _ (hd.wf w) hk' hg'
        (fun m hm hgm => H m (hd.only.env.trans hm) hgm) with ⟨o, ho, hp⟩
      exact ⟨o, List.mem_append_right _ ho, hp⟩

theorem mem_pendingKeys_of {s : Store} {k : Key} {it : Item} (hg : s.get k = some it) (hp : it.pending = true) :
    k ∈ pendingKeys s := by
  unfold pendingKeys
  exact List.mem_filter.mpr ⟨Store.mem_keys_of_get hg, by simp [hg, hp]⟩

theorem loadable_of_ok (now : Nat) (b : Bundle) (h : lifetimeOk now now b = true) (hh : hopRefused b = false) :
    loadable now b = true := by
  have hf := forwardable_of_ok now now b h hh
  unfold loadable
  rw [hf.2.1]
  simp only [Bool.not_false, Bool.true_and]
  unfold hopRefused at hh
  cases hhop : b.hop with
  | none => rfl
  | some lc =>
    obtain ⟨l, cnt⟩ := lc
    simp only [hhop, decide_eq_false_iff_not, Nat.not_lt] at hh ⊢
    simp only [Bool.not_eq_true', decide_eq_false_iff_not, Nat.not_lt]
    omega

/-! ## The two clauses on one `checkPendingBundles` -/

theorem sentIn_of_mem {outs : List Output} {p : Peer} {b : Bundle} {ok : Bool}
    (h : Output.sent p b ok ∈ outs) : sentIn outs p.addr b.tag = true := by
  unfold sentIn
  exact List.any_eq_true.mpr ⟨_, h, by simp⟩

theorem isWaiting_item {c : Cfg} {now : Nat} {k : Key} {it : Item} (hw : isWaiting c now (itemView (k, it)) = true) :
    it.pending = true ∧ hasEndpoint c it.bundle.dst = false ∧ loadable now it.bundle = true ∧
    forwardable now it.bundle := by
  unfold isWaiting at hw
  simp only [itemView, Bool.and_eq_true, Bool.not_eq_true'] at hw
  obtain ⟨⟨⟨hpend, hdst⟩, hhop⟩, hlife⟩ := hw
  exact ⟨hpend, hasEndpoint_false_of hdst, loadable_of_ok now it.bundle hlife hhop,
    forwardable_of_ok now now it.bundle hlife hhop⟩

/-- A waiting bundle whose destination node is connected is handed to that peer by
`checkPendingBundles`, unless the epidemic gate is closed (every connected sender in the sent list). -/
theorem checkPending_direct (env : Env) (n1 : Node) (w : WF n1) (hn : (n1.peers.map (·.addr)).Nodup)
    (k : Key) (it : Item) (hg : n1.store.get k = some it) (c : Cfg) (hc : n1.cfg = c)
    (hw : isWaiting c n1.now (itemView (k, it)) = true)
    (p : Peer) (hp : p ∈ n1.peers) (hs : p.eid.sameNode it.bundle.dst = true)
    (hgate : n1.cfg.algo ≠ .epidemic ∨ (n1.cfg.gateDirect = true ∧ it.rt.epiDst = some it.bundle.dst) ∨
      ∃ q ∈ n1.peers, it.rt.sentE.contains q.eid = false) :
    sentIn (checkPending env n1).2 p.addr it.bundle.tag = true := by
  obtain ⟨hpend, hdst', hl, hf⟩ := isWaiting_item hw
  rw [← hc] at hdst'
  unfold checkPending
  have := dispatchKeys_sent env k (fun o => ∃ ok, o = Output.sent p it.bundle ok) it (pendingKeys n1.store) n1 w
    (mem_pendingKeys_of hg hpend) hg
    (by
      intro m hm hgm
      have hall := allowed_of env (newDesc m k) m it (by rw [newDesc_key]; exact hgm) (by rw [hm.peers]; exact hn)
        (by
          rw [hm.cfg, hm.peers]
          rcases hgate with h | ⟨h1, h2⟩ | h
          · exact Or.inl h
          · exact Or.inr (Or.inl ⟨h1, epiDirect_of m it p (by rw [hm.peers]; exact hp) hs h2⟩)
          · exact Or.inr (Or.inr h))
      rw [dispatching_retry env m k it hgm hall (by rw [hm.now]; exact hl) (by rw [hm.cfg]; exact hdst')]
      rcases forward_direct env { newDesc m k with bndl := some it.bundle } it.bundle m
        (by rw [hm.now]; exact hf) (by rw [hm.peers]; exact hn) p (by rw [hm.peers]; exact hp) hs with ⟨ok, hok⟩
      exact ⟨_, hok, ok, rfl⟩)
  rcases this with ⟨o, ho, ok, rfl⟩
  exact sentIn_of_mem ho

/-- Epidemic flooding: a waiting bundle is handed to every connected peer that is not in its sent list
(when its destination is not connected and the peer has a single CLA). -/
theorem checkPending_flood (env : Env) (n1 : Node) (w : WF n1) (hn : (n1.peers.map (·.addr)).Nodup)
    (k : Key) (it : Item) (hg : n1.store.get k = some it) (c : Cfg) (hc : n1.cfg = c)
    (halgo : c.algo = .epidemic) (hmule : c.mule = false)
    (hw : isWaiting c n1.now (itemView (k, it)) = true)
    (p : Peer) (hp : p ∈ n1.peers) (hnd : ∀ q ∈ n1.peers, q.eid.sameNode it.bundle.dst = false)
    (hs : it.rt.sentE.contains p.eid = false) (hu : ∀ q ∈ n1.peers, q.eid = p.eid → q = p) :
    sentIn (checkPending env n1).2 p.addr it.bundle.tag = true := by
  obtain ⟨hpend, hdst', hl, hf⟩ := isWaiting_item hw
  rw [← hc] at hdst'
  unfold checkPending
  have := dispatchKeys_sent env k (fun o => ∃ ok, o = Output.sent p it.bundle ok) it (pendingKeys n1.store) n1 w
    (mem_pendingKeys_of hg hpend) hg
    (by
      intro m hm hgm
      have hall := allowed_of env (newDesc m k) m it (by rw [newDesc_key]; exact hgm) (by rw [hm.peers]; exact hn)
        (Or.inr (Or.inr ⟨p, by rw [hm.peers]; exact hp, hs⟩))
      rw [dispatching_retry env m k it hgm hall (by rw [hm.now]; exact hl) (by rw [hm.cfg]; exact hdst')]
      rcases forward_flood env { newDesc m k with bndl := some it.bundle } it.bundle m it
        (by rw [hm.cfg, hc]; exact halgo) (by rw [hm.cfg, hc]; exact hmule)
        (by show m.store.get (newDesc m k).key = some it; rw [newDesc_key]; exact hgm)
        (by rw [hm.now]; exact hf) (by rw [hm.peers]; exact hn) p (by rw [hm.peers]; exact hp)
        (by rw [hm.peers]; exact hnd) hs (by rw [hm.peers]; exact hu) with ⟨ok, hok⟩
      exact ⟨_, hok, ok, rfl⟩)
  rcases this with ⟨o, ho, ok, rfl⟩
  exact sentIn_of_mem ho

/-! ## The clauses along every history -/

theorem sentIn_append_left {a b : List Output} {x y : Nat} (h : sentIn a x y = true) : sentIn (a ++ b) x y = true := by
  unfold sentIn at *
  rw [List.any_append, h, Bool.true_or]

/-- The expression `directFail` evaluates for `peerUp` / `retryTick`, on the model's own observations:
the only possible failure is the closed gate of epidemic routing, and only for the code without
`gateDirect`. -/
theorem direct_core (c : Cfg) (env : Env) (n n1 : Node) (w : WF n) (hc : n.cfg = c)
    (hs : n1.store = n.store) (hcfg : n1.cfg = n.cfg) (hnow : n1.now = n.now)
    (hn : (n1.peers.map (·.addr)).Nodup) (he : c.algo = .epidemic → EpiOk n) (outs : List Output)
    (hout : ∀ x y, sentIn (checkPending env n1).2 x y = true → sentIn outs x y = true) (cls : String)
    (hfail : ((viewOf n).items.findSome? fun i =>
      if isWaiting c n.now i then
        n1.peers.findSome? fun p =>
          if p.eid.sameNode i.bundle.dst && !sentIn outs p.addr i.bundle.tag then
            if c.algo == .epidemic && n1.peers.all (fun q => i.sentE.contains q.eid)
            then some "direct-not-sent-all-peers-in-sent-list"
            else some "direct-not-sent"
          else none
      else none) = some cls) :
    cls = "direct-not-sent-all-peers-in-sent-list" ∧ c.gateDirect = false := by
  rcases List.exists_of_findSome?_eq_some hfail with ⟨i, hi, hfi⟩
  rcases mem_viewOf w hi with ⟨k, it, hg, rfl⟩
  by_cases hw : isWaiting c n.now (itemView (k, it)) = true
  · simp only [hw, if_true] at hfi
    rcases List.exists_of_findSome?_eq_some hfi with ⟨p, hp, hfp⟩
    by_cases hcond : (p.eid.sameNode (itemView (k, it)).bundle.dst &&
        !sentIn outs p.addr (itemView (k, it)).bundle.tag) = true
    · simp only [hcond, if_true] at hfp
      have w1 : WF n1 := ⟨by rw [hs]; exact w.keyed, by rw [hs]; exact w.nodup⟩
      -- whenever the gate is open the bundle was handed to `p`
      have hopen : (n1.cfg.algo ≠ .epidemic ∨ (n1.cfg.gateDirect = true ∧ it.rt.epiDst = some it.bundle.dst) ∨
          ∃ q ∈ n1.peers, it.rt.sentE.contains q.eid = false) → False := by
        intro hgate'
        simp only [Bool.and_eq_true, Bool.not_eq_true'] at hcond
        have := checkPending_direct env n1 w1 hn k it (by rw [hs]; exact hg) c (hcfg.trans hc)
          (by rw [hnow]; exact hw) p hp (by simpa [itemView] using hcond.1) hgate'
        have := hout _ _ this
        simp only [itemView] at hcond
        rw [this] at hcond
        exact absurd hcond.2 (by simp)
      by_cases hgate : (c.algo == .epidemic && n1.peers.all (fun q => (itemView (k, it)).sentE.contains q.eid)) = true
      · simp only [hgate, if_true] at hfp
        cases hfp
        refine ⟨rfl, ?_⟩
        cases hgd : c.gateDirect
        · rfl
        · have ha : c.algo = .epidemic := by
            simp only [Bool.and_eq_true, beq_iff_eq] at hgate
            exact hgate.1
          exact (hopen (Or.inr (Or.inl ⟨by rw [hcfg, hc]; exact hgd, he ha k it hg⟩))).elim
      · exfalso
        apply hopen
        by_cases ha : c.algo = .epidemic
        · right; right
          simp only [ha, beq_self_eq_true, Bool.true_and, Bool.not_eq_true] at hgate
          have : ¬ (n1.peers.all (fun q => (itemView (k, it)).sentE.contains q.eid) = true) := by
            rw [hgate]; simp
          apply Classical.byContradiction
          intro hno
          apply this
          apply List.all_eq_true.mpr
          intro q hq
          cases hcon : (itemView (k, it)).sentE.contains q.eid
          · exact absurd ⟨q, hq, by simpa [itemView] using hcon⟩ hno
          · rfl
        · left
          rw [hcfg, hc]
          exact ha
    · simp only [hcond, Bool.false_eq_true, if_false] at hfp
      cases hfp
  · simp only [hw, Bool.false_eq_true, if_false] at hfi
    cases hfi

theorem sentIn_step_of_core {env : Env} {n n1 : Node} {e : Event} (heq : stepCore env n e = checkPending env n1)
    {x y : Nat} (h : sentIn (checkPending env n1).2 x y = true) : sentIn (step env n e).2 x y = true := by
  show sentIn ((stepCore env n e).2 ++ _) x y = true
  rw [heq]
  exact sentIn_append_left h

/-- `SentToDestination` on the model's own step: the only possible failure is the closed epidemic gate,
and with `gateDirect` there is none. -/
theorem direct_step (c : Cfg) (env : Env) (e : Event) (s : SpecSt) (n : Node)
    (inv : VInv c s n) (he : c.algo = .epidemic → EpiOk n) (cls : String)
    (hfail : directFail c s (obsOf (e, (step env n e).2, (step env n e).1)) = some cls) :
    cls = "direct-not-sent-all-peers-in-sent-list" ∧ c.gateDirect = false := by
  unfold directFail at hfail
  simp only [obsOf] at hfail
  by_cases hev : (∃ p, e = .peerUp p) ∨ e = .retryTick
  · rcases stepCore_checkPending env n e inv.pnodup hev with ⟨n1, hs, hcfg, hnow, _, hp, hpn, heq⟩
    refine direct_core c env n n1 inv.wf inv.cfg hs hcfg hnow hpn he _ (fun _ _ => sentIn_step_of_core heq) cls ?_
    rcases hev with ⟨p, rfl⟩ | rfl <;>
      (simp only [nowAfter, inv.peers, inv.prev, inv.now, ← hp] at hfail; exact hfail)
  · cases e with
    | peerUp p => exact absurd (Or.inl ⟨p, rfl⟩) hev
    | retryTick => exact absurd (Or.inr rfl) hev
    | _ => simp at hfail

theorem peer_ext {p q : Peer} (ha : q.addr = p.addr) (he : q.eid = p.eid) : q = p := by
  cases p; cases q; simp_all

theorem flood_core (c : Cfg) (env : Env) (n n1 : Node) (w : WF n) (hc : n.cfg = c)
    (halgo : c.algo = .epidemic) (hmule : c.mule = false)
    (hs : n1.store = n.store) (hcfg : n1.cfg = n.cfg) (hnow : n1.now = n.now)
    (hn : (n1.peers.map (·.addr)).Nodup) (p : Peer) (outs : List Output)
    (hout : ∀ x y, sentIn (checkPending env n1).2 x y = true → sentIn outs x y = true) :
    ((viewOf n).items.findSome? fun i =>
      if isWaiting c n.now i
         && n1.peers.any (fun q => q.addr == p.addr && q.eid == p.eid)
         && !i.sentE.contains p.eid
         && !n1.peers.any (fun q => q.eid.sameNode i.bundle.dst)
         && !n1.peers.any (fun q => q.eid == p.eid && q.addr != p.addr)
         && !sentIn outs p.addr i.bundle.tag
      then some "flood-missing" else none) = none := by
  apply List.findSome?_eq_none_iff.mpr
  intro i hi
  rcases mem_viewOf w hi with ⟨k, it, hg, rfl⟩
  split
  · rename_i hcond
    exfalso
    simp only [Bool.and_eq_true, Bool.not_eq_true'] at hcond
    obtain ⟨⟨⟨⟨⟨hw, hpin⟩, hsent⟩, hnd⟩, huniq⟩, hnot⟩ := hcond
    rcases List.any_eq_true.mp hpin with ⟨q, hq, hqp⟩
    simp only [Bool.and_eq_true, beq_iff_eq] at hqp
    have hqe : q = p := peer_ext hqp.1 hqp.2
    subst hqe
    have w1 : WF n1 := ⟨by rw [hs]; exact w.keyed, by rw [hs]; exact w.nodup⟩
    have hnd' : ∀ x ∈ n1.peers, x.eid.sameNode it.bundle.dst = false := by
      intro x hx
      cases hsn : x.eid.sameNode it.bundle.dst
      · rfl
      · have : n1.peers.any (fun q => q.eid.sameNode (itemView (k, it)).bundle.dst) = true :=
          List.any_eq_true.mpr ⟨x, hx, by simpa [itemView] using hsn⟩
        rw [this] at hnd; cases hnd
    have hu : ∀ x ∈ n1.peers, x.eid = q.eid → x = q := by
      intro x hx hxe
      have hxa : x.addr = q.addr := by
        apply Classical.byContradiction
        intro hne
        have : n1.peers.any (fun y => y.eid == q.eid && y.addr != q.addr) = true :=
          List.any_eq_true.mpr ⟨x, hx, by simp [hxe, hne]⟩
        rw [this] at huniq; cases huniq
      exact peer_ext hxa hxe
    have := checkPending_flood env n1 w1 hn k it (by rw [hs]; exact hg) c (hcfg.trans hc) halgo hmule
      (by rw [hnow]; exact hw) q hq hnd' (by simpa [itemView] using hsent) hu
    have := hout _ _ this
    simp only [itemView] at hnot
    rw [this] at hnot
    cases hnot
  · rfl

/-- `EpidemicFlood` on the model's own step. -/
theorem flood_step (c : Cfg) (env : Env) (e : Event) (s : SpecSt) (n : Node)
    (inv : VInv c s n) :
    floodFail c s (obsOf (e, (step env n e).2, (step env n e).1)) = none := by
  unfold floodFail
  simp only [obsOf]
  by_cases hcond : (c.algo == .epidemic && !c.mule) = true
  · simp only [hcond, if_true]
    simp only [Bool.and_eq_true, beq_iff_eq, Bool.not_eq_true'] at hcond
    cases e with
    | peerUp p =>
      rcases stepCore_checkPending env n (.peerUp p) inv.pnodup (Or.inl ⟨p, rfl⟩) with
        ⟨n1, hs, hcfg, hnow, _, hp, hpn, heq⟩
      simp only [nowAfter, inv.peers, inv.prev, inv.now, ← hp]
      exact flood_core c env n n1 inv.wf inv.cfg hcond.1 hcond.2 hs hcfg hnow hpn p _
        fun _ _ => sentIn_step_of_core heq
    | _ => rfl
  · simp only [hcond, Bool.false_eq_true, if_false]

/-- `survives_restart` (store part) on the model's own step. -/
theorem restart_step (c : Cfg) (env : Env) (e : Event) (s : SpecSt) (n : Node)
    (inv : VInv c s n) :
    restartFail s (obsOf (e, (step env n e).2, (step env n e).1)) = none := by
  unfold restartFail
  simp only [obsOf]
  cases e with
  | restart =>
    have : viewOf (step env n .restart).1 = { items := (viewOf n).items, spray := [] } := by
      simp [step, stepCore, viewOf]
    simp only [this, inv.prev, beq_self_eq_true, Bool.true_and]
    simp
  | _ => rfl

end Dtn7.Node
