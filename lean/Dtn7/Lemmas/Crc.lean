/-
Two parts. First, linear algebra over GF(2) of the bit-serial CRC register of `Model/CrcSpec.lean` (kernel-only:
`ext` + Bool case splits, `omega`, structural induction; no `bv_decide`, no `native_decide`), proved for an
arbitrary register width `w` and polynomial `P` whose top bit (the constant term of the generator polynomial in
reflected notation) is set: burst and window detection. Second (from `crcField_reg` on), the two CRCs of BPv7 as
instances, and the model of dtn7's CRC check and of its two block parsers (`Model/Crc.lean`) against the Spec
predicate `BlockCrcOk`.

These are the bit-vector definitions `crcX25` / `crc32c`. The bundle codec of C01/C02 (`Model/Bundle.lean`)
computes the CRC fields it writes and compares with `CrcNat.crc16` / `CrcNat.crc32c`; no theorem relates the two
pairs of definitions, so nothing proved here is a statement about the bundles of C01.
-/
import Dtn7.Model.CrcSpec
import Dtn7.Model.Crc
import Dtn7.Lemmas.CborExtra

namespace Dtn7.Crc.Lemmas
open Dtn7.Crc Dtn7.Cbor Dtn7.Cbor.Lemmas

variable {w : Nat}

/-! ### The step is GF(2)-affine in (state, input bit) -/

theorem sel_xor (P : BitVec w) (x y : Bool) :
    (if (x ^^ y) then P else 0#w) = (if x then P else 0#w) ^^^ (if y then P else 0#w) := by
  cases x <;> cases y <;> simp

/-- The shift and the selection of the feedback term are both linear. -/
theorem step_xor (P s s' : BitVec w) (b b' : Bool) :
    step P (s ^^^ s') (b ^^ b') = step P s b ^^^ step P s' b' := by
  unfold step
  have : ((s ^^^ s').getLsbD 0 ^^ (b ^^ b')) = ((s.getLsbD 0 ^^ b) ^^ (s'.getLsbD 0 ^^ b')) := by
    rw [BitVec.getLsbD_xor]
    cases s.getLsbD 0 <;> cases s'.getLsbD 0 <;> cases b <;> cases b' <;> rfl
  rw [this, sel_xor, BitVec.ushiftRight_xor_distrib]
  ac_rfl

theorem step_zero (P : BitVec w) : step P 0#w false = 0#w := by
  unfold step
  ext i hi
  simp

/-- `T = step · false`, the autonomous register. -/
theorem step_eq (P s : BitVec w) (b : Bool) :
    step P s b = step P s false ^^^ (if b then P else 0#w) := by
  unfold step
  rw [sel_xor P (s.getLsbD 0) b, Bool.xor_false, BitVec.xor_assoc]

theorem xorBits_eq_zipWith (d d' : Bits) : xorBits d d' = List.zipWith (· ^^ ·) d d' := by
  induction d generalizing d' with
  | nil => cases d' <;> rfl
  | cons a t ih => cases d' with
    | nil => rfl
    | cons a' t' => simp [xorBits, ih]

theorem xorBits_length (d d' : Bits) (h : d.length = d'.length) : (xorBits d d').length = d.length := by
  rw [xorBits_eq_zipWith, List.length_zipWith, ← h, Nat.min_self]

theorem xorBits_append (a a' b b' : Bits) (h : a.length = a'.length) :
    xorBits (a ++ b) (a' ++ b') = xorBits a a' ++ xorBits b b' := by
  simp only [xorBits_eq_zipWith, List.zipWith_append h]

theorem xorBits_self (a : Bits) : xorBits a a = List.replicate a.length false := by
  induction a with
  | nil => rfl
  | cons x t ih => simp [xorBits, List.replicate_succ, ih]

theorem eq_of_xorBits_false (d d' : Bits) (h : d.length = d'.length)
    (hx : xorBits d d' = List.replicate (xorBits d d').length false) : d = d' := by
  induction d generalizing d' with
  | nil => cases d' with
    | nil => rfl
    | cons _ _ => simp at h
  | cons a t ih => cases d' with
    | nil => simp at h
    | cons a' t' =>
      simp only [xorBits, List.length_cons, List.replicate_succ, List.cons.injEq] at hx
      have := ih t' (by simpa using h) hx.2
      cases a <;> cases a' <;> simp_all

theorem run_nil (P s : BitVec w) : run P s [] = s := rfl
theorem run_cons (P s : BitVec w) (b : Bool) (t : Bits) : run P s (b :: t) = run P (step P s b) t := rfl
theorem run_append (P s : BitVec w) (a b : Bits) : run P s (a ++ b) = run P (run P s a) b := by
  simp [run, List.foldl_append]

theorem run_xor (P s s' : BitVec w) (d d' : Bits) (h : d.length = d'.length) :
    run P (s ^^^ s') (xorBits d d') = run P s d ^^^ run P s' d' := by
  induction d generalizing s s' d' with
  | nil => cases d' with
    | nil => rfl
    | cons _ _ => simp at h
  | cons a t ih => cases d' with
    | nil => simp at h
    | cons a' t' =>
      simp only [xorBits, run_cons, step_xor]
      exact ih _ _ _ (by simpa using h)

theorem step0_injective (P : BitVec w) (hP : P.msb = true) (s s' : BitVec w)
    (h : step P s false = step P s' false) : s = s' := by
  have hw : 0 < w := by
    rcases Nat.eq_zero_or_pos w with h0 | h0
    · subst h0; simp [BitVec.msb] at hP
    · exact h0
  have hPt : P.getLsbD (w - 1) = true := by
    simpa [BitVec.msb_eq_getLsbD_last] using hP
  unfold step at h
  simp only [Bool.bne_false] at h
  -- the top bit of the result is the feedback bit, i.e. the old bit 0
  have h0 : s.getLsbD 0 = s'.getLsbD 0 := by
    have := congrArg (fun v => v.getLsbD (w - 1)) h
    simp only [BitVec.getLsbD_xor, BitVec.getLsbD_ushiftRight] at this
    have hz : ∀ v : BitVec w, v.getLsbD (1 + (w - 1)) = false := fun v =>
      BitVec.getLsbD_of_ge v _ (by omega)
    rw [hz, hz] at this
    cases h1 : s.getLsbD 0 <;> cases h2 : s'.getLsbD 0 <;> simp [h1, h2, hPt] at this ⊢
  ext i hi
  rcases Nat.eq_zero_or_pos i with rfl | hpos
  · simpa [BitVec.getLsbD_eq_getElem hi] using h0
  · have := congrArg (fun v => v.getLsbD (i - 1)) h
    simp only [BitVec.getLsbD_xor, BitVec.getLsbD_ushiftRight, h0] at this
    have e : 1 + (i - 1) = i := by omega
    rw [e] at this
    have hb : s.getLsbD i = s'.getLsbD i := by
      revert this
      cases s.getLsbD i <;> cases s'.getLsbD i <;> cases (if s'.getLsbD 0 = true then P else 0#w).getLsbD (i - 1) <;> simp
    simpa [BitVec.getLsbD_eq_getElem hi] using hb

/-- `n` zero-input clocks. -/
def Tn (P : BitVec w) (n : Nat) (s : BitVec w) : BitVec w := run P s (List.replicate n false)

theorem Tn_zero (P s : BitVec w) : Tn P 0 s = s := rfl
theorem Tn_succ (P s : BitVec w) (n : Nat) : Tn P (n + 1) s = Tn P n (step P s false) := rfl

theorem Tn_xor (P : BitVec w) (n : Nat) (s s' : BitVec w) :
    Tn P n (s ^^^ s') = Tn P n s ^^^ Tn P n s' := by
  unfold Tn
  have := run_xor P s s' (List.replicate n false) (List.replicate n false) rfl
  rwa [xorBits_self, List.length_replicate] at this

theorem Tn_zero_state (P : BitVec w) (n : Nat) : Tn P n 0#w = 0#w := by
  induction n with
  | zero => rfl
  | succ n ih => rw [Tn_succ, step_zero, ih]

theorem Tn_injective (P : BitVec w) (hP : P.msb = true) (n : Nat) (s s' : BitVec w)
    (h : Tn P n s = Tn P n s') : s = s' := by
  induction n generalizing s s' with
  | zero => exact h
  | succ n ih => exact step0_injective P hP _ _ (ih _ _ h)

theorem Tn_eq_zero (P : BitVec w) (hP : P.msb = true) (n : Nat) (s : BitVec w)
    (h : Tn P n s = 0#w) : s = 0#w :=
  Tn_injective P hP n s 0#w (by rw [h, Tn_zero_state])

/-! ### Feeding at most `w` bits from any state: `run s e = T^|e| (s ⊕ pat e)` -/

/-- The bit string as a register value, first bit at position 0. -/
def pat : Bits → BitVec w
  | [] => 0#w
  | b :: t => (pat t <<< 1) ^^^ (if b then 1#w else 0#w)

theorem pat_high (e : Bits) (i : Nat) (hi : e.length ≤ i) : (pat e : BitVec w).getLsbD i = false := by
  induction e generalizing i with
  | nil => simp [pat]
  | cons b t ih =>
    simp only [List.length_cons] at hi
    simp only [pat, BitVec.getLsbD_xor, BitVec.getLsbD_shiftLeft]
    have h1 : (pat t : BitVec w).getLsbD (i - 1) = false := ih (i - 1) (by omega)
    have h2 : (if b then 1#w else 0#w).getLsbD i = false := by
      cases b <;> simp [BitVec.getLsbD_one]; omega
    simp [h1, h2]

theorem step_shl (P v : BitVec w) (hv : v.getLsbD (w - 1) = false) :
    step P (v <<< 1) false = v := by
  unfold step
  ext i hi
  have h0 : (v <<< 1).getLsbD 0 = false := by simp
  simp only [h0, Bool.bne_false, Bool.false_eq_true, ↓reduceIte, BitVec.xor_zero,
    BitVec.getElem_ushiftRight, BitVec.getLsbD_shiftLeft]
  by_cases hl : 1 + i < w
  · simp [hl, BitVec.getLsbD_eq_getElem hi]
  · have : i = w - 1 := by omega
    subst this
    simp [hl, ← BitVec.getLsbD_eq_getElem hi, hv]

theorem step_one (P : BitVec w) (hw : 0 < w) : step P 1#w false = P := by
  unfold step
  ext i hi
  have : (1#w).getLsbD 0 = true := by simp [hw]
  simp [this, BitVec.getLsbD_one]

theorem run_eq_Tn (P : BitVec w) (e : Bits) (s : BitVec w) (hlen : e.length ≤ w) :
    run P s e = Tn P e.length (s ^^^ pat e) := by
  induction e generalizing s with
  | nil => simp [run_nil, Tn_zero, pat]
  | cons b t ih =>
    have hw : 0 < w := by simp at hlen; omega
    rw [run_cons, ih _ (by simp at hlen; omega), List.length_cons, Tn_succ]
    congr 1
    -- step s b ⊕ pat t = T (s ⊕ (pat t <<< 1) ⊕ b)
    have l1 := step_xor P s ((pat t <<< 1) ^^^ (if b then 1#w else 0#w)) false false
    have l2 := step_xor P (pat t <<< 1) (if b then 1#w else 0#w) false false
    simp only [bne_self_eq_false] at l1 l2
    simp only [pat]
    rw [l1, l2, step_shl P (pat t) (pat_high t (w - 1) (by simp at hlen; omega)), step_eq P s b]
    cases b
    · simp [step_zero]
    · simp only [↓reduceIte, step_one P hw, BitVec.xor_assoc]
      congr 1
      exact BitVec.xor_comm _ _

theorem pat_eq_zero (e : Bits) (hlen : e.length ≤ w) (h : (pat e : BitVec w) = 0#w) :
    e = List.replicate e.length false := by
  induction e with
  | nil => rfl
  | cons b t ih =>
    have hw : 0 < w := by simp at hlen; omega
    simp only [pat] at h
    have hb : b = false := by
      have := congrArg (fun v => v.getLsbD 0) h
      cases b <;> simp [hw] at this ⊢
    subst hb
    simp only [Bool.false_eq_true, ↓reduceIte, BitVec.xor_zero] at h
    have ht : (pat t : BitVec w) = 0#w := by
      ext i hi
      by_cases hl : i + 1 < w
      · have := congrArg (fun v => v.getLsbD (i + 1)) h
        simp only [BitVec.getLsbD_shiftLeft, hl] at this
        simpa [BitVec.getLsbD_eq_getElem hi] using this
      · have := pat_high (w := w) t i (by simp at hlen; omega)
        simpa [BitVec.getLsbD_eq_getElem hi] using this
    simp [List.replicate_succ, ← ih (by simp at hlen; omega) ht]

/-- **Window lemma**: at most `w` bits fed into the zero register leave it zero only if they are all
zero. -/
theorem run0_window (P : BitVec w) (hP : P.msb = true) (e : Bits) (hlen : e.length ≤ w)
    (h : run P 0#w e = 0#w) : e = List.replicate e.length false := by
  rw [run_eq_Tn P e _ hlen] at h
  have := Tn_eq_zero P hP _ _ h
  simp only [BitVec.zero_xor] at this
  exact pat_eq_zero e hlen this

theorem run0_zeros (P : BitVec w) (n : Nat) : run P 0#w (List.replicate n false) = 0#w :=
  Tn_zero_state P n

/-- A non-zero window of at most `w` bits, preceded and followed by any number of zero bits, drives
the zero register to a non-zero state. -/
theorem run0_burst_ne_zero (P : BitVec w) (hP : P.msb = true) (a k : Nat) (c : Bits)
    (hlen : c.length ≤ w) (hc : c ≠ List.replicate c.length false) :
    run P 0#w (List.replicate a false ++ c ++ List.replicate k false) ≠ 0#w := by
  intro h
  rw [run_append, run_append, run0_zeros] at h
  exact hc (run0_window P hP c hlen (Tn_eq_zero P hP k _ h))

theorem stripL_decomp (e : Bits) : ∃ a, e = List.replicate a false ++ stripL e := by
  induction e with
  | nil => exact ⟨0, rfl⟩
  | cons b t ih =>
    cases b
    · obtain ⟨a, ha⟩ := ih
      exact ⟨a + 1, by simp only [stripL, List.replicate_succ, List.cons_append, ← ha]⟩
    · exact ⟨0, rfl⟩

theorem core_decomp (e : Bits) :
    ∃ a k, e = List.replicate a false ++ core e ++ List.replicate k false := by
  obtain ⟨a, ha⟩ := stripL_decomp e
  obtain ⟨k, hk⟩ := stripL_decomp (stripL e).reverse
  refine ⟨a, k, ?_⟩
  have : stripL e = core e ++ List.replicate k false := by
    have := congrArg List.reverse hk
    simpa [core] using this
  rw [List.append_assoc, ← this, ← ha]

theorem span_le_length (e : Bits) : span e ≤ e.length := by
  obtain ⟨a, k, h⟩ := core_decomp e
  have := congrArg List.length h
  simp only [List.length_append, List.length_replicate] at this
  unfold span; omega

theorem eq_replicate_of_core (e : Bits) (h : core e = List.replicate (core e).length false) :
    e = List.replicate e.length false := by
  obtain ⟨a, k, he⟩ := core_decomp e
  generalize core e = c at he h
  subst he
  rw [h]
  simp [List.replicate_append_replicate]

/-- **Burst detection for the raw register** (any start state, any length): two different bit strings
of equal length whose difference lies within `w` consecutive positions end in different states. -/
theorem run_burst_ne (P : BitVec w) (hP : P.msb = true) (s : BitVec w) (d d' : Bits)
    (hlen : d.length = d'.length) (hb : span (xorBits d d') ≤ w) (hne : d ≠ d') :
    run P s d ≠ run P s d' := by
  intro h
  have hx := run_xor P s s d d' hlen
  rw [h, BitVec.xor_self, BitVec.xor_self] at hx
  by_cases hc : core (xorBits d d') = List.replicate (core (xorBits d d')).length false
  · exact hne (eq_of_xorBits_false d d' hlen (eq_replicate_of_core _ hc))
  · obtain ⟨a, k, he⟩ := core_decomp (xorBits d d')
    rw [he] at hx
    exact run0_burst_ne_zero P hP a k _ hb hc hx

theorem run_state_injective (P : BitVec w) (hP : P.msb = true) (s s' : BitVec w) (tl : Bits)
    (h : run P s tl = run P s' tl) : s = s' := by
  have hx := run_xor P s s' tl tl rfl
  rw [h, BitVec.xor_self, xorBits_self] at hx
  have := Tn_eq_zero P hP tl.length (s ^^^ s') hx
  have h2 : (s ^^^ s') ^^^ s' = 0#w ^^^ s' := by rw [this]
  rwa [BitVec.xor_assoc, BitVec.xor_self, BitVec.xor_zero, BitVec.zero_xor] at h2

/-- Burst detection with a common prefix and a common suffix (the suffix is where the zeroed CRC field
and everything after the burst goes). -/
theorem run_burst_ne_ctx (P : BitVec w) (hP : P.msb = true) (s : BitVec w) (pre d d' tl : Bits)
    (hlen : d.length = d'.length) (hb : span (xorBits d d') ≤ w) (hne : d ≠ d') :
    run P s (pre ++ d ++ tl) ≠ run P s (pre ++ d' ++ tl) := by
  intro h
  rw [run_append, run_append, run_append, run_append] at h
  exact run_burst_ne P hP (run P s pre) d d' hlen hb hne (run_state_injective P hP _ _ tl h)

theorem bitsOf_append (a b : Bytes) : bitsOf (a ++ b) = bitsOf a ++ bitsOf b := by
  induction a with
  | nil => rfl
  | cons x t ih => simp [bitsOf, ih]

theorem bitsOf_length (d : Bytes) : (bitsOf d).length = 8 * d.length := by
  induction d with
  | nil => rfl
  | cons x t ih => simp [bitsOf, byteBits, ih]; omega

theorem byteBits_injective (a b : UInt8) (h : byteBits a = byteBits b) : a = b := by
  have ha : a.toNat < 2 ^ 8 := a.toNat_lt
  have hb : b.toNat < 2 ^ 8 := b.toNat_lt
  simp only [byteBits, List.cons.injEq, and_true] at h
  obtain ⟨h0, h1, h2, h3, h4, h5, h6, h7⟩ := h
  apply UInt8.toNat_inj.mp
  apply Nat.eq_of_testBit_eq
  intro i
  by_cases hi : i < 8
  · have : i = 0 ∨ i = 1 ∨ i = 2 ∨ i = 3 ∨ i = 4 ∨ i = 5 ∨ i = 6 ∨ i = 7 := by omega
    rcases this with rfl | rfl | rfl | rfl | rfl | rfl | rfl | rfl <;> assumption
  · have h8 : 2 ^ 8 ≤ 2 ^ i := Nat.pow_le_pow_right (by decide) (by omega)
    rw [Nat.testBit_lt_two_pow (by omega), Nat.testBit_lt_two_pow (by omega)]

theorem bitsOf_injective (a b : Bytes) (hlen : a.length = b.length) (h : bitsOf a = bitsOf b) : a = b := by
  induction a generalizing b with
  | nil => cases b with
    | nil => rfl
    | cons _ _ => simp at hlen
  | cons x t ih => cases b with
    | nil => simp at hlen
    | cons y u =>
      simp only [bitsOf] at h
      have h1 := List.append_inj h (by simp [byteBits])
      rw [byteBits_injective x y h1.1, ih u (by simpa using hlen) h1.2]

theorem beBytes_injective (k n n' : Nat) (hn : n < 256 ^ k) (hn' : n' < 256 ^ k)
    (h : beBytes k n = beBytes k n') : n = n' := by
  have := congrArg beVal h
  rwa [Cbor.Lemmas.beVal_beBytes k n hn, Cbor.Lemmas.beVal_beBytes k n' hn'] at this

theorem crcLen_cases (t : Nat) (ht : t = 1 ∨ t = 2) :
    (t = 1 ∧ crcLen t = 2 ∧ crcWidth t = 16) ∨ (t = 2 ∧ crcLen t = 4 ∧ crcWidth t = 32) := by
  rcases ht with rfl | rfl
  · left; decide
  · right; decide

theorem crcLen_le (t : Nat) : crcLen t ≤ 4 := by
  unfold crcLen
  split
  · omega
  · split <;> omega

/-- For both CRC types the field is the complemented end state of one register of the type's width, written
big-endian; the polynomial has its top bit set. -/
theorem crcField_reg (t : Nat) (ht : t = 1 ∨ t = 2) :
    ∃ P s : BitVec (crcWidth t), P.msb = true ∧
      ∀ d, crcField t d = some (beBytes (crcLen t) (~~~ run P s (bitsOf d)).toNat) := by
  rcases ht with rfl | rfl
  · exact ⟨P16, 0xFFFF#16, by decide, fun _ => rfl⟩
  · exact ⟨P32, 0xFFFFFFFF#32, by decide, fun _ => rfl⟩

/-- **Burst theorem on the Spec function**, with arbitrary common context `pre … tl`. -/
theorem crcField_burst_ne (t : Nat) (ht : t = 1 ∨ t = 2) (pre d d' tl : Bytes)
    (hlen : d.length = d'.length)
    (hb : span (xorBits (bitsOf d) (bitsOf d')) ≤ crcWidth t) (hne : d ≠ d') :
    crcField t (pre ++ d ++ tl) ≠ crcField t (pre ++ d' ++ tl) := by
  obtain ⟨P, s, hP, hf⟩ := crcField_reg t ht
  intro e
  -- equal fields mean equal register states …
  rw [hf, hf, Option.some.injEq] at e
  have hlt : ∀ x : BitVec (crcWidth t), x.toNat < 256 ^ crcLen t := fun x => by
    have : x.toNat < 2 ^ (8 * crcLen t) := x.isLt
    rwa [Nat.pow_mul] at this
  have hrun := BitVec.not_inj.mp (BitVec.eq_of_toNat_eq (beBytes_injective _ _ _ (hlt _) (hlt _) e))
  -- … which a burst excludes
  simp only [bitsOf_append] at hrun
  exact run_burst_ne_ctx P hP _ _ _ _ _ (by simp [bitsOf_length, hlen]) hb
    (fun e => hne (bitsOf_injective d d' hlen e)) hrun

theorem zeros_length (n : Nat) : (zeros n).length = n := by simp [zeros]

theorem encBytes_short (f : Bytes) (h : f.length < 24) :
    encBytes f = UInt8.ofNat (2 * 32 + f.length) :: f := by
  simp [encBytes, encHead, h, majBytes]

theorem zeroField_append (t : Nat) (pre f : Bytes) (hf : f.length = crcLen t) :
    zeroField t (pre ++ f) = pre ++ zeros (crcLen t) ∧
    (pre ++ f).drop ((pre ++ f).length - crcLen t) = f := by
  unfold zeroField
  rw [← hf, List.length_append, Nat.add_sub_cancel, List.take_left, List.drop_left]
  exact ⟨rfl, rfl⟩

/-- The block bytes with zeroed field, when the CRC item has the shortest head, are exactly what
`calculateCRCBuff` hashes, and the last `crcLen t` bytes are the field. -/
theorem zeroField_block (t : Nat) (buf field : Bytes) (hf : field.length = crcLen t) :
    zeroField t (buf ++ encBytes field) = buf ++ encBytes (zeros (crcLen t)) ∧
    (buf ++ encBytes field).drop ((buf ++ encBytes field).length - crcLen t) = field := by
  have hl := crcLen_le t
  rw [encBytes_short field (by omega), encBytes_short (zeros (crcLen t)) (by rw [zeros_length]; omega),
    zeros_length, hf]
  have e : ∀ (b : UInt8) (l : Bytes), buf ++ b :: l = (buf ++ [b]) ++ l := fun b l => by simp
  rw [e _ field, e _ (zeros (crcLen t))]
  exact zeroField_append t _ field hf

theorem crcCalc_eq (t : Nat) (ht : t = 1 ∨ t = 2) (buf : Bytes) :
    crcCalc t buf = crcField t (buf ++ encBytes (zeros (crcLen t))) := by
  unfold crcCalc
  have : t ≠ 0 := by omega
  simp [this]

theorem crcCalc_some (t : Nat) (ht : t = 1 ∨ t = 2) (buf : Bytes) :
    ∃ c, crcCalc t buf = some c ∧ c.length = crcLen t := by
  obtain ⟨P, s, _, hf⟩ := crcField_reg t ht
  exact ⟨_, by rw [crcCalc_eq t ht, hf], Cbor.Lemmas.beBytes_length _ _⟩

theorem checkField_encBytes (buf : Bytes) (t : Nat) (field rest c : Bytes) (hf : field.length ≤ maxInt32)
    (hc : crcCalc t buf = some c) :
    checkField buf t (encBytes field ++ rest) = if c = field then .ok (field, rest) else .error .crc := by
  unfold checkField checkFieldWith
  rw [hc, Cbor.Lemmas.decBytes_encBytes field rest hf]

/-- The check of a CRC item of the declared length in shortest form decides the Spec predicate. -/
theorem checkField_eq (t : Nat) (ht : t = 1 ∨ t = 2) (buf field rest : Bytes) (hf : field.length = crcLen t) :
    checkField buf t (encBytes field ++ rest) =
      if BlockCrcOk t (buf ++ encBytes field) then .ok (field, rest) else .error .crc := by
  have hl := crcLen_le t
  obtain ⟨c, hcalc, _⟩ := crcCalc_some t ht buf
  have hiff : BlockCrcOk t (buf ++ encBytes field) ↔ c = field := by
    unfold BlockCrcOk
    rw [(zeroField_block t buf field hf).1, (zeroField_block t buf field hf).2, ← crcCalc_eq t ht, hcalc,
      Option.some.injEq]
    exact ⟨fun h => h.2, fun h => ⟨by rw [encBytes, List.length_append, List.length_append]; omega, h⟩⟩
  rw [checkField_encBytes buf t field rest c (by unfold maxInt32; omega) hcalc]
  by_cases e : c = field
  · rw [if_pos e, if_pos (hiff.mpr e)]
  · rw [if_neg e, if_neg (fun h => e (hiff.mp h))]

/-- Buffer-level acceptance, restated as `Dtn7.Props.C03.accept_iff_crc_partial`: with the CRC item in shortest
form and of the declared length, the model's check accepts iff the block meets the Spec. -/
theorem accept_iff_crc (t : Nat) (ht : t = 1 ∨ t = 2) (buf field rest : Bytes)
    (hf : field.length = crcLen t) :
    checkField buf t (encBytes field ++ rest) = .ok (field, rest) ↔ BlockCrcOk t (buf ++ encBytes field) := by
  rw [checkField_eq t ht buf field rest hf]
  exact apply_ite_eq_iff id rfl nofun

/-- Whatever the model accepts has the value `calculateCRCBuff` computed, hence the right length. -/
theorem accept_imp (t : Nat) (buf rest v rest' : Bytes) (h : checkField buf t rest = .ok (v, rest')) :
    crcCalc t buf = some v ∧ decBytes rest = .ok (v, rest') := by
  unfold checkField checkFieldWith at h
  split at h
  · cases h
  · next c hc =>
    split at h
    · cases h
    · next v' r' hd =>
      split at h
      · next e => cases h; exact ⟨by rw [hc, e], hd⟩
      · cases h

theorem serialize_crc (t : Nat) (ht : t = 1 ∨ t = 2) (buf rest : Bytes) :
    ∃ f, serializeField t buf = some (encBytes f) ∧ f.length = crcLen t ∧
      BlockCrcOk t (buf ++ encBytes f) ∧ checkField buf t (encBytes f ++ rest) = .ok (f, rest) := by
  obtain ⟨c, hcalc, hlen⟩ := crcCalc_some t ht buf
  have hl := crcLen_le t
  have hchk : checkField buf t (encBytes c ++ rest) = .ok (c, rest) := by
    rw [checkField_encBytes buf t c rest c (by unfold maxInt32; omega) hcalc, if_pos rfl]
  exact ⟨c, by simp [serializeField, hcalc], hlen, (accept_iff_crc t ht buf c rest hlen).mp hchk, hchk⟩

/-- A burst of at most the CRC width anywhere in the bytes before the CRC item, everything else
(length, CRC item in whatever encoding, what follows) unchanged: if the first is accepted, the second is
rejected with "invalid CRC value". -/
theorem block_burst_rejected (t : Nat) (ht : t = 1 ∨ t = 2) (pre d d' post rest v rest' : Bytes)
    (hlen : d.length = d'.length)
    (hb : span (xorBits (bitsOf d) (bitsOf d')) ≤ crcWidth t) (hne : d ≠ d')
    (hacc : checkField (pre ++ d ++ post) t rest = .ok (v, rest')) :
    checkField (pre ++ d' ++ post) t rest = .error .crc := by
  obtain ⟨hcalc, hdec⟩ := accept_imp t _ rest v rest' hacc
  obtain ⟨c', hcalc', _⟩ := crcCalc_some t ht (pre ++ d' ++ post)
  have hne' := crcField_burst_ne t ht pre d d' (post ++ encBytes (zeros (crcLen t))) hlen hb hne
  simp only [← List.append_assoc] at hne'
  rw [← crcCalc_eq t ht, ← crcCalc_eq t ht, hcalc, hcalc'] at hne'
  unfold checkField checkFieldWith
  rw [hcalc', hdec]
  exact if_neg fun e => hne' (by rw [e])

theorem flip_ne (x : UInt8) (k : Nat) (hk : k < 8) : x ^^^ UInt8.ofNat (2 ^ k) ≠ x := by
  intro h
  have h1 := congrArg UInt8.toNat h
  have hm : (UInt8.ofNat (2 ^ k)).toNat = 2 ^ k := by
    apply Cbor.Lemmas.toNat_ofNat_lt
    have : 2 ^ k < 2 ^ 8 := Nat.pow_lt_pow_right (by decide) hk
    omega
  rw [UInt8.toNat_xor, hm] at h1
  have h2 := congrArg (fun n => n.testBit k) h1
  simp only [Nat.testBit_xor, Nat.testBit_two_pow_self] at h2
  cases hx : x.toNat.testBit k <;> simp [hx] at h2

/-- `uintU` and `uintE` read an unsigned integer and differ only in how they map the error. -/
theorem decUInt_mapErr_suffix {bs rest : Bytes} {n : Nat} (f : Err → PErr)
    (h : (match decUInt bs with | .error e => Except.error (f e) | .ok r => .ok r) = .ok (n, rest)) :
    rest <:+ bs := by
  cases hd : decUInt bs with
  | error e => rw [hd] at h; cases h
  | ok r => rw [hd] at h; cases h; exact (decExpect_ok hd).2.2

theorem uintU_suffix (bs rest : Bytes) (n : Nat) (h : uintU bs = .ok (n, rest)) : rest <:+ bs :=
  decUInt_mapErr_suffix unwrapped h

theorem uintE_suffix (bs rest : Bytes) (n : Nat) (h : uintE bs = .ok (n, rest)) : rest <:+ bs :=
  decUInt_mapErr_suffix (fun _ => .other) h

/-- The check "the CRC item is present iff the type is not 0" of both block parsers. -/
theorem declared_iff {p : Prop} [Decidable p] {t : Nat} (h : ¬ decide p ≠ (t != 0)) : p ↔ t ≠ 0 := by
  have h' : decide p = (t != 0) := Decidable.not_not.mp h
  by_cases h0 : t = 0
  · subst h0; simpa using h'
  · have : (t != 0) = true := by simpa using h0
    rw [this] at h'; simpa [h0] using h'

theorem canonicalPre_ok (bs r0 r : Bytes) (n t : Nat) (h : canonicalPre bs = .ok (n, t, r0, r)) :
    decArray bs = .ok (n, r0) ∧ r <:+ r0 ∧ (n = 5 ∨ n = 6) ∧ t ≤ 2 ∧ (n = 6 ↔ t ≠ 0) := by
  unfold canonicalPre at h
  cases hd : decArray bs with
  | error e => rw [hd] at h; cases h
  | ok x =>
    rw [hd] at h
    obtain ⟨n0, r00⟩ := x
    obtain ⟨_, hx, h⟩ := bind_eq_ok.mp h; cases hx
    obtain ⟨hn, h⟩ := guard_eq_ok.mp h
    obtain ⟨⟨bt, r1⟩, h1, h⟩ := bind_eq_ok.mp h
    obtain ⟨⟨num, r2⟩, h2, h⟩ := bind_eq_ok.mp h
    obtain ⟨⟨fl, r3⟩, h3, h⟩ := bind_eq_ok.mp h
    obtain ⟨⟨t', r4⟩, h4, h⟩ := bind_eq_ok.mp h
    obtain ⟨ht2, h⟩ := guard_eq_ok.mp h
    obtain ⟨hlen, h⟩ := guard_eq_ok.mp h
    cases h5 : decBytes r4 with
    | error e => rw [h5] at h; cases h
    | ok y =>
      rw [h5] at h; cases h
      have hs := (decBytes_ok h5).2.2.trans <| (uintU_suffix _ _ _ h4).trans <|
        (uintU_suffix _ _ _ h3).trans <| (uintU_suffix _ _ _ h2).trans (uintU_suffix _ _ _ h1)
      exact ⟨rfl, hs, by omega, by omega, declared_iff hlen⟩

theorem parseCanonical_ok (bs x : Bytes) (h : parseCanonical bs = .ok x) :
    (∃ t r0, canonicalPre bs = .ok (5, t, r0, x)) ∨
    (∃ t r0 r v, canonicalPre bs = .ok (6, t, r0, r) ∧ checkField (canonicalBuf 6 r0 r) t r = .ok (v, x)) := by
  unfold parseCanonical parseCanonicalWith at h
  split at h
  · cases h
  · next n t r0 r hp =>
    split at h
    · next h6 =>
      subst h6
      split at h
      · cases h
      · next v r' hc => cases h; exact Or.inr ⟨t, r0, r, v, hp, hc⟩
    · next h6 =>
      cases h
      have : n = 5 := by have := (canonicalPre_ok _ _ _ _ _ hp).2.2.1; omega
      subst this
      exact Or.inl ⟨t, r0, hp⟩

theorem decArray_not_array (x : UInt8) (hff : x.toNat ≠ 0xFF) (hm : x.toNat / 32 ≠ 4) (rest : Bytes) :
    ∃ e, decArray (x :: rest) = .error e ∧ e ≠ .flagBreak := by
  unfold decArray decExpect
  cases hd : decHead (x :: rest) with
  | ok y =>
    obtain ⟨m, n, r⟩ := y
    obtain ⟨b, w, hbs, _, _, rfl, _⟩ := decHead_eq_ok.mp hd
    cases hbs
    exact ⟨.wrongMajor, if_neg hm, by decide⟩
  | error e =>
    refine ⟨e, rfl, fun he => ?_⟩
    obtain ⟨b, t, hbs, hb⟩ := decHead_eq_break.mp (he ▸ hd)
    cases hbs
    exact hff hb

/-- Anything but the break code or an array head makes the block parser fail, not end the bundle. -/
theorem parseCanonical_not_array (x : UInt8) (hff : x.toNat ≠ 0xFF) (hm : x.toNat / 32 ≠ 4) (rest : Bytes) :
    parseCanonical (x :: rest) = .error .other := by
  obtain ⟨e, he, hne⟩ := decArray_not_array x hff hm rest
  unfold parseCanonical parseCanonicalWith canonicalPre
  rw [he]
  cases e <;> first | rfl | exact absurd rfl hne

theorem consumed_append (h b : Bytes) : consumed (h ++ b) b = h := by
  simp [consumed]

theorem consumed_of_suffix (a b : Bytes) (h : b <:+ a) : consumed a b ++ b = a := by
  obtain ⟨p, rfl⟩ := h
  rw [consumed_append]

theorem guard_eq_some {β : Type} {c : Prop} [Decidable c] {y : Option β} {b : β} :
    (if c then none else y) = some b ↔ ¬ c ∧ y = some b :=
  ite_eq_iff_of_ne nofun

theorem skip_suffix (fuel : Nat) :
    (∀ bs r, skipItem fuel bs = some r → r <:+ bs) ∧
    (∀ n bs r, skipItems fuel n bs = some r → r <:+ bs) := by
  induction fuel with
  | zero => exact ⟨fun bs r h => by simp [skipItem] at h, fun n bs r h => by simp [skipItems] at h⟩
  | succ fuel ih =>
    constructor
    · intro bs r h
      rw [skipItem] at h
      cases hd : decHead bs with
      | error e => rw [hd] at h; cases h
      | ok y =>
        obtain ⟨maj, n, rest⟩ := y
        rw [hd] at h
        dsimp only at h
        have hs := (decHead_ok hd).2.2.2
        by_cases h23 : maj = 2 ∨ maj = 3
        · rw [if_pos h23] at h
          obtain ⟨_, h⟩ := guard_eq_some.mp h
          cases h; exact (List.drop_suffix _ _).trans hs
        rw [if_neg h23] at h
        by_cases h4 : maj = 4
        · rw [if_pos h4] at h
          exact (ih.2 _ _ _ (guard_eq_some.mp h).2).trans hs
        rw [if_neg h4] at h
        by_cases h5 : maj = 5
        · rw [if_pos h5] at h
          exact (ih.2 _ _ _ (guard_eq_some.mp h).2).trans hs
        rw [if_neg h5] at h
        by_cases h6 : maj = 6
        · rw [if_pos h6] at h; exact (ih.1 _ _ h).trans hs
        · rw [if_neg h6] at h; cases h; exact hs
    · intro n bs r h
      cases n with
      | zero => simp only [skipItems] at h; cases h; exact List.suffix_refl _
      | succ n =>
        simp only [skipItems] at h
        split at h
        · cases h
        · next rest hr => exact (ih.2 _ _ _ h).trans (ih.1 _ _ hr)

theorem skipE_suffix (bs r : Bytes) (h : skipE bs = .ok r) : r <:+ bs := by
  unfold skipE at h
  split at h
  · cases h
  · next r' hr => cases h; exact (skip_suffix _).1 _ _ hr

theorem primaryPre_ok (bs r : Bytes) (n t : Nat) (h : primaryPre bs = .ok (n, t, r)) :
    r <:+ bs ∧ t ≤ 2 ∧ ((n = 9 ∨ n = 11) ↔ t ≠ 0) := by
  unfold primaryPre at h
  cases hd : decArray bs with
  | error e => rw [hd] at h; cases h
  | ok x =>
    rw [hd] at h
    obtain ⟨n0, r0⟩ := x
    have s0 : r0 <:+ bs := (decExpect_ok hd).2.2
    obtain ⟨_, hx, h⟩ := bind_eq_ok.mp h; cases hx
    obtain ⟨hn, h⟩ := guard_eq_ok.mp h
    obtain ⟨⟨ver, r1⟩, h1, h⟩ := bind_eq_ok.mp h
    obtain ⟨_, h⟩ := guard_eq_ok.mp h
    obtain ⟨⟨bcf, r2⟩, h2, h⟩ := bind_eq_ok.mp h
    obtain ⟨_, h⟩ := guard_eq_ok.mp h
    obtain ⟨⟨t', r3⟩, h3, h⟩ := bind_eq_ok.mp h
    obtain ⟨ht2, h⟩ := guard_eq_ok.mp h
    obtain ⟨hlen, h⟩ := guard_eq_ok.mp h
    obtain ⟨k1, g1, h⟩ := bind_eq_ok.mp h
    obtain ⟨k2, g2, h⟩ := bind_eq_ok.mp h
    obtain ⟨k3, g3, h⟩ := bind_eq_ok.mp h
    obtain ⟨k4, g4, h⟩ := bind_eq_ok.mp h
    obtain ⟨⟨lt, r5⟩, h5, h⟩ := bind_eq_ok.mp h
    obtain ⟨r6, h6, h⟩ := bind_eq_ok.mp h
    cases h
    have base : r5 <:+ bs :=
      (uintE_suffix _ _ _ h5).trans <| (skipE_suffix _ _ g4).trans <| (skipE_suffix _ _ g3).trans <|
      (skipE_suffix _ _ g2).trans <| (skipE_suffix _ _ g1).trans <| (uintE_suffix _ _ _ h3).trans <|
      (uintE_suffix _ _ _ h2).trans <| (uintE_suffix _ _ _ h1).trans s0
    refine ⟨?_, by omega, ?_⟩
    · by_cases hf : n = 10 ∨ n = 11
      · rw [if_pos hf] at h6
        obtain ⟨⟨o, r7⟩, h7, h6⟩ := bind_eq_ok.mp h6
        obtain ⟨⟨tl, r8⟩, h8, h6⟩ := bind_eq_ok.mp h6
        cases h6
        exact (uintE_suffix _ _ _ h8).trans <| (uintE_suffix _ _ _ h7).trans base
      · rw [if_neg hf] at h6; cases h6; exact base
    · exact declared_iff hlen

end Dtn7.Crc.Lemmas
