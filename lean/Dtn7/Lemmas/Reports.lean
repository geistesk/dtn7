import Dtn7.Model.Reports

namespace Dtn7.Reports.Lemmas
open Dtn7.Reports

theorem ssr_admin (n : Node) (s : Subject) (p reason now : Nat) (h : s.admin = true) :
    sendStatusReport n s p reason now = none := by
  simp [sendStatusReport, h]

theorem ssr_self (n : Node) (s : Subject) (p reason now : Nat)
    (h : n.hasEndpoint s.reportTo = true) : sendStatusReport n s p reason now = none := by
  simp [sendStatusReport, h]

/-- Everything a produced report is made of. -/
theorem ssr_some {n : Node} {s : Subject} {p reason now : Nat} {r : Report}
    (h : sendStatusReport n s p reason now = some r) :
    s.admin = false ∧ n.hasEndpoint s.reportTo = false ∧
    r.flags = fAdmin ∧ r.destination = s.reportTo ∧ r.reportTo = r.source ∧
    r.lifetime = reportLifetimeMs ∧ r.items = newItems s.reqTime p now ∧ r.reason = reason ∧
    r.ref = s.id ∧ (r.source = n.id ∨ (r.source = s.receiver ∧ n.hasEndpoint s.receiver = true)) := by
  unfold sendStatusReport at h
  cases hadm : s.admin
  · cases hself : n.hasEndpoint s.reportTo
    · cases haa : (!n.hasEndpoint (aaEndpoint n s) && aaEndpoint n s != n.id)
      · simp only [hadm, hself, haa, Bool.false_eq_true, if_false] at h
        cases h
        refine ⟨rfl, rfl, rfl, rfl, rfl, rfl, rfl, rfl, rfl, ?_⟩
        show aaEndpoint n s = n.id ∨ (aaEndpoint n s = s.receiver ∧ _)
        by_cases hr : s.receiver = Eid.none
        · left; simp [aaEndpoint, hr]
        · have ha : aaEndpoint n s = s.receiver := by simp [aaEndpoint, hr]
          rw [ha] at haa ⊢
          by_cases hid : s.receiver = n.id
          · left; exact hid
          · right
            refine ⟨rfl, ?_⟩
            cases hh : n.hasEndpoint s.receiver
            · simp [hh, hid] at haa
            · rfl
      · simp [hadm, hself, haa] at h
    · simp [hadm, hself] at h
  · simp [hadm] at h

theorem assertedPositions_new (rt : Bool) (p now : Nat) (hp : p < 4) (r : Report)
    (h : r.items = newItems rt p now) : assertedPositions r = [p] := by
  simp only [assertedPositions, h, newItems]
  have : p = 0 ∨ p = 1 ∨ p = 2 ∨ p = 3 := by omega
  rcases this with rfl | rfl | rfl | rfl <;> simp [assertedAt, newItem]

theorem timesOk_newItems (rt : Bool) (p now : Nat) : timesOk rt (newItems rt p now) = true := by
  cases rt <;> simp [timesOk, newItems, newItem] <;>
    (repeat' constructor) <;> split <;> simp

theorem justified_of_ssr {n : Node} {s : Subject} {p reason now : Nat} {r : Report}
    (evs : List Event) (h : sendStatusReport n s p reason now = some r) (hp : p < 4)
    (hh : happened evs p = true) (hq : requested s evs p = true) : ReportJustified s evs r := by
  obtain ⟨hadm, _, hf, hd, _, _, hi, _, hid, _⟩ := ssr_some h
  exact
    { subjectNotAdmin := hadm
      isAdmin := by rw [hf]; decide
      noRequestFlags := by rw [hf]; decide
      toReportTo := hd
      exactId := hid
      times := by rw [hi]; exact timesOk_newItems _ _ _
      truthful := ⟨p, assertedPositions_new _ p now hp r hi, hh, hq⟩ }

theorem mem_toList {c : Bool} {o : Option Report} {r : Report} (h : r ∈ toList c o) :
    c = true ∧ o = some r := by
  unfold toList at h
  cases c
  · simp at h
  · cases o with
    | none => simp at h
    | some x => simp at h; exact ⟨rfl, by rw [h]⟩

theorem any_isDeleted_cons (reason : Nat) (l : List Event) :
    (Event.deleted reason :: l).any isDeleted = true := by simp [isDeleted]

/-- `processOutcome` as data: for each outcome the `SendStatusReport` call sites of `processing.go` it passes,
each with its guard, status position and reason code (`processOutcome_eq`). -/
def sites (cfg : Cfg) (s : Subject) : Outcome → List (Bool × Nat × Nat)
  | .received => [(has s.flags fReqReception, posReceived, rNoInformation)]
  | .unknownBlock f =>
    [(has f bfReport, posReceived, rBlockUnsupported),
     (has f bfDelete && has s.flags fReqDeletion, posDeleted, rBlockUnsupported)]
  | .deliveredAgent => [(has s.flags fReqDelivery, posDelivered, rNoInformation)]
  | .noAgent => [(!cfg.reportOnlyOnSuccess && has s.flags fReqDelivery, posDelivered, rNoInformation)]
  | .forwarded => [(has s.flags fReqForward, posForwarded, rNoInformation)]
  | .lifetimeExpired => [(has s.flags fReqDeletion, posDeleted, rLifetimeExpired)]
  | .hopExceeded => [(has s.flags fReqDeletion, posDeleted, rHopLimitExceeded)]
  | .foreignSource => [(has s.flags fReqDeletion, posDeleted, rNoInformation)]
  | .allFailed | .notDispatched => []

theorem toList_and (c d : Bool) (x : Option Report) : toList (c && d) x = if c then toList d x else [] := by
  cases c <;> rfl

theorem processOutcome_eq (cfg : Cfg) (n : Node) (s : Subject) (now : Nat) (o : Outcome) :
    processOutcome cfg n s now o =
      (sites cfg s o).flatMap fun c => toList c.1 (sendStatusReport n s c.2.1 c.2.2 now) := by
  cases o <;>
    simp only [processOutcome, bundleDeletion, sites, toList_and, List.flatMap_cons, List.flatMap_nil,
      List.append_nil, Bool.not_eq_true']
  case noAgent => cases cfg.reportOnlyOnSuccess <;> rfl

theorem mem_processOutcome {cfg : Cfg} {n : Node} {s : Subject} {now : Nat} {o : Outcome} {r : Report}
    (hr : r ∈ processOutcome cfg n s now o) :
    ∃ p reason, (true, p, reason) ∈ sites cfg s o ∧ sendStatusReport n s p reason now = some r := by
  rw [processOutcome_eq, List.mem_flatMap] at hr
  obtain ⟨⟨c, p, reason⟩, hc, hr⟩ := hr
  obtain ⟨rfl, h⟩ := mem_toList hr
  exact ⟨p, reason, hc, h⟩

theorem sites_bounds {cfg : Cfg} {s : Subject} {o : Outcome} {c : Bool} {p reason : Nat}
    (h : (c, p, reason) ∈ sites cfg s o) : p < 4 ∧ reason ≤ 11 := by
  cases o <;> simp only [sites, List.mem_cons, List.mem_nil_iff, or_false, Prod.mk.injEq] at h
  case unknownBlock => rcases h with ⟨_, rfl, rfl⟩ | ⟨_, rfl, rfl⟩ <;> decide
  all_goals obtain ⟨_, rfl, rfl⟩ := h; decide

theorem sites_justified {cfg : Cfg} {s : Subject} {o : Outcome} {p reason : Nat}
    (hc : cfg.reportOnlyOnSuccess = true ∨ o ≠ .noAgent) (h : (true, p, reason) ∈ sites cfg s o) :
    happened (eventsOf o) p = true ∧ requested s (eventsOf o) p = true := by
  cases o <;> simp only [sites, List.mem_cons, List.mem_nil_iff, or_false, Prod.mk.injEq] at h
  case unknownBlock f =>
    rcases h with ⟨hq, rfl, rfl⟩ | ⟨hq, rfl, rfl⟩
    · simp [happened, requested, eventsOf, posReceived, blockWantsReport, ← hq]
    · simp only [Bool.true_eq, Bool.and_eq_true] at hq
      simp [happened, requested, eventsOf, posDeleted, isDeleted, hq.1, hq.2]
  case noAgent =>
    rcases hc with hc | hc
    · simp [hc] at h
    · exact absurd rfl hc
  all_goals
    obtain ⟨hq, rfl, rfl⟩ := h
    simp [happened, requested, eventsOf, posReceived, posForwarded, posDelivered, posDeleted, isDeleted, ← hq]

/-- Every report of every outcome is justified by the events that outcome consists of — with
`reportOnlyOnSuccess = true` always, with `false` (D16) except when no agent took the bundle. -/
theorem report_justified_general (cfg : Cfg) (n : Node) (s : Subject) (now : Nat) (o : Outcome)
    (hc : cfg.reportOnlyOnSuccess = true ∨ o ≠ .noAgent)
    (r : Report) (hr : r ∈ processOutcome cfg n s now o) : ReportJustified s (eventsOf o) r := by
  obtain ⟨p, reason, hs, h⟩ := mem_processOutcome hr
  obtain ⟨hh, hq⟩ := sites_justified hc hs
  exact justified_of_ssr _ h (sites_bounds hs).1 hh hq

/-! ### Monotonicity of the Spec in the event log (to lift outcomes to flows) -/

theorem happened_mono {e₁ e₂ : List Event} (h : ∀ e ∈ e₁, e ∈ e₂) (p : Nat)
    (hp : happened e₁ p = true) : happened e₂ p = true := by
  unfold happened at *
  split at hp <;> simp_all
  obtain ⟨x, hx, hd⟩ := hp
  exact ⟨x, h x hx, hd⟩

theorem requested_mono (s : Subject) {e₁ e₂ : List Event} (h : ∀ e ∈ e₁, e ∈ e₂) (p : Nat)
    (hp : requested s e₁ p = true) : requested s e₂ p = true := by
  unfold requested at *
  split at hp <;> simp_all
  rcases hp with hp | ⟨x, hx, hd⟩
  · exact Or.inl hp
  · exact Or.inr ⟨x, h x hx, hd⟩

theorem justified_mono {s : Subject} {e₁ e₂ : List Event} {r : Report}
    (h : ∀ e ∈ e₁, e ∈ e₂) (hj : ReportJustified s e₁ r) : ReportJustified s e₂ r := by
  obtain ⟨p, hp, hh, hq⟩ := hj.truthful
  exact { hj with truthful := ⟨p, hp, happened_mono h p hh, requested_mono s h p hq⟩ }

theorem flow_justified (cfg : Cfg) (n : Node) (s : Subject) (now : Nat) (fl : Flow)
    (hc : cfg.reportOnlyOnSuccess = true ∨ Outcome.noAgent ∉ flowOutcomes s fl)
    (r : Report) (hr : r ∈ flowReports cfg n s now fl) : ReportJustified s (flowEvents s fl) r := by
  simp only [flowReports, List.mem_flatMap] at hr
  obtain ⟨o, ho, hr⟩ := hr
  have hc' : cfg.reportOnlyOnSuccess = true ∨ o ≠ .noAgent := by
    rcases hc with hc | hc
    · exact Or.inl hc
    · exact Or.inr (fun h => hc (h ▸ ho))
  refine justified_mono ?_ (report_justified_general cfg n s now o hc' r hr)
  intro e he
  simp only [flowEvents, List.mem_flatMap]
  exact ⟨o, ho, he⟩

theorem no_report_about_admin (cfg : Cfg) (n : Node) (s : Subject) (now : Nat) (o : Outcome)
    (h : s.admin = true) : processOutcome cfg n s now o = [] := by
  rw [processOutcome_eq, List.flatMap_eq_nil_iff]
  intro c _
  rw [ssr_admin n s _ _ now h]; cases c.1 <;> rfl

theorem no_report_to_self (cfg : Cfg) (n : Node) (s : Subject) (now : Nat) (o : Outcome)
    (h : n.hasEndpoint s.reportTo = true) : processOutcome cfg n s now o = [] := by
  rw [processOutcome_eq, List.flatMap_eq_nil_iff]
  intro c _
  rw [ssr_self n s _ _ now h]; cases c.1 <;> rfl

theorem flow_no_report_about_admin (cfg : Cfg) (n : Node) (s : Subject) (now : Nat) (fl : Flow)
    (h : s.admin = true) : flowReports cfg n s now fl = [] := by
  simp only [flowReports, List.flatMap_eq_nil_iff]
  intro o _
  exact no_report_about_admin cfg n s now o h

theorem mem_flowReports_ssr {cfg : Cfg} {n : Node} {s : Subject} {now : Nat} {fl : Flow}
    {r : Report} (hr : r ∈ flowReports cfg n s now fl) :
    ∃ p reason, p < 4 ∧ reason ≤ 11 ∧ sendStatusReport n s p reason now = some r := by
  simp only [flowReports, List.mem_flatMap] at hr
  obtain ⟨o, _, hr⟩ := hr
  obtain ⟨p, reason, hs, h⟩ := mem_processOutcome hr
  exact ⟨p, reason, (sites_bounds hs).1, (sites_bounds hs).2, h⟩

theorem mem_runHistory_flags {cfg : Cfg} {h : List Step} {r : Report}
    (hr : r ∈ runHistory cfg h) : r.flags = fAdmin := by
  simp only [runHistory, List.mem_flatMap, Step.reports] at hr
  obtain ⟨e, _, hr⟩ := hr
  obtain ⟨p, reason, _, _, hs⟩ := mem_flowReports_ssr hr
  exact (ssr_some hs).2.2.1

/-- At most one report per call site whose condition holds. -/
theorem processOutcome_length_le_sites (cfg : Cfg) (n : Node) (s : Subject) (now : Nat) (o : Outcome) :
    (processOutcome cfg n s now o).length ≤ ((sites cfg s o).filter (·.1)).length := by
  rw [processOutcome_eq]
  induction sites cfg s o with
  | nil => exact Nat.le_refl _
  | cons c l ih =>
    rw [List.flatMap_cons, List.length_append]
    rcases c with ⟨_ | _, p, reason⟩
    · rw [List.filter_cons_of_neg (by simp)]; exact (Nat.zero_add _).symm ▸ ih
    · rw [List.filter_cons_of_pos rfl, List.length_cons]
      have : (toList true (sendStatusReport n s p reason now)).length ≤ 1 := by
        unfold toList; cases sendStatusReport n s p reason now <;> simp
      dsimp only at this ⊢; omega

theorem processOutcome_length_le (cfg : Cfg) (n : Node) (s : Subject) (now : Nat) (o : Outcome) :
    (processOutcome cfg n s now o).length ≤ 2 := by
  refine Nat.le_trans (processOutcome_length_le_sites cfg n s now o) (Nat.le_trans (List.length_filter_le _ _) ?_)
  cases o <;> simp [sites]

theorem flatMap_length_le {α β} (f : α → List β) (k : Nat) (l : List α)
    (h : ∀ a ∈ l, (f a).length ≤ k) : (l.flatMap f).length ≤ k * l.length := by
  induction l with
  | nil => simp
  | cons a t ih =>
    simp only [List.flatMap_cons, List.length_append, List.length_cons]
    have h1 := h a (by simp)
    have h2 := ih (fun b hb => h b (by simp [hb]))
    rw [Nat.mul_succ]; omega

theorem step_reports_le (cfg : Cfg) (e : Step) :
    (e.reports cfg).length ≤
      2 * (if e.subject.admin then 0 else (flowOutcomes e.subject e.flow).length) := by
  cases hadm : e.subject.admin
  · simp only [Step.reports, flowReports, Bool.false_eq_true, if_false]
    exact flatMap_length_le _ 2 _ (fun o _ => processOutcome_length_le cfg _ _ _ o)
  · simp [Step.reports, flow_no_report_about_admin cfg e.node e.subject e.now e.flow hadm]

theorem no_cascade (cfg : Cfg) (h : List Step) :
    (runHistory cfg h).length ≤ 2 * nonAdminEvents h := by
  induction h with
  | nil => simp [runHistory, nonAdminEvents]
  | cons e t ih =>
    have he := step_reports_le cfg e
    simp only [runHistory, nonAdminEvents, List.flatMap_cons, List.length_append, List.map_cons,
      List.sum_cons] at *
    omega

theorem processOutcome_le_events (cfg : Cfg) (n : Node) (s : Subject) (now : Nat) (o : Outcome)
    (hc : cfg.reportOnlyOnSuccess = true ∨ o ≠ .noAgent) :
    (processOutcome cfg n s now o).length ≤ (eventsOf o).length := by
  refine Nat.le_trans (processOutcome_length_le_sites cfg n s now o) ?_
  cases o with
  | noAgent =>
    rcases hc with hc | hc
    · simp [sites, hc]
    · exact absurd rfl hc
  | unknownBlock f =>
    refine Nat.le_trans (List.length_filter_le _ _) ?_
    simp only [sites, eventsOf, List.length_append, List.length_cons, List.length_nil]; omega
  | _ => exact List.length_filter_le _ _

theorem flatMap_length_le_flatMap {α β γ} (f : α → List β) (g : α → List γ) (l : List α)
    (h : ∀ a ∈ l, (f a).length ≤ (g a).length) : (l.flatMap f).length ≤ (l.flatMap g).length := by
  induction l with
  | nil => simp
  | cons a t ih =>
    simp only [List.flatMap_cons, List.length_append]
    have h1 := h a (by simp)
    have h2 := ih (fun b hb => h b (by simp [hb]))
    omega

/-- One report per event at most: the number of reports of a history is bounded by the number of
events that happened to non-administrative subjects (with `reportOnlyOnSuccess = true`; with `false` as
long as no flow ends in "no agent took it"). -/
theorem no_cascade_events (cfg : Cfg) (h : List Step)
    (hc : cfg.reportOnlyOnSuccess = true ∨ ∀ e ∈ h, Outcome.noAgent ∉ flowOutcomes e.subject e.flow) :
    (runHistory cfg h).length ≤ nonAdminEventCount h := by
  induction h with
  | nil => simp [runHistory, nonAdminEventCount]
  | cons e t ih =>
    have hc' : cfg.reportOnlyOnSuccess = true ∨
        ∀ e ∈ t, Outcome.noAgent ∉ flowOutcomes e.subject e.flow := by
      rcases hc with hc | hc
      · exact Or.inl hc
      · exact Or.inr (fun x hx => hc x (by simp [hx]))
    have ih' := ih hc'
    have he : (e.reports cfg).length ≤
        (if e.subject.admin then 0 else (flowEvents e.subject e.flow).length) := by
      cases hadm : e.subject.admin
      · simp only [Step.reports, flowReports, flowEvents, Bool.false_eq_true, if_false]
        apply flatMap_length_le_flatMap
        intro o ho
        apply processOutcome_le_events
        rcases hc with hc | hc
        · exact Or.inl hc
        · exact Or.inr (fun heq => hc e (by simp) (heq ▸ ho))
      · simp [Step.reports, flow_no_report_about_admin cfg e.node e.subject e.now e.flow hadm]
    simp only [runHistory, nonAdminEventCount, List.flatMap_cons, List.length_append, List.map_cons,
      List.sum_cons] at *
    omega

/-- A branch that returns a failure class keeps the whole ladder from being `none`. -/
theorem ite_eq_none_of_ne {α} {c : Prop} [Decidable c] {x e : Option α} (hx : x ≠ none) :
    (if c then x else e) = none ↔ ¬ c ∧ e = none := by
  by_cases h : c
  · simp only [h, if_true, not_true, false_and]; exact ⟨fun h => absurd h hx, False.elim⟩
  · simp only [h, if_false, not_false_eq_true, true_and]

theorem fail_none_iff (s : Subject) (evs : List Event) (r : Report) :
    reportJustifiedFail s evs r = none ↔ ReportJustified s evs r := by
  unfold reportJustifiedFail
  -- the ladder is `none` iff every guard is false and the final `match` is `none`
  simp only [ite_eq_none_of_ne, ne_eq, reduceCtorEq, and_false, not_false_eq_true,
    Bool.not_eq_true', Bool.not_eq_false, Bool.not_eq_true, Decidable.not_not]
  refine ⟨fun ⟨h1, h2, h3, h4, h5, h6, h7⟩ => ⟨h1, h2, h3, h4, h5, h6, ?_⟩,
    fun ⟨h1, h2, h3, h4, h5, h6, p, hp, hh, hq⟩ => ⟨h1, h2, h3, h4, h5, h6, ?_⟩⟩
  · split at h7
    · cases h7
    · rename_i p hp
      simp only [ite_eq_none_of_ne, ne_eq, reduceCtorEq, not_false_eq_true, Bool.not_eq_false, and_true] at h7
      exact ⟨p, hp, h7⟩
    · cases h7
  · simp only [hp, hh, hq, Bool.true_eq_false, if_false]

theorem ssr_allowed (n : Node) (s : Subject) (p reason now : Nat)
    (h : reportingAllowed n s = true) :
    ∃ r, sendStatusReport n s p reason now = some r ∧ r.items = newItems s.reqTime p now := by
  simp only [reportingAllowed, Bool.and_eq_true, Bool.not_eq_true'] at h
  obtain ⟨⟨h1, h2⟩, h3⟩ := h
  simp [sendStatusReport, h1, h2, h3]

theorem mem_flowEvents {s : Subject} {fl : Flow} {e : Event} :
    e ∈ flowEvents s fl ↔ ∃ o ∈ flowOutcomes s fl, e ∈ eventsOf o := by
  simp [flowEvents, List.mem_flatMap]

theorem mem_flowReports {cfg : Cfg} {n : Node} {s : Subject} {now : Nat} {fl : Flow} {r : Report} :
    r ∈ flowReports cfg n s now fl ↔ ∃ o ∈ flowOutcomes s fl, r ∈ processOutcome cfg n s now o := by
  simp [flowReports, List.mem_flatMap]

/-- In a well-formed flow the reception-side outcomes only occur after `received`. -/
theorem received_mem_of_receive_side {s : Subject} {fl : Flow} (hw : fl.wellFormed = true)
    {o : Outcome} (ho : o ∈ flowOutcomes s fl)
    (hk : o = .received ∨ ∃ f, o = .unknownBlock f) : Outcome.received ∈ flowOutcomes s fl := by
  cases fl with
  | receiveKnown => simp [flowOutcomes] at ho
  | receive d => simp [flowOutcomes]
  | submitForeign =>
    simp only [flowOutcomes, List.mem_singleton] at ho
    rcases hk with rfl | ⟨f, rfl⟩ <;> cases ho
  | submit d =>
    simp only [flowOutcomes, List.mem_singleton] at ho
    subst ho
    rcases hk with rfl | ⟨f, rfl⟩ <;> simp [Flow.wellFormed, Outcome.isDispatch] at hw
  | retry d =>
    simp only [flowOutcomes, List.mem_singleton] at ho
    subst ho
    rcases hk with rfl | ⟨f, rfl⟩ <;> simp [Flow.wellFormed, Outcome.isDispatch] at hw

end Dtn7.Reports.Lemmas
