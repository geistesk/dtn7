/-
The update formulas on the binary64 ROUNDING model satisfy the `Laws`: every operation is
`rne ∘ exact`, and the proof uses only the facts about `rne` from `Lemmas/F64.lean`.
-/
import Dtn7.Lemmas.Prophet
import Dtn7.Lemmas.F64

namespace Dtn7.Lemmas.Prophet
open Dtn7.Prophet Dtn7.F64 Dtn7.Lemmas.F64

/-- "is a binary64 value in [0, 1]" (values are integers in units of 2^-1074). -/
def ProbF (v : Int) : Prop := ∃ n : Nat, v = (n : Int) ∧ n ≤ oneN ∧ IsF64 n

theorem probF_zero : ProbF 0 := ⟨0, rfl, Nat.zero_le _, isF64_zero⟩
theorem probF_one : ProbF F64.one := ⟨oneN, one_eq, Nat.le_refl _, isF64_pow 1074⟩

theorem fsub_one (p : Nat) (hp : p ≤ oneN) :
    F64.fsub F64.one (p : Int) = ((rneNat 0 (oneN - p) : Nat) : Int) := by
  unfold F64.fsub
  rw [one_eq, ← Int.ofNat_sub hp, rne_ofNat]

theorem fmul_nat (a b : Nat) : F64.fmul (a : Int) (b : Int) = ((rneNat 1074 (a * b) : Nat) : Int) := by
  unfold F64.fmul
  rw [← Int.natCast_mul, rne_ofNat]

theorem fadd_nat (a b : Nat) : F64.fadd (a : Int) (b : Int) = ((rneNat 0 (a + b) : Nat) : Int) := by
  unfold F64.fadd
  rw [← Int.natCast_add, rne_ofNat]

theorem f64Laws : Laws f64Ops (· ≤ ·) ProbF where
  le_refl := fun a => Int.le_refl a
  le_trans := fun _ _ _ h1 h2 => Int.le_trans h1 h2
  dom_zero := probF_zero
  enc := by
    rintro c p ⟨cn, rfl, hc1, _⟩ ⟨pn, rfl, hp1, hpF⟩
    simp only [encounterVal, f64Ops]
    rw [fsub_one pn hp1, fmul_nat, fadd_nat]
    have ht := mul_le_left (rneNat 0 (oneN - pn)) cn (rneNat_isF64 _ _) hc1
    exact ⟨⟨_, rfl, add_one_sub_le_one pn _ hp1 ht, rneNat_isF64 _ _⟩,
      Int.ofNat_le.2 (add_ge_left pn _ hpF)⟩
  age := by
    rintro g p ⟨gn, rfl, hg1, _⟩ ⟨pn, rfl, hp1, hpF⟩
    simp only [ageVal, f64Ops]
    rw [fmul_nat]
    have ht := mul_le_left pn gn hpF hg1
    exact ⟨⟨_, rfl, Nat.le_trans ht hp1, rneNat_isF64 _ _⟩, Int.ofNat_le.2 ht⟩
  trans := by
    rintro b p a c ⟨bn, rfl, hb1, _⟩ ⟨pn, rfl, hp1, hpF⟩ ⟨an, rfl, ha1, _⟩ ⟨cn, rfl, hc1, _⟩
    simp only [transVal, f64Ops]
    rw [fsub_one pn hp1, fmul_nat, fmul_nat, fmul_nat, fadd_nat]
    have h1 := mul_le_left (rneNat 0 (oneN - pn)) an (rneNat_isF64 _ _) ha1
    have h2 := mul_le_left _ cn (rneNat_isF64 1074 (rneNat 0 (oneN - pn) * an)) hc1
    have h3 := mul_le_left _ bn
      (rneNat_isF64 1074 (rneNat 1074 (rneNat 0 (oneN - pn) * an) * cn)) hb1
    have ht := Nat.le_trans h3 (Nat.le_trans h2 h1)
    exact ⟨⟨_, rfl, add_one_sub_le_one pn _ hp1 ht, rneNat_isF64 _ _⟩,
      Int.ofNat_le.2 (add_ge_left pn _ hpF)⟩

end Dtn7.Lemmas.Prophet
