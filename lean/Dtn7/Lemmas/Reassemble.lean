/-
Lemmas about the reassembly model (`Dtn7.Model.Reassemble`): the sort is a permutation that sorts; the
sweep is the flag test plus the interval sweep of `Dtn7.Lemmas.Intervals` ("ends at `t` iff `[0, t)` is
covered"); the merge invariant is "rebuilt payload = the original's prefix up to the running end".
-/
import Dtn7.Model.Reassemble
import Dtn7.Lemmas.Intervals

namespace Dtn7.Frag.Lemmas

theorem perm_insertOff (f : RFrag) (l : List RFrag) : (insertOff f l).Perm (f :: l) := by
  induction l with
  | nil => exact List.Perm.refl _
  | cons g gs ih =>
    unfold insertOff
    split
    · exact List.Perm.refl _
    · exact (List.Perm.cons g ih).trans (List.Perm.swap f g gs)

theorem perm_sortOff (l : List RFrag) : (sortOff l).Perm l := by
  induction l with
  | nil => exact List.Perm.refl _
  | cons f fs ih => exact (perm_insertOff f (sortOff fs)).trans (List.Perm.cons f ih)

theorem sorted_insertOff (f : RFrag) (l : List RFrag) (h : SortedOff l) : SortedOff (insertOff f l) := by
  induction l with
  | nil => simp [insertOff, SortedOff]
  | cons g gs ih =>
    unfold insertOff
    obtain ⟨hg, hs⟩ := h
    split
    · rename_i hlt
      refine ⟨?_, hg, hs⟩
      intro k hk
      rcases List.mem_cons.mp hk with rfl | hk
      · omega
      · have := hg k hk; omega
    · rename_i hge
      refine ⟨?_, ih hs⟩
      intro k hk
      rcases List.mem_cons.mp ((perm_insertOff f gs).mem_iff.mp hk) with rfl | hk
      · omega
      · exact hg k hk

theorem sorted_sortOff (l : List RFrag) : SortedOff (sortOff l) := by
  induction l with
  | nil => trivial
  | cons f fs ih => exact sorted_insertOff f _ ih

theorem sortOff_ne_nil (l : List RFrag) (h : l ≠ []) : sortOff l ≠ [] :=
  fun e => h (e ▸ perm_sortOff l).symm.eq_nil

theorem covers_perm {s fs : List RFrag} (hp : s.Perm fs) (t : Nat) : Covers s t ↔ Covers fs t := by
  have one : ∀ {a b : List RFrag}, a.Perm b → Covers a t → Covers b t := by
    rintro a b hab ⟨h1, h2⟩
    refine ⟨fun f hf => h1 f (hab.mem_iff.mpr hf), fun k hk => ?_⟩
    obtain ⟨f, hf, r⟩ := h2 k hk
    exact ⟨f, hab.mem_iff.mp hf, r⟩
  exact ⟨one hp, one hp.symm⟩

/-! ### the sweep (code after the D3 repair: the running end only grows) -/

/-- The interval a fragment occupies. -/
def ivOfR (f : RFrag) : Nat × Nat := (f.off, f.data.length)

/-- The sweep over fragments is the flag test followed by the sweep over their intervals. -/
theorem sweep_ok_iff (m : Bool) : ∀ (s : List RFrag) (last t : Nat),
    sweep m last s = .ok t ↔
      (∀ f ∈ s, f.isFrag = true) ∧ Store.sweepEnd m last (s.map ivOfR) = some t := by
  intro s
  induction s with
  | nil => intro last t; simp [sweep, Store.sweepEnd]
  | cons f fs ih =>
    intro last t
    cases hfr : f.isFrag with
    | false => simp [sweep, hfr]
    | true =>
      by_cases hgap : last < f.off
      · simp [sweep, Store.sweepEnd, ivOfR, hfr, hgap]
      · have hgap' : ¬ f.off > last := hgap
        simp only [sweep, hfr, Bool.not_true, Bool.false_eq_true, if_false, hgap', List.map_cons,
          Store.sweepEnd, ivOfR, List.mem_cons, forall_eq_or_imp, true_and]
        exact ih _ _

theorem sortedOff_pairwise : ∀ s : List RFrag, SortedOff s → (s.map ivOfR).Pairwise (fun a b => a.1 ≤ b.1)
  | [], _ => List.Pairwise.nil
  | f :: fs, h => by
    rw [List.map_cons, List.pairwise_cons]
    refine ⟨fun iv hiv => ?_, sortedOff_pairwise fs h.2⟩
    obtain ⟨g, hg, rfl⟩ := List.mem_map.mp hiv
    exact h.1 g hg

theorem sweep_sound (s : List RFrag) (last t : Nat) (h : sweep true last s = .ok t) :
    last ≤ t ∧ (∀ f ∈ s, f.isFrag = true ∧ f.stop ≤ t) ∧
      ∀ k, last ≤ k → k < t → ∃ f ∈ s, f.off ≤ k ∧ k < f.stop := by
  obtain ⟨hfr, hsw⟩ := (sweep_ok_iff true s last t).mp h
  obtain ⟨h1, h2, h3⟩ := Intervals.sweepEnd_sound _ last t hsw
  refine ⟨h1, fun f hf => ⟨hfr f hf, h3 _ (List.mem_map.mpr ⟨f, hf, rfl⟩)⟩, fun k hk1 hk2 => ?_⟩
  obtain ⟨iv, hiv, hc⟩ := h2 k hk1 hk2
  obtain ⟨f, hf, rfl⟩ := List.mem_map.mp hiv
  exact ⟨f, hf, hc⟩

theorem sweep_complete (s : List RFrag) (last t : Nat) (hs : SortedOff s)
    (hfr : ∀ f ∈ s, f.isFrag = true) (hend : ∀ f ∈ s, f.stop ≤ t) (hle : last ≤ t)
    (hcov : ∀ k, last ≤ k → k < t → ∃ f ∈ s, f.off ≤ k ∧ k < f.stop) : sweep true last s = .ok t := by
  refine (sweep_ok_iff true s last t).mpr ⟨hfr, ?_⟩
  refine Intervals.sweepEnd_complete _ last t (sortedOff_pairwise s hs) (fun k hk1 hk2 => ?_) (fun iv hiv => ?_) hle
  · obtain ⟨f, hf, hc⟩ := hcov k hk1 hk2
    exact ⟨ivOfR f, List.mem_map.mpr ⟨f, hf, rfl⟩, hc⟩
  · obtain ⟨f, hf, rfl⟩ := List.mem_map.mp hiv
    exact hend f hf

theorem checkSorted_ok {m : Bool} {s : List RFrag} (h : checkSorted m s = .ok ()) :
    ∃ f fs last, s = f :: fs ∧ sweep m 0 s = .ok last ∧ f.total = last := by
  cases s with
  | nil => cases h
  | cons f fs =>
    simp only [checkSorted] at h
    split at h
    · cases h
    · rename_i last hsw
      split at h
      · cases h
      · rename_i hl
        exact ⟨f, fs, last, rfl, hsw, by simpa using hl⟩

theorem checkSorted_iff (s : List RFrag) (total : Nat) (hne : s ≠ []) (hs : SortedOff s)
    (hf : ∀ f ∈ s, f.isFrag = true ∧ f.total = total) :
    checkSorted true s = .ok () ↔ Covers s total := by
  cases s with
  | nil => exact absurd rfl hne
  | cons f fs =>
    have htot : f.total = total := (hf f (by simp)).2
    constructor
    · intro h
      obtain ⟨f', fs', last, e, hsw, hl⟩ := checkSorted_ok h
      cases e
      obtain ⟨_, h2, h3⟩ := sweep_sound _ _ _ hsw
      refine ⟨fun g hg => ?_, fun k hk => ?_⟩
      · have := (h2 g hg).2; omega
      · exact h3 k (Nat.zero_le _) (by omega)
    · rintro ⟨h1, h2⟩
      have := sweep_complete (f :: fs) 0 total hs (fun g hg => (hf g hg).1) h1 (Nat.zero_le _)
        (fun k _ hk => h2 k hk)
      simp [checkSorted, this, htot]

theorem sweep_cons {f : RFrag} {fs : List RFrag} {last t : Nat} (h : sweep true last (f :: fs) = .ok t) :
    f.isFrag = true ∧ f.off ≤ last ∧ sweep true (max last f.stop) fs = .ok t := by
  unfold sweep at h
  split at h
  · cases h
  · rename_i hfr
    split at h
    · cases h
    · rename_i hoff
      exact ⟨by simpa using hfr, Nat.le_of_not_lt hoff, h⟩

theorem merge_cons (f : RFrag) (fs : List RFrag) (last : Nat) (acc : List UInt8) (hoff : f.off ≤ last) :
    merge true last acc (f :: fs) =
      if f.stop ≤ last then merge true last acc fs
      else merge true f.stop (acc ++ f.data.drop (last - f.off)) fs := by
  rw [merge]
  by_cases hskip : f.stop ≤ last
  · simp only [hskip, Bool.true_and, decide_true, if_true]
  · have h1 : ¬ last < f.off := Nat.not_lt.mpr hoff
    have h2 : last - f.off ≤ f.data.length := by unfold RFrag.stop at hskip; omega
    simp only [hskip, Bool.true_and, decide_false, Bool.false_eq_true, if_false, h1, sliceFrom, h2, if_true]

/-- No slice expression of the merge can go out of range once the sweep has succeeded (any fragments,
not only genuine ones): the absent panic. -/
theorem merge_total : ∀ (s : List RFrag) (last t : Nat) (acc : List UInt8),
    sweep true last s = .ok t → merge true last acc s ≠ none := by
  intro s
  induction s with
  | nil => intro last t acc _; simp [merge]
  | cons f fs ih =>
    intro last t acc h
    obtain ⟨_, hoff, h⟩ := sweep_cons h
    rw [merge_cons f fs last acc hoff]
    by_cases hskip : f.stop ≤ last
    · rw [if_pos hskip]
      rw [Nat.max_eq_left hskip] at h
      exact ih _ _ _ h
    · rw [if_neg hskip]
      rw [Nat.max_eq_right (Nat.le_of_not_le hskip)] at h
      exact ih _ _ _ h

theorem take_add_slice (p : List UInt8) (off len last : Nat) (h1 : off ≤ last) (h2 : last < off + len) :
    p.take last ++ (((p.drop off).take len).drop (last - off)) = p.take (off + len) := by
  have e : off + len = last + (off + len - last) := by omega
  rw [e, List.take_add, List.drop_take, List.drop_drop]
  congr 2
  · omega
  · congr 1; omega

/-- If every fragment is a slice of `p` and `acc` is `p` up to the running end, the merge returns `p`
up to the end the sweep reports. -/
theorem merge_exact (p : List UInt8) : ∀ (s : List RFrag) (last t : Nat) (acc : List UInt8),
    (∀ f ∈ s, FragOf p f) → acc = p.take last → sweep true last s = .ok t →
    merge true last acc s = some (p.take t) := by
  intro s
  induction s with
  | nil =>
    intro last t acc _ hacc h
    simp [sweep] at h; subst h
    simp [merge, hacc]
  | cons f fs ih =>
    intro last t acc hfr hacc h
    obtain ⟨_, hoff, h⟩ := sweep_cons h
    have hfs : ∀ g ∈ fs, FragOf p g := fun g hg => hfr g (by simp [hg])
    rw [merge_cons f fs last acc hoff]
    by_cases hskip : f.stop ≤ last
    · rw [if_pos hskip]
      rw [Nat.max_eq_left hskip] at h
      exact ih _ _ _ hfs hacc h
    · rw [if_neg hskip]
      rw [Nat.max_eq_right (Nat.le_of_not_le hskip)] at h
      refine ih _ _ _ hfs ?_ h
      obtain ⟨_, _, _, hdata⟩ := hfr f (by simp)
      rw [hacc, hdata]
      unfold RFrag.stop at *
      exact take_add_slice p f.off f.data.length last hoff (by omega)

theorem reassembleSorted_exact (p : List UInt8) (B : List Nat) (s : List RFrag) (hne : s ≠ [])
    (hs : SortedOff s) (hf : ∀ f ∈ s, FragOf p f) (hc : Covers s p.length)
    (hb : ∀ f ∈ s, f.off = 0 → f.blocks = B) : reassembleSorted true s = .ok p B := by
  have hft : ∀ f ∈ s, f.isFrag = true ∧ f.total = p.length := fun f h => ⟨(hf f h).1, (hf f h).2.1⟩
  have hchk := (checkSorted_iff s p.length hne hs hft).mpr hc
  have hsw : sweep true 0 s = .ok p.length :=
    sweep_complete s 0 p.length hs (fun f h => (hft f h).1) hc.1 (Nat.zero_le _) (fun k _ hk => hc.2 k hk)
  have hm := merge_exact p s 0 p.length [] hf (by simp) hsw
  cases s with
  | nil => exact absurd rfl hne
  | cons f fs =>
    have h0 : f.off = 0 := Nat.le_zero.mp (sweep_cons hsw).2.1
    simp only [reassembleSorted, hchk, hm, List.take_length]
    rw [hb f (by simp) h0]

theorem reassembleSorted_sound (p : List UInt8) (s : List RFrag) (hf : ∀ f ∈ s, FragOf p f)
    (q : List UInt8) (B : List Nat) (h : reassembleSorted true s = .ok q B) : q = p := by
  unfold reassembleSorted at h
  split at h
  · cases h
  · rename_i hchk
    obtain ⟨f, fs, last, rfl, hsw, htot⟩ := checkSorted_ok hchk
    rw [merge_exact p (f :: fs) 0 last [] hf (by simp) hsw] at h
    simp only [RRes.ok.injEq] at h
    have : last = p.length := by rw [← htot]; exact (hf f (by simp)).2.1
    rw [← h.1, this, List.take_length]

theorem reassembleSorted_no_panic (s : List RFrag) : reassembleSorted true s ≠ .panic := by
  unfold reassembleSorted
  split
  · simp
  · rename_i hchk
    obtain ⟨f, fs, last, rfl, hsw, _⟩ := checkSorted_ok hchk
    have := merge_total (f :: fs) 0 last [] hsw
    split
    · rename_i hm; exact absurd hm this
    · simp

/-! ### the store keeps, per (offset, total), the longest fragment: the union of the intervals is kept -/

/-- Every interval of `a` lies within some interval of `b`. -/
def Dom (a b : List RFrag) : Prop := ∀ f ∈ a, ∃ g ∈ b, g.off ≤ f.off ∧ f.stop ≤ g.stop

theorem Dom.refl (a : List RFrag) : Dom a a := fun f hf => ⟨f, hf, Nat.le_refl _, Nat.le_refl _⟩

theorem Dom.trans {a b c : List RFrag} (h1 : Dom a b) (h2 : Dom b c) : Dom a c := by
  intro f hf
  obtain ⟨g, hg, g1, g2⟩ := h1 f hf
  obtain ⟨k, hk, k1, k2⟩ := h2 g hg
  exact ⟨k, hk, by omega, by omega⟩

theorem Dom.of_subset {a b : List RFrag} (h : ∀ f ∈ a, f ∈ b) : Dom a b :=
  fun f hf => ⟨f, h f hf, Nat.le_refl _, Nat.le_refl _⟩

theorem Dom.append_right {a b : List RFrag} (c : List RFrag) (h : Dom a b) : Dom (a ++ c) (b ++ c) := by
  intro f hf
  rcases List.mem_append.mp hf with hf | hf
  · obtain ⟨g, hg, r⟩ := h f hf
    exact ⟨g, List.mem_append.mpr (Or.inl hg), r⟩
  · exact ⟨f, List.mem_append.mpr (Or.inr hf), Nat.le_refl _, Nat.le_refl _⟩

theorem covers_of_dom {a b : List RFrag} (t : Nat) (hab : Dom a b) (hba : Dom b a) (h : Covers b t) :
    Covers a t := by
  refine ⟨fun f hf => ?_, fun k hk => ?_⟩
  · obtain ⟨g, hg, _, g2⟩ := hab f hf
    have := h.1 g hg; omega
  · obtain ⟨g, hg, g1, g2⟩ := h.2 k hk
    obtain ⟨f, hf, f1, f2⟩ := hba g hg
    exact ⟨f, hf, by omega, by omega⟩

theorem storePush_sub (kl : Bool) (parts : List RFrag) (f : RFrag) :
    ∀ g ∈ storePush kl parts f, g ∈ parts ++ [f] := by
  induction parts with
  | nil => intro g hg; simpa [storePush] using hg
  | cons a as ih =>
    intro g hg
    unfold storePush at hg
    split at hg
    · split at hg
      · rcases List.mem_cons.mp hg with rfl | hg
        · simp
        · simp [hg]
      · rcases List.mem_cons.mp hg with rfl | hg
        · simp
        · simp [hg]
    · rcases List.mem_cons.mp hg with rfl | hg
      · simp
      · have := ih g hg
        rcases List.mem_append.mp this with h | h
        · simp [h]
        · simp at h; simp [h]

theorem storeParts_sub (kl : Bool) (fs : List RFrag) : ∀ f ∈ storeParts kl fs, f ∈ fs := by
  have : ∀ (l acc : List RFrag), ∀ f ∈ l.foldl (storePush kl) acc, f ∈ acc ++ l := by
    intro l
    induction l with
    | nil => intro acc f h; simpa using h
    | cons a as ih =>
      intro acc f h
      rcases List.mem_append.mp (ih _ f h) with h1 | h1
      · rcases List.mem_append.mp (storePush_sub kl acc a f h1) with h2 | h2
        · simp [h2]
        · simp at h2; simp [h2]
      · simp [h1]
  intro f h
  simpa using this fs [] f h

theorem storePush_dom (parts : List RFrag) (f : RFrag) : Dom (parts ++ [f]) (storePush true parts f) := by
  induction parts with
  | nil => intro g hg; exact ⟨g, by simpa [storePush] using hg, Nat.le_refl _, Nat.le_refl _⟩
  | cons a as ih =>
    intro g hg
    unfold storePush
    split
    · rename_i hkey
      simp only [Bool.and_eq_true, beq_iff_eq] at hkey
      split
      · rename_i hlen
        simp only [Bool.true_and, decide_eq_true_eq] at hlen
        -- `f` replaces `a`; `a` lies within `f`
        rcases List.mem_append.mp hg with hg | hg
        · rcases List.mem_cons.mp hg with rfl | hg
          · exact ⟨f, by simp, by omega, by unfold RFrag.stop; omega⟩
          · exact ⟨g, by simp [hg], Nat.le_refl _, Nat.le_refl _⟩
        · simp at hg; subst hg; exact ⟨g, by simp, Nat.le_refl _, Nat.le_refl _⟩
      · rename_i hlen
        simp only [Bool.true_and, decide_eq_true_eq] at hlen
        -- `a` stays; `f` lies within `a`
        rcases List.mem_append.mp hg with hg | hg
        · exact ⟨g, hg, Nat.le_refl _, Nat.le_refl _⟩
        · simp at hg; subst hg; exact ⟨a, by simp, by omega, by unfold RFrag.stop; omega⟩
    · rcases List.mem_append.mp hg with hg | hg
      · rcases List.mem_cons.mp hg with rfl | hg
        · exact ⟨g, by simp, Nat.le_refl _, Nat.le_refl _⟩
        · obtain ⟨k, hk, r⟩ := ih g (List.mem_append.mpr (Or.inl hg))
          exact ⟨k, by simp [hk], r⟩
      · obtain ⟨k, hk, r⟩ := ih g (List.mem_append.mpr (Or.inr hg))
        exact ⟨k, by simp [hk], r⟩

theorem storeParts_dom (fs : List RFrag) : ∀ acc : List RFrag,
    Dom (fs.foldl (storePush true) acc) (acc ++ fs) ∧ Dom (acc ++ fs) (fs.foldl (storePush true) acc) := by
  induction fs with
  | nil => intro acc; simp only [List.foldl_nil, List.append_nil]; exact ⟨Dom.refl _, Dom.refl _⟩
  | cons f fs ih =>
    intro acc
    obtain ⟨h1, h2⟩ := ih (storePush true acc f)
    simp only [List.foldl_cons]
    have e : acc ++ f :: fs = (acc ++ [f]) ++ fs := by simp
    rw [e]
    exact ⟨h1.trans (Dom.append_right fs (Dom.of_subset (storePush_sub true acc f))),
      (Dom.append_right fs (storePush_dom acc f)).trans h2⟩

theorem storeParts_ne_nil (kl : Bool) (fs : List RFrag) (h : fs ≠ []) : storeParts kl fs ≠ [] := by
  have hp : ∀ (parts : List RFrag) (f : RFrag), storePush kl parts f ≠ [] := by
    intro parts f
    cases parts with
    | nil => simp [storePush]
    | cons a as => unfold storePush; split <;> (try split) <;> simp
  have hf : ∀ (l acc : List RFrag), acc ≠ [] → l.foldl (storePush kl) acc ≠ [] := by
    intro l
    induction l with
    | nil => intro acc h; simpa using h
    | cons a as ih => intro acc _; exact ih _ (hp acc a)
  cases fs with
  | nil => exact absurd rfl h
  | cons a as => exact hf as _ (hp [] a)

end Dtn7.Frag.Lemmas
