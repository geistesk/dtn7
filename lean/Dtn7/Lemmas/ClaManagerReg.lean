/-
C16: the manager calls `Start` only on registered adapters (`Spec.startedOnlyRegistered`), for every trace.
A clause of its own, with its own invariant `R` ("every element of the registry is registered according
to the log"); from the main invariant `Inv` it uses one element per address and "not panicked".
-/
import Dtn7.Lemmas.ClaManager

namespace Dtn7.ClaManager
open Spec

/-- every element of the registry is registered according to the log, and the log's starts are fine -/
structure R (env : Env) (reg : List Elem) (h : Hist) : Prop where
  reg : ∀ x ∈ reg, registeredIn env.cfg x.conv h = true
  ok : startedOnlyRegistered env.cfg h = true

theorem registeredIn_start (cfg : Nat → Cfg) (a c : Nat) (r : Ans) (h : Hist) :
    registeredIn cfg a (.start c r :: h) = registeredIn cfg a h := rfl

theorem registeredIn_stop (cfg : Nat → Cfg) (a c : Nat) (h : Hist) :
    registeredIn cfg a (.stop c :: h) = registeredIn cfg a h := rfl

theorem mem_replace {env : Env} {e' : Elem} {reg : List Elem} {x : Elem} (hx : x ∈ replace env e' reg) :
    x = e' ∨ x ∈ reg := by
  unfold replace at hx
  rcases List.mem_map.mp hx with ⟨y, hy, hyx⟩
  split at hyx
  · exact Or.inl hyx.symm
  · exact Or.inr (hyx ▸ hy)

theorem mem_remove {env : Env} {addr : Nat} {reg : List Elem} {x : Elem} (hx : x ∈ remove env addr reg) :
    x ∈ reg ∧ addrOf env x ≠ addr := by
  unfold remove at hx
  have := List.mem_filter.mp hx
  exact ⟨this.1, by simpa using this.2⟩

/-- a `Start` of a registered adapter keeps the log fine -/
theorem R.start_ok {env : Env} {h : Hist} {c : Nat} (r : Ans)
    (hc : registeredIn env.cfg c h = true) (hok : startedOnlyRegistered env.cfg h = true) :
    startedOnlyRegistered env.cfg (.start c r :: h) = true := by
  simp [startedOnlyRegistered, hc, hok]

theorem tickList_reg {env : Env} (hf : env.fixed = true) : ∀ (es : List Elem) (h : Hist) (a : Nat),
    registeredIn env.cfg a (tickList env es h).2 = registeredIn env.cfg a h := by
  intro es
  induction es with
  | nil => intro h a; rfl
  | cons e es ih =>
    intro h a
    rcases tickList_cons hf e es h with ⟨_, ht⟩ | ⟨_, _, ht⟩ | ⟨_, _, r, ht⟩ <;> rw [ht]
    · exact ih h a
    · exact ih h a
    · split <;> exact ih _ a

theorem tickList_R {env : Env} (hf : env.fixed = true) : ∀ (es : List Elem) (h : Hist), R env es h →
    R env (tickList env es h).1 (tickList env es h).2 := by
  intro es
  induction es with
  | nil => intro h r; exact r
  | cons e es ih =>
    intro h r
    have he := r.reg e List.mem_cons_self
    have hes : ∀ x ∈ es, registeredIn env.cfg x.conv h = true :=
      fun x hx => r.reg x (List.mem_cons_of_mem _ hx)
    rcases tickList_cons hf e es h with ⟨_, ht⟩ | ⟨_, _, ht⟩ | ⟨_, _, ans, ht⟩ <;> rw [ht]
    · have r' := ih h ⟨hes, r.ok⟩
      refine ⟨fun x hx => ?_, r'.ok⟩
      rcases List.mem_cons.mp hx with rfl | hx
      · rw [tickList_reg hf]; exact he
      · exact r'.reg x hx
    · exact ih h ⟨hes, r.ok⟩
    · have r' := ih (.start e.conv ans :: h) ⟨hes, R.start_ok ans he r.ok⟩
      split
      · exact r'
      · refine ⟨fun x hx => ?_, r'.ok⟩
        rcases List.mem_cons.mp hx with rfl | hx
        · rw [tickList_reg hf, afterStart_conv]; exact he
        · exact r'.reg x hx

theorem register_R {env : Env} (hf : env.fixed = true) (s : State) (a : Nat) (r : R env s.reg s.hist)
    (ha : registeredIn env.cfg a s.hist = true) : R env (register env s a).reg (register env s a).hist := by
  rcases register_cases hf s a with h | ⟨_, e, hl, _, hcase⟩ | ⟨_, _, _, ans, h⟩
  · rw [h]; exact r
  · have he : registeredIn env.cfg e.conv s.hist = true := by
      obtain ⟨_, l1, l2, hreg⟩ := lookup_some hl
      exact r.reg e (hreg ▸ mem_mid.mpr (.inl rfl))
    rcases hcase with ⟨_, _, h⟩ | ⟨_, ans, h⟩ <;> rw [h]
    · exact ⟨fun x hx => (mem_replace hx).elim (fun hx => hx ▸ he) (r.reg x), r.ok⟩
    · refine ⟨fun x hx => ?_, R.start_ok ans he r.ok⟩
      rcases mem_replace hx with rfl | hx
      · rw [afterStart_conv]; exact he
      · exact r.reg x hx
  · rw [h]
    refine ⟨fun x hx => ?_, R.start_ok ans ha r.ok⟩
    simp only at hx
    split at hx
    · exact r.reg x hx
    · rcases List.mem_append.mp hx with hx | hx
      · exact r.reg x hx
      · rw [List.mem_singleton.mp hx, afterStart_conv]; exact ha

/-- `unregister a`: what remains is registered, provided everything but `a` was. -/
theorem unregister_R (env : Env) (s : State) (a : Nat)
    (hreg : ∀ x ∈ s.reg, x.conv ≠ a → registeredIn env.cfg x.conv s.hist = true)
    (hok : startedOnlyRegistered env.cfg s.hist = true)
    (hnd : s.reg.Pairwise (fun e e' => addrOf env e ≠ addrOf env e'))
    (hnp : (unregister env s a).panicked = false) :
    R env (unregister env s a).reg (unregister env s a).hist := by
  have hrem : ∀ x ∈ remove env (env.cfg a).addr s.reg, registeredIn env.cfg x.conv s.hist = true := by
    intro x hx
    obtain ⟨hxm, hxa⟩ := mem_remove hx
    exact hreg x hxm (fun hxc => hxa (by simp [addrOf, hxc]))
  rcases unregister_cases env s a with ⟨h, hno⟩ | ⟨e, hl, _, ⟨_, _, h⟩ | ⟨_, h⟩ | ⟨_, _, h⟩⟩
  · -- nothing happened: no element of the registry belongs to `a`
    rw [h]
    refine ⟨fun x hx => hreg x hx (fun hxc => ?_), hok⟩
    have hl := lookup_unique hnd hx
    rw [show addrOf env x = (env.cfg a).addr by simp [addrOf, hxc]] at hl
    exact hno x hl hxc
  · rw [h] at hnp; cases hnp
  · rw [h]; exact ⟨hrem, hok⟩
  · rw [h]; exact ⟨hrem, hok⟩

theorem unregister_hist (env : Env) (s : State) (a : Nat) (c : Nat) :
    registeredIn env.cfg c (unregister env s a).hist = registeredIn env.cfg c s.hist := by
  rcases unregister_cases env s a with ⟨h, _⟩ | ⟨e, _, _, ⟨_, _, h⟩ | ⟨_, h⟩ | ⟨_, _, h⟩⟩ <;> rw [h] <;> rfl

theorem closeAll_ok (env : Env) : ∀ (es : List Elem) (h h' : Hist), closeAll env es h = some h' →
    startedOnlyRegistered env.cfg h' = startedOnlyRegistered env.cfg h := by
  intro es
  induction es with
  | nil => intro h h' hc; simp [closeAll] at hc; rw [hc]
  | cons e es ih =>
    intro h h' hc
    rcases deactivate_cases env e h with ⟨_, hd⟩ | ⟨_, _, hd⟩ | ⟨_, _, hd⟩ <;>
      simp only [closeAll, hd] at hc
    · exact ih _ _ hc
    · rw [ih _ _ hc]; rfl
    · cases hc

theorem restart_R {env : Env} (hf : env.fixed = true) (s : State) (a : Nat) (r : R env s.reg s.hist)
    (ha : registeredIn env.cfg a s.hist = true)
    (hnd : s.reg.Pairwise (fun e e' => addrOf env e ≠ addrOf env e'))
    (hnp : (restart env s a).panicked = false) :
    R env (restart env s a).reg (restart env s a).hist := by
  unfold restart at hnp ⊢
  simp only at hnp ⊢
  by_cases hp : (unregister env s a).panicked = true
  · simp only [hp, if_true] at hnp
    cases hnp
  · simp only [hp, Bool.false_eq_true, if_false]
    have r1 := unregister_R env s a (fun x hx _ => r.reg x hx) r.ok hnd (by simpa using hp)
    exact register_R hf _ a r1 (by rw [unregister_hist]; exact ha)

/-- a registered adapter stays registered under the marker of an operation that does not take it down
(or registers it again) -/
theorem registeredIn_mark {cfg : Nat → Cfg} {c : Nat} {h : Hist} (o : Op)
    (hreg : registeredIn cfg c h = true) (hcl : clears c o = true → registers cfg c o = true) :
    registeredIn cfg c (.op o :: h) = true := by
  simp only [registeredIn, hreg, Bool.and_true, Bool.or_eq_true, Bool.not_eq_true']
  cases hc : clears c o
  · exact .inr rfl
  · exact .inl (hcl hc)

theorem step_R {env : Env} (hf : env.fixed = true) {s : State} (inv : Inv env s) (r : R env s.reg s.hist) (o : Op)
    (hnp : (step env s o).panicked = false) : R env (step env s o).reg (step env s o).hist := by
  have hp0 : ¬ (s.panicked = true) := by simp [inv.np]
  unfold step at hnp ⊢
  rw [if_neg hp0] at hnp ⊢
  simp only at hnp ⊢
  have hok : startedOnlyRegistered env.cfg (.op o :: s.hist) = true := r.ok
  have hnd := inv.g.nodup
  -- `Restart a` and a reported loss of `a` take `a` down and register its address again
  have hre : ∀ (o : Op) (a : Nat), (∀ c, clears c o = (a == c)) →
      (∀ c, registers env.cfg c o = ((env.cfg a).addr == (env.cfg c).addr)) →
      ∀ x ∈ s.reg, registeredIn env.cfg x.conv (.op o :: s.hist) = true := by
    intro o a h1 h2 x hx
    refine registeredIn_mark o (r.reg x hx) fun hc => ?_
    rw [h1] at hc
    rw [h2, ← beq_iff_eq.mp hc]
    exact beq_self_eq_true _
  cases o with
  | register a =>
    simp only at hnp ⊢
    exact register_R hf { s with hist := .op (.register a) :: s.hist } a
      ⟨fun x hx => registeredIn_mark _ (r.reg x hx) (fun hc => by cases hc), hok⟩
      (by simp [registeredIn, registers])
  | unregister a =>
    simp only at hnp ⊢
    refine unregister_R env { s with hist := .op (.unregister a) :: s.hist } a ?_ hok hnd hnp
    intro x hx hne
    refine registeredIn_mark _ (r.reg x hx) fun hc => ?_
    exact absurd (beq_iff_eq.mp hc) hne.symm
  | restart a =>
    simp only at hnp ⊢
    exact restart_R hf { s with hist := .op (.restart a) :: s.hist } a
      ⟨hre _ a (fun _ => rfl) (fun _ => rfl), hok⟩ (by simp [registeredIn, registers]) hnd hnp
  | tick =>
    simp only at hnp ⊢
    have rm : R env s.reg (.op .tick :: s.hist) :=
      ⟨fun x hx => registeredIn_mark _ (r.reg x hx) (fun hc => by cases hc), hok⟩
    unfold tick
    split
    · exact rm
    · exact tickList_R hf s.reg _ rm
  | peerDisappeared a =>
    simp only at hnp ⊢
    have hall := hre (.peerDisappeared a) a (fun _ => rfl) (fun _ => rfl)
    by_cases hcl : s.closed = true
    · simp only [hcl, if_true]
      exact ⟨hall, hok⟩
    · rw [if_neg hcl] at hnp ⊢
      exact restart_R hf { s with hist := .op (.peerDisappeared a) :: s.hist } a ⟨hall, hok⟩
        (by simp [registeredIn, registers]) hnd hnp
  | close =>
    simp only at hnp ⊢
    unfold close at hnp ⊢
    by_cases hc : s.closed = true
    · simp [hc] at hnp
    · simp only [hc, Bool.false_eq_true, if_false] at hnp ⊢
      cases hca : closeAll env s.reg (.op .close :: s.hist) with
      | none => simp [hca] at hnp
      | some h' =>
        simp only
        refine ⟨by intro x hx; simp at hx, ?_⟩
        show startedOnlyRegistered env.cfg h' = true
        rw [closeAll_ok env s.reg _ h' hca]
        exact hok

/-- **Every `Start` the manager ever issues goes to a registered adapter** — for every trace. -/
theorem runObs_reg {env : Env} (hf : env.fixed = true) :
    ∀ (ops : List Op) (s : State), Inv env s → R env s.reg s.hist →
      ∀ o ∈ runObs env s ops, o.outcome = .ok → startedOnlyRegistered env.cfg o.hist = true := by
  intro ops
  induction ops with
  | nil => intro s _ _ o ho; cases ho
  | cons op ops ih =>
    intro s inv r o ho hout
    obtain ⟨_, h2⟩ := step_obs hf inv op
    simp only [runObs, List.mem_cons] at ho
    cases hp : (step env s op).panicked
    · have r' := step_R hf inv r op hp
      rcases ho with rfl | ho
      · simp only [obsOf, hp, Bool.false_eq_true, if_false]
        exact r'.ok
      · simp only [hp, Bool.false_eq_true, if_false] at ho
        exact ih _ (h2 hp) r' o ho hout
    · rcases ho with rfl | ho
      · simp [obsOf, hp] at hout
      · simp [hp] at ho

end Dtn7.ClaManager
