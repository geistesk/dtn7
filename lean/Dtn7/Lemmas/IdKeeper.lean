/-
`Dtn7.Model.IdKeeper` (C14). The numbers a bare IdKeeper hands to a tuple count up as long as no `clean`
comes a window after the tuple's last use (`seqsOf_eq`). For the node, along ANY schedule: the mutex part
`InvL` and the counter part `InvC` of `Inv` (numbers handed out for one tuple differ), `InvS` (store and
wire hold in-memory bundles of submissions past `push`) and `Filed`; the Spec predicates on the
observations follow from these.
-/
import Dtn7.Model.IdKeeper
import Dtn7.Lemmas.CountP

namespace Dtn7.IdKeeper.Lemmas
open Dtn7.IdKeeper

/-! ### the map -/

@[simp] theorem set_same (m : Keeper) (k : Key) (v : Nat) : (m.set k v) k = some v := by
  simp [Keeper.set]

theorem set_other (m : Keeper) (k k' : Key) (v : Nat) (h : k' ≠ k) : (m.set k v) k' = m k' := by
  simp [Keeper.set, h]

theorem clean_keep (w now : Nat) (m : Keeper) (k : Key) (h : dropped w now k = false) :
    (m.clean w now) k = m k := by
  simp [Keeper.clean, h]

theorem clean_drop (w now : Nat) (m : Keeper) (k : Key) (h : dropped w now k = true) :
    (m.clean w now) k = none := by
  simp [Keeper.clean, h]

@[simp] theorem nextOf_some (c : Nat) : nextOf (some c) = c + 1 := rfl
@[simp] theorem nextOf_none : nextOf none = 0 := rfl

theorem getD_succ_eq_nextOf (o : Option Nat) (h : o.isSome) : o.getD 0 + 1 = nextOf o := by
  cases o <;> simp_all

@[simp] theorem update_snd (m : Keeper) (k : Key) : (m.update k).2 = nextOf (m k) := by
  simp [Keeper.update]

@[simp] theorem update_fst_same (m : Keeper) (k : Key) : (m.update k).1 k = some (nextOf (m k)) := by
  simp [Keeper.update]

theorem update_fst_other (m : Keeper) (k k' : Key) (h : k' ≠ k) : (m.update k).1 k' = m k' := by
  simp [Keeper.update, set_other _ _ _ _ h]

theorem cleanU_keep (w now : Nat) (m : Keeper) (u : Used) (k : Key) (h : droppedAt w now (u k) k = false) :
    (m.cleanU w u now) k = m k := by
  simp [Keeper.cleanU, h]

theorem cleanU_drop (w now : Nat) (m : Keeper) (u : Used) (k : Key) (h : droppedAt w now (u k) k = true) :
    (m.cleanU w u now) k = none := by
  simp [Keeper.cleanU, h]

@[simp] theorem used_set_same (u : Used) (k : Key) (t : Nat) : (u.set k t) k = t := by simp [Used.set]

theorem used_set_other (u : Used) (k k' : Key) (t : Nat) (h : k' ≠ k) : (u.set k t) k' = u k' := by
  simp [Used.set, h]

theorem droppedAt_epoch (w now t : Nat) (k : Key) (h : k.time = 0) : droppedAt w now t k = false := by
  simp [droppedAt, h]

theorem threshold_eq (w now : Nat) (hw : w ≤ now) (hn : now < 2 ^ 64) : threshold w now = now - w := by
  unfold threshold
  have : now + 2 ^ 64 - w = (now - w) + 2 ^ 64 := by omega
  rw [this, Nat.add_mod_right, Nat.mod_eq_of_lt (by omega)]

theorem droppedAt_window (w now t : Nat) (k : Key) (hw : w ≤ now) (hn : now < 2 ^ 64)
    (h : now - t ≤ w) : droppedAt w now t k = false := by
  simp [droppedAt, threshold_eq w now hw hn]
  omega

theorem dropped_epoch (w now : Nat) (k : Key) (h : k.time = 0) : dropped w now k = false :=
  droppedAt_epoch w now k.time k h

theorem dropped_window (w now : Nat) (k : Key) (hw : w ≤ now) (hn : now < 2 ^ 64)
    (h : now - k.time ≤ w) : dropped w now k = false :=
  droppedAt_window w now k.time k hw hn h

/-! ### scripts on a bare IdKeeper -/

theorem runOps_nil (w : Nat) (auto : Bool) (m : Keeper) (u : Used) : runOps w auto m u [] = (m, []) := rfl

theorem runOps_upd (w : Nat) (auto : Bool) (m : Keeper) (u : Used) (k : Key) (now : Nat) (ops : List Op) :
    (runOps w auto m u (.upd k now :: ops)).2 =
      (k, nextOf (m k)) ::
        (runOps w auto (if auto then (m.update k).1.cleanU w (u.set k now) now else (m.update k).1)
          (u.set k now) ops).2 := by
  simp [runOps]

theorem runOps_clean (w : Nat) (auto : Bool) (m : Keeper) (u : Used) (now : Nat) (ops : List Op) :
    runOps w auto m u (.clean now :: ops) = runOps w auto (m.cleanU w u now) u ops := rfl

/-- Is this script element an `update` of tuple `κ`? -/
def isUpd (κ : Key) : Op → Bool
  | .upd k _ => k = κ
  | .clean _ => false

/-- While no `clean` of the script comes more than a window after the last use of tuple `κ` (the use before
the script, `u κ`, and the `update`s of `κ` in the script), the numbers handed to `κ` are exactly
`next, next+1, next+2, …` where `next` is 0 for an unknown tuple and `last + 1` otherwise. -/
theorem seqsOf_eq (w : Nat) (auto : Bool) (κ : Key) (ops : List Op) :
    ∀ (m : Keeper) (u : Used),
      (∀ op ∈ ops, op.cleans auto = true → droppedAt w op.now (u κ) κ = false) →
      (∀ op ∈ ops, op.cleans auto = true → ∀ op' ∈ ops, isUpd κ op' = true →
        droppedAt w op.now op'.now κ = false) →
      seqsOf w auto κ m u ops = List.range' (nextOf (m κ)) (ops.countP (isUpd κ)) := by
  induction ops with
  | nil => intro m u _ _; simp [seqsOf, runOps_nil]
  | cons op ops ih =>
    intro m u h0 h
    have hrest : ∀ op' ∈ ops, op'.cleans auto = true → ∀ op'' ∈ ops, isUpd κ op'' = true →
        droppedAt w op'.now op''.now κ = false :=
      fun op' ho hc op'' ho'' hu => h op' (List.mem_cons_of_mem _ ho) hc op'' (List.mem_cons_of_mem _ ho'') hu
    have h0rest : ∀ op' ∈ ops, op'.cleans auto = true → droppedAt w op'.now (u κ) κ = false :=
      fun op' ho => h0 op' (List.mem_cons_of_mem _ ho)
    cases op with
    | clean now =>
      have hk : droppedAt w now (u κ) κ = false := h0 (.clean now) (List.mem_cons_self ..) rfl
      have := ih (m.cleanU w u now) u h0rest hrest
      simp only [seqsOf, runOps_clean] at this ⊢
      rw [this, cleanU_keep _ _ _ _ _ hk]
      simp [isUpd]
    | upd k now =>
      -- after this element no `clean` of the script, its own included, drops κ
      have hu : ∀ op' ∈ Op.upd k now :: ops, op'.cleans auto = true →
          droppedAt w op'.now ((u.set k now) κ) κ = false := by
        intro op' ho hc
        by_cases hkκ : κ = k
        · subst hkκ
          rw [used_set_same]
          exact h op' ho hc (.upd κ now) (List.mem_cons_self ..) (by simp [isUpd])
        · rw [used_set_other _ _ _ _ hkκ]
          exact h0 op' ho hc
      have hu' : ∀ op' ∈ ops, op'.cleans auto = true → droppedAt w op'.now ((u.set k now) κ) κ = false :=
        fun op' ho => hu op' (List.mem_cons_of_mem _ ho)
      -- the map after this element, at κ
      have hκ : (if auto then (m.update k).1.cleanU w (u.set k now) now else (m.update k).1) κ = (m.update k).1 κ := by
        cases auto with
        | false => rfl
        | true =>
          have hk : droppedAt w now ((u.set k now) κ) κ = false := hu (.upd k now) (List.mem_cons_self ..) rfl
          simp [cleanU_keep _ _ _ _ _ hk]
      have := ih (if auto then (m.update k).1.cleanU w (u.set k now) now else (m.update k).1) (u.set k now) hu' hrest
      simp only [seqsOf] at this ⊢
      rw [runOps_upd]
      by_cases hkκ : k = κ
      · subst hkκ
        simp only [List.filter_cons, if_true, decide_true, List.map_cons, isUpd, List.countP_cons_of_pos]
        rw [this, hκ, update_fst_same]
        simp [List.range'_succ]
      · have hne : κ ≠ k := fun e => hkκ e.symm
        simp only [List.filter_cons, hkκ, decide_false, Bool.false_eq_true, if_false]
        rw [this, hκ, update_fst_other _ _ _ hne]
        simp [isUpd, hkκ]

/-! ### the node, configuration `Cfg.code` -/

theorem le_firstFree (store : List (BundleId × Bundle)) (k : Key) : ∀ (fuel v : Nat), v ≤ firstFree store k fuel v
  | 0, v => Nat.le_refl v
  | fuel + 1, v => by
    unfold firstFree
    split
    · exact Nat.le_trans (Nat.le_succ v) (le_firstFree store k fuel (v + 1))
    · exact Nat.le_refl v

/-! #### the loop of `updateUnless` ends at a free number (counting argument) -/

private def pFrom (k : Key) (v : Nat) (e : BundleId × Bundle) : Bool :=
  e.1.source == k.source && e.1.time == k.time && decide (v ≤ e.1.seq)

private theorem pFrom_succ {k : Key} {v : Nat} {e : BundleId × Bundle} (h : pFrom k (v + 1) e = true) :
    pFrom k v e = true := by
  unfold pFrom at h ⊢
  simp only [Bool.and_eq_true, decide_eq_true_eq] at h ⊢
  exact ⟨h.1, by omega⟩

private theorem countP_succ_lt_of_mem (k : Key) (v : Nat) (s : List (BundleId × Bundle)) (e : BundleId × Bundle)
    (h : e ∈ s) (he : e.1 = ⟨k.source, k.time, v⟩) : s.countP (pFrom k (v + 1)) < s.countP (pFrom k v) :=
  List.countP_lt_of_mem (fun _ => pFrom_succ) h (by simp [pFrom, he]) (by simp [pFrom, he])

/-- With enough fuel the loop ends at a number whose id the store does not know. -/
theorem firstFree_free (store : List (BundleId × Bundle)) (k : Key) :
    ∀ (fuel v : Nat), store.countP (pFrom k v) < fuel →
      knows store ⟨k.source, k.time, firstFree store k fuel v⟩ = false
  | 0, _, h => absurd h (Nat.not_lt_zero _)
  | fuel + 1, v, h => by
    unfold firstFree
    by_cases hk : knows store ⟨k.source, k.time, v⟩ = true
    · simp only [hk, if_true]
      obtain ⟨e, hmem, hid⟩ := (by simpa [knows] using hk : ∃ e ∈ store, e.1 = ⟨k.source, k.time, v⟩)
      have := countP_succ_lt_of_mem k v store e hmem hid
      exact firstFree_free store k fuel (v + 1) (by omega)
    · simp only [hk]
      simpa using hk

/-- **The number `updateUnless` writes into the bundle is free**: at the moment of `stamp` the store does
not know the resulting id — for every store and every counter value, no retention hypothesis, for every
variant of the code that skips the known numbers. -/
theorem stampSeq_free_of_skip (c : Cfg) (hc : c.skipKnown = true) (n : Node) (k : Key) :
    knows n.store ⟨k.source, k.time, stampSeq c n k⟩ = false := by
  unfold stampSeq
  simp only [hc, if_true]
  exact firstFree_free n.store k _ _ (Nat.lt_succ_of_le List.countP_le_length)

theorem stampSeq_free (n : Node) (k : Key) :
    knows n.store ⟨k.source, k.time, stampSeq Cfg.code n k⟩ = false :=
  stampSeq_free_of_skip Cfg.code rfl n k

theorem le_stampSeq (c : Cfg) (n : Node) (k : Key) : (n.keeper k).getD 0 ≤ stampSeq c n k := by
  unfold stampSeq
  split
  · exact le_firstFree _ _ _ _
  · exact Nat.le_refl _

theorem prog_code : prog Cfg.code = [.lock, .read, .write, .stamp, .unlock, .clean, .push, .send] := rfl

@[simp, grind =] theorem setTh_th (n : Node) (i : Nat) (t : Th) (j : Nat) :
    (n.setTh i t).th j = if j = i then t else n.th j := rfl
@[simp, grind =] theorem setTh_keeper (n : Node) (i : Nat) (t : Th) : (n.setTh i t).keeper = n.keeper := rfl
@[simp, grind =] theorem setTh_holder (n : Node) (i : Nat) (t : Th) : (n.setTh i t).holder = n.holder := rfl
@[simp, grind =] theorem setTh_used (n : Node) (i : Nat) (t : Th) : (n.setTh i t).used = n.used := rfl
@[simp, grind =] theorem setTh_store (n : Node) (i : Nat) (t : Th) : (n.setTh i t).store = n.store := rfl
@[simp, grind =] theorem setTh_sent (n : Node) (i : Nat) (t : Th) : (n.setTh i t).sent = n.sent := rfl

/-- What one scheduler decision for thread `i` does, by program counter. -/
theorem step_code_cases (subs : Nat → Sub) (n : Node) (i : Nat) :
    ((n.th i).pc = 0 ∧ step Cfg.code subs n (.step i) = exec Cfg.code subs n i .lock) ∨
    ((n.th i).pc = 1 ∧ step Cfg.code subs n (.step i) = exec Cfg.code subs n i .read) ∨
    ((n.th i).pc = 2 ∧ step Cfg.code subs n (.step i) = exec Cfg.code subs n i .write) ∨
    ((n.th i).pc = 3 ∧ step Cfg.code subs n (.step i) = exec Cfg.code subs n i .stamp) ∨
    ((n.th i).pc = 4 ∧ step Cfg.code subs n (.step i) = exec Cfg.code subs n i .unlock) ∨
    ((n.th i).pc = 5 ∧ step Cfg.code subs n (.step i) = exec Cfg.code subs n i .clean) ∨
    ((n.th i).pc = 6 ∧ step Cfg.code subs n (.step i) = exec Cfg.code subs n i .push) ∨
    ((n.th i).pc = 7 ∧ step Cfg.code subs n (.step i) = exec Cfg.code subs n i .send) ∨
    (8 ≤ (n.th i).pc ∧ step Cfg.code subs n (.step i) = n) := by
  simp only [step, prog_code]
  rcases h : (n.th i).pc with _ | _ | _ | _ | _ | _ | _ | _ | p <;> simp

/-- What an instruction of thread `i` does to the threads: nothing, or thread `i` moves on by one; only
`stamp` writes a sequence number. -/
theorem exec_th (c : Cfg) (subs : Nat → Sub) (n : Node) (i : Nat) (ins : Instr) :
    exec c subs n i ins = n ∨ ∃ t, (exec c subs n i ins).th = (n.setTh i t).th ∧
      t.pc = (n.th i).pc + 1 ∧ (ins ≠ .stamp → t.seq = (n.th i).seq) := by
  cases ins <;> simp only [exec]
  case lock => split; exact .inr ⟨_, rfl, rfl, fun _ => rfl⟩; exact .inl rfl
  case clean => split; exact .inl rfl; exact .inr ⟨_, rfl, rfl, fun _ => rfl⟩
  case push => split <;> exact .inr ⟨_, rfl, rfl, fun _ => rfl⟩
  case stamp => exact .inr ⟨_, rfl, rfl, fun h => absurd rfl h⟩
  all_goals exact .inr ⟨_, rfl, rfl, fun _ => rfl⟩

theorem exec_store (c : Cfg) (subs : Nat → Sub) (n : Node) (i : Nat) (ins : Instr) (h : ins ≠ .push) : (exec c subs n i ins).store = n.store := by
  cases ins <;> simp only [exec]
  case push => exact absurd rfl h
  case lock | clean => split <;> rfl
  all_goals rfl

theorem exec_sent (c : Cfg) (subs : Nat → Sub) (n : Node) (i : Nat) (ins : Instr) (h : ins ≠ .send) : (exec c subs n i ins).sent = n.sent := by
  cases ins <;> simp only [exec]
  case send => exact absurd rfl h
  case lock | clean | push => split <;> rfl
  all_goals rfl

theorem run_invariant (subs : Nat → Sub) (P : Node → Prop) (σ : List Act) : ∀ (n : Node),
    (∀ m a, a ∈ σ → P m → P (step Cfg.code subs m a)) → P n → P (run Cfg.code subs n σ) := by
  induction σ with
  | nil => intro n _ h; exact h
  | cons a σ ih =>
    intro n hstep h
    exact ih _ (fun m b hb => hstep m b (List.mem_cons_of_mem _ hb)) (hstep n a List.mem_cons_self h)

/-- Invariant of the counter part. `A` marks the submissions that take part in the schedule. `pc = k`: the thread
is before instruction `k` of `prog_code` (0 lock, 1 read, 2 write, 3 stamp, 4 unlock, 5 clean, 6 push, 7 send).
`act`: only participants have started. `l1`, `l2`: the mutex is held by exactly the thread between `lock` and
`unlock`. `r`: the value read is still the counter. `w`: after `write` the counter exists and is above every
number handed out for the tuple (`+ 1 <`: `stamp` takes a number that is at least the counter, and `nextOf` of
the counter is one more). `s`: a stamped number is at most the counter. `d`: the stamped numbers of one tuple
differ. -/
structure Inv (subs : Nat → Sub) (A : Nat → Prop) (n : Node) : Prop where
  act : ∀ i, 0 < (n.th i).pc → A i
  l1 : ∀ i, 1 ≤ (n.th i).pc → (n.th i).pc ≤ 4 → n.holder = some i
  l2 : ∀ i, n.holder = some i → 1 ≤ (n.th i).pc ∧ (n.th i).pc ≤ 4
  r : ∀ i, (n.th i).pc = 2 → (n.th i).reg = n.keeper (subs i).key
  w : ∀ i, (n.th i).pc = 3 → (n.keeper (subs i).key).isSome ∧
        ∀ j, j ≠ i → 4 ≤ (n.th j).pc → (subs j).key = (subs i).key →
          (n.th j).seq + 1 < nextOf (n.keeper (subs i).key)
  s : ∀ i, 4 ≤ (n.th i).pc → (n.th i).seq < nextOf (n.keeper (subs i).key)
  d : ∀ i j, i ≠ j → 4 ≤ (n.th i).pc → 4 ≤ (n.th j).pc → (subs i).key = (subs j).key →
        (n.th i).seq ≠ (n.th j).seq
  /-- the tuple of a submission that has written its number was last used at a participant's clock reading:
      no participant's `clean` drops it -/
  u : ∀ i j, A i → 3 ≤ (n.th j).pc →
        droppedAt Cfg.code.window (subs i).now (n.used (subs j).key) (subs j).key = false

theorem inv_init (subs : Nat → Sub) (A : Nat → Prop) (k0 : Keeper) (u0 : Used) :
    Inv subs A (Node.init subs k0 u0) := by
  constructor <;> simp [Node.init]

/-- The mutex part of `Inv` on its own; it reads `th.pc` and `holder` only and needs no hypothesis on the
schedule or the clock. -/
structure InvL (n : Node) : Prop where
  l1 : ∀ i, 1 ≤ (n.th i).pc → (n.th i).pc ≤ 4 → n.holder = some i
  l2 : ∀ i, n.holder = some i → 1 ≤ (n.th i).pc ∧ (n.th i).pc ≤ 4

/-- The counter part of `Inv`; it reads `th`, `keeper` and `used` only. -/
structure InvC (subs : Nat → Sub) (A : Nat → Prop) (n : Node) : Prop where
  act : ∀ i, 0 < (n.th i).pc → A i
  r : ∀ i, (n.th i).pc = 2 → (n.th i).reg = n.keeper (subs i).key
  w : ∀ i, (n.th i).pc = 3 → (n.keeper (subs i).key).isSome ∧
        ∀ j, j ≠ i → 4 ≤ (n.th j).pc → (subs j).key = (subs i).key →
          (n.th j).seq + 1 < nextOf (n.keeper (subs i).key)
  s : ∀ i, 4 ≤ (n.th i).pc → (n.th i).seq < nextOf (n.keeper (subs i).key)
  d : ∀ i j, i ≠ j → 4 ≤ (n.th i).pc → 4 ≤ (n.th j).pc → (subs i).key = (subs j).key →
        (n.th i).seq ≠ (n.th j).seq
  u : ∀ i j, A i → 3 ≤ (n.th j).pc →
        droppedAt Cfg.code.window (subs i).now (n.used (subs j).key) (subs j).key = false

theorem InvL.of_eq {n n' : Node} (h : InvL n) (h1 : n'.th = n.th) (h2 : n'.holder = n.holder) : InvL n' := by
  cases n; cases n'; cases h1; cases h2
  exact ⟨h.l1, h.l2⟩

theorem InvC.of_eq {subs : Nat → Sub} {A : Nat → Prop} {n n' : Node} (h : InvC subs A n)
    (h1 : n'.th = n.th) (h2 : n'.keeper = n.keeper) (h3 : n'.used = n.used) : InvC subs A n' := by
  cases n; cases n'; cases h1; cases h2; cases h3
  exact ⟨h.act, h.r, h.w, h.s, h.d, h.u⟩

/-! #### the mutex: only `lock` and `unlock` matter -/

theorem InvL.advance {n : Node} (h : InvL n) {i : Nat} (t : Th) (ht : t.pc = (n.th i).pc + 1)
    (hpc : (n.th i).pc ≠ 0 ∧ (n.th i).pc ≠ 4) : InvL (n.setTh i t) := by
  have := h.l1; have := h.l2
  constructor <;> simp only [setTh_th, setTh_holder] <;> grind

theorem InvL.lock {n : Node} (h : InvL n) {i : Nat} (hpc : (n.th i).pc = 0) (hh : n.holder = none) :
    InvL { n.bump i with holder := some i } := by
  have := h.l1; have := h.l2
  constructor <;> simp only [Node.bump, setTh_th] <;> grind

theorem InvL.unlock {n : Node} (h : InvL n) {i : Nat} (hpc : (n.th i).pc = 4) :
    InvL { n.bump i with holder := none } := by
  have := h.l1; have := h.l2
  constructor <;> simp only [Node.bump, setTh_th] <;> grind

/-- While `i` holds the mutex every other submission is outside the critical section. -/
theorem InvL.others {n : Node} (h : InvL n) {i : Nat} (hi : n.holder = some i) (j : Nat) (hj : j ≠ i) :
    (n.th j).pc = 0 ∨ 5 ≤ (n.th j).pc := by
  have := h.l1 j; grind

theorem InvL.free {n : Node} (h : InvL n) (hi : n.holder = none) (j : Nat) :
    (n.th j).pc = 0 ∨ 5 ≤ (n.th j).pc := by
  have := h.l1 j; grind

theorem invL_step (subs : Nat → Sub) (n : Node) (a : Act) (h : InvL n) :
    InvL (step Cfg.code subs n a) := by
  cases a with
  | retry p => exact h.of_eq rfl rfl
  | step i =>
    have hb : (n.th i).pc ≠ 0 ∧ (n.th i).pc ≠ 4 → InvL (n.bump i) := h.advance _ rfl
    rcases step_code_cases subs n i with ⟨hpc, he⟩ | ⟨hpc, he⟩ | ⟨hpc, he⟩ | ⟨hpc, he⟩ | ⟨hpc, he⟩ |
        ⟨hpc, he⟩ | ⟨hpc, he⟩ | ⟨hpc, he⟩ | ⟨hpc, he⟩ <;> rw [he] <;> try simp only [exec]
    · split
      · exact h.lock hpc ‹_›
      · exact h
    · exact h.advance _ rfl (by omega)
    · exact (hb (by omega)).of_eq rfl rfl
    · exact (h.advance (i := i) _ rfl (by omega)).of_eq rfl rfl
    · exact h.unlock hpc
    · split
      · exact h
      · exact (hb (by omega)).of_eq rfl rfl
    · split <;> exact (hb (by omega)).of_eq rfl rfl
    · exact (hb (by omega)).of_eq rfl rfl
    · exact h

theorem invL_run (subs : Nat → Sub) (σ : List Act) (n : Node) (h : InvL n) : InvL (run Cfg.code subs n σ) :=
  run_invariant subs InvL σ n (fun m a _ => invL_step subs m a) h

/-! #### the counter: only `write` and `stamp` matter -/

/-- Thread `i` moves on by one instruction and loads `ρ`. Away from `write` and `stamp` (pc 2, 3) this keeps
the counter part; at `read` (pc 1) provided `ρ` is the counter. -/
theorem InvC.advance {subs : Nat → Sub} {A : Nat → Prop} {n : Node} (h : InvC subs A n) {i : Nat} (hA : A i)
    (ρ : Option Nat)
    (hpc : (n.th i).pc = 0 ∨ 4 ≤ (n.th i).pc ∨ ((n.th i).pc = 1 ∧ ρ = n.keeper (subs i).key)) :
    InvC subs A (n.setTh i { n.th i with pc := (n.th i).pc + 1, reg := ρ }) := by
  constructor <;> simp only [setTh_th, setTh_keeper, setTh_used]
  · have := h.act; grind
  · have := h.r; grind
  · have := h.w; grind
  · have := h.s; grind
  · have := h.d; grind
  · have := h.u; grind

/-- `clean` may change the map as long as the counters of the tuples in use stay. -/
theorem InvC.keeper {subs : Nat → Sub} {A : Nat → Prop} {n : Node} (h : InvC subs A n) (K : Keeper)
    (hK : ∀ j, 2 ≤ (n.th j).pc → K (subs j).key = n.keeper (subs j).key) :
    InvC subs A { n with keeper := K } := by
  refine ⟨h.act, fun j (hj : (n.th j).pc = 2) => ?_, fun j (hj : (n.th j).pc = 3) => ?_,
    fun j (hj : 4 ≤ (n.th j).pc) => ?_, h.d, h.u⟩ <;> show _ <;> simp only [hK j (by omega)]
  · exact h.r j hj
  · exact h.w j hj
  · exact h.s j hj

/-- `write`, inside the critical section (`hex`): the counter passes every number handed out for the tuple,
and the tuple's last use is this submission's clock reading. -/
theorem InvC.write {subs : Nat → Sub} {A : Nat → Prop} {n : Node} (h : InvC subs A n) {i : Nat} (hA : A i)
    (hpc : (n.th i).pc = 2) (hex : ∀ j, j ≠ i → (n.th j).pc = 0 ∨ 5 ≤ (n.th j).pc)
    (hret : ∀ j, A j → droppedAt Cfg.code.window (subs j).now (subs i).now (subs i).key = false) :
    InvC subs A { n.bump i with keeper := n.keeper.set (subs i).key (nextOf (n.th i).reg),
                                used := n.used.set (subs i).key (subs i).now } := by
  have hri := h.r i hpc
  constructor <;> simp only [Node.bump, setTh_th, Keeper.set, Used.set]
  · have := h.act; grind
  · grind -- `r`: by `hex` nobody is left at pc 2
  · have := h.s; grind [nextOf] -- `w`: `i` is the only thread at pc 3 (`hex`); its register was the counter (`hri`)
  · have := h.s; grind [nextOf]
  · have := h.d; grind
  · have := h.u; grind -- `u`: the tuple written gets this submission's clock reading (`hret`)

/-- `stamp` with a number `q` that is at least the counter, which then follows it (the skip loop). -/
theorem InvC.stamp {subs : Nat → Sub} {A : Nat → Prop} {n : Node} (h : InvC subs A n) {i : Nat} (hA : A i)
    (hpc : (n.th i).pc = 3) (hex : ∀ j, j ≠ i → (n.th j).pc = 0 ∨ 5 ≤ (n.th j).pc) (q : Nat)
    (hq : (n.keeper (subs i).key).getD 0 ≤ q) :
    InvC subs A { n.setTh i { n.th i with pc := (n.th i).pc + 1, seq := q } with
      keeper := n.keeper.set (subs i).key q } := by
  have hwi := h.w i hpc
  have hget := getD_succ_eq_nextOf _ hwi.1
  constructor <;> simp only [setTh_th, Keeper.set]
  · have := h.act; grind
  · grind -- `r`, `w`: by `hex` nobody is at pc 2 or 3 afterwards
  · grind
  · have := h.s; grind [nextOf] -- `s`, `d`: `q` is above every number handed out for the tuple (`hwi`, `hq`)
  · have := h.d; grind
  · have := h.u; grind

theorem inv_step (subs : Nat → Sub) (A : Nat → Prop)
    (hret : ∀ i j, A i → A j → droppedAt Cfg.code.window (subs i).now (subs j).now (subs j).key = false)
    (n : Node) (a : Act) (ha : ∀ i, a = .step i → A i) (h : Inv subs A n) :
    Inv subs A (step Cfg.code subs n a) := by
  have hL : InvL n := ⟨h.l1, h.l2⟩
  have hC : InvC subs A n := ⟨h.act, h.r, h.w, h.s, h.d, h.u⟩
  have hL' := invL_step subs n a hL
  suffices hC' : InvC subs A (step Cfg.code subs n a) from
    ⟨hC'.act, hL'.l1, hL'.l2, hC'.r, hC'.w, hC'.s, hC'.d, hC'.u⟩
  cases a with
  | retry p => exact hC.of_eq rfl rfl rfl
  | step i =>
    have hA : A i := ha i rfl
    have hb : (n.th i).pc = 0 ∨ 4 ≤ (n.th i).pc → InvC subs A (n.bump i) :=
      fun hp => hC.advance hA (n.th i).reg (hp.elim .inl (.inr ∘ .inl))
    rcases step_code_cases subs n i with ⟨hpc, he⟩ | ⟨hpc, he⟩ | ⟨hpc, he⟩ | ⟨hpc, he⟩ | ⟨hpc, he⟩ |
        ⟨hpc, he⟩ | ⟨hpc, he⟩ | ⟨hpc, he⟩ | ⟨hpc, he⟩ <;> rw [he] <;> try simp only [exec]
    · split
      · exact (hb (.inl hpc)).of_eq rfl rfl rfl
      · exact hC
    · exact hC.advance hA _ (.inr (.inr ⟨hpc, rfl⟩))
    · exact hC.write hA hpc (hL.others (h.l1 i (by omega) (by omega))) (fun j hj => hret j i hj hA)
    · exact hC.stamp hA hpc (hL.others (h.l1 i (by omega) (by omega))) _ (le_stampSeq _ _ _)
    · exact (hb (.inr (by omega))).of_eq rfl rfl rfl
    · -- `clean` runs with the mutex free: every started submission is past `unlock`, so `u` keeps its counter
      cases hh : n.holder with
      | some j => exact hC
      | none =>
        have hK : ∀ j, 2 ≤ ((n.bump i).th j).pc →
            n.keeper.cleanU Cfg.code.window n.used (subs i).now (subs j).key = n.keeper (subs j).key := by
          intro j hj
          refine cleanU_keep _ _ _ _ _ (h.u i j hA ?_)
          have := hL.free hh j
          simp only [Node.bump, setTh_th] at hj
          split at hj <;> simp_all <;> omega
        simp only [Option.isSome_none, Bool.and_false, Bool.false_eq_true, if_false,
          show Cfg.code.byUse = true from rfl, if_true]
        exact ((hb (.inr (by omega))).keeper _ hK).of_eq rfl rfl rfl
    · split <;> exact (hb (.inr (by omega))).of_eq rfl rfl rfl
    · exact (hb (.inr (by omega))).of_eq rfl rfl rfl
    · exact hC

theorem inv_run (subs : Nat → Sub) (A : Nat → Prop)
    (hret : ∀ i j, A i → A j → droppedAt Cfg.code.window (subs i).now (subs j).now (subs j).key = false)
    (σ : List Act) (n : Node) (hσ : ∀ i, Act.step i ∈ σ → A i) (h : Inv subs A n) :
    Inv subs A (run Cfg.code subs n σ) :=
  run_invariant subs (Inv subs A) σ n (fun m a ha => inv_step subs A hret m a (fun i e => hσ i (e ▸ ha))) h

/-! ### store and wire -/

theorem knows_iff (s : List (BundleId × Bundle)) (id : BundleId) :
    knows s id = true ↔ ∃ e ∈ s, e.1 = id := by
  simp [knows]

theorem knows_mono {s s' : List (BundleId × Bundle)} (h : ∀ e ∈ s, e ∈ s') {id : BundleId}
    (hk : knows s id = true) : knows s' id = true := by
  obtain ⟨e, he, hid⟩ := (knows_iff s id).mp hk
  exact (knows_iff s' id).mpr ⟨e, h e he, hid⟩

/-- Everything in the store and everything handed to an adapter is the in-memory bundle of a
submission that has passed `push`. Holds for every schedule, with or without retention. -/
structure InvS (subs : Nat → Sub) (n : Node) : Prop where
  p : ∀ e ∈ n.store, ∃ i, 7 ≤ (n.th i).pc ∧ e = ((bundleOf subs n i).id, bundleOf subs n i)
  t : ∀ e ∈ n.sent, ∃ i, 7 ≤ (n.th i).pc ∧ e.2 = bundleOf subs n i
  nd : (n.store.map (·.1)).Nodup

theorem invS_init (subs : Nat → Sub) (k0 : Keeper) : InvS subs (Node.init subs k0) := by
  constructor <;> simp [Node.init]

theorem bundleOf_congr (subs : Nat → Sub) (n n' : Node) (j : Nat) (h : (n'.th j).seq = (n.th j).seq) :
    bundleOf subs n' j = bundleOf subs n j := by
  simp [bundleOf, idOf, h]

/-- A step that keeps the sequence numbers of the pushed submissions, lowers no program counter and leaves
store and sent list alone keeps `InvS`. -/
theorem invS_of_same (subs : Nat → Sub) (n n' : Node)
    (hseq : ∀ j, 7 ≤ (n.th j).pc → (n'.th j).seq = (n.th j).seq) (hpc : ∀ j, (n.th j).pc ≤ (n'.th j).pc)
    (hst : n'.store = n.store) (hse : n'.sent = n.sent) (h : InvS subs n) : InvS subs n' := by
  obtain ⟨hp, ht, hn⟩ := h
  refine ⟨?_, ?_, hst ▸ hn⟩
  · intro e he
    obtain ⟨i, h7, rfl⟩ := hp e (hst ▸ he)
    exact ⟨i, Nat.le_trans h7 (hpc i), by rw [bundleOf_congr subs n n' i (hseq i h7)]⟩
  · intro e he
    obtain ⟨i, h7, h2⟩ := ht e (hse ▸ he)
    exact ⟨i, Nat.le_trans h7 (hpc i), by rw [bundleOf_congr subs n n' i (hseq i h7)]; exact h2⟩

theorem invS_setTh (subs : Nat → Sub) (n : Node) (i : Nat) (t : Th) (hp : t.pc = (n.th i).pc + 1)
    (hs : 7 ≤ (n.th i).pc → t.seq = (n.th i).seq) (h : InvS subs n) : InvS subs (n.setTh i t) := by
  refine invS_of_same subs n _ ?_ ?_ rfl rfl h <;> intro j <;> rw [setTh_th] <;> split
  · next e => subst e; exact hs
  · exact fun _ => rfl
  · next e => subst e; omega
  · exact Nat.le_refl _

/-- An instruction other than `push` and `send` of a submission that has not pushed yet. -/
theorem invS_exec (c : Cfg) (subs : Nat → Sub) (n : Node) (i : Nat) (ins : Instr) (h2 : ins ≠ .push) (h3 : ins ≠ .send)
    (hlt : (n.th i).pc < 7) (h : InvS subs n) : InvS subs (exec c subs n i ins) := by
  rcases exec_th c subs n i ins with he | ⟨t, ht, hp, _⟩
  · rw [he]; exact h
  · have := invS_setTh subs n i t hp (fun h7 => by omega) h
    exact invS_of_same subs (n.setTh i t) _ (fun j _ => by rw [ht]) (fun j => by rw [ht]; exact Nat.le_refl _)
      (exec_store c subs n i ins h2) (exec_sent c subs n i ins h3) this

theorem invS_step (subs : Nat → Sub) (n : Node) (a : Act) (h : InvS subs n) :
    InvS subs (step Cfg.code subs n a) := by
  cases a with
  | retry p =>
    obtain ⟨hp, ht, hn⟩ := h
    refine ⟨hp, ?_, hn⟩
    intro e he
    simp only [step, List.mem_append, List.mem_map] at he
    rcases he with ⟨e', he', rfl⟩ | he
    · obtain ⟨i, h7, rfl⟩ := hp e' he'
      exact ⟨i, h7, rfl⟩
    · exact ht e he
  | step i =>
    have hbump : InvS subs (n.bump i) := invS_setTh subs n i _ rfl (fun _ => rfl) h
    have hbi : bundleOf subs (n.bump i) i = bundleOf subs n i := bundleOf_congr subs n _ i (by simp [Node.bump])
    rcases step_code_cases subs n i with ⟨hpc, he⟩ | ⟨hpc, he⟩ | ⟨hpc, he⟩ | ⟨hpc, he⟩ | ⟨hpc, he⟩ |
        ⟨hpc, he⟩ | ⟨hpc, he⟩ | ⟨hpc, he⟩ | ⟨hpc, he⟩ <;> rw [he]
    iterate 6 exact invS_exec _ subs n i _ (by decide) (by decide) (by omega) h
    · -- push: a new key, filed under the id of the in-memory bundle
      simp only [exec]
      split
      · exact hbump
      · next hk =>
        obtain ⟨hp, ht, hn⟩ := hbump
        refine ⟨?_, ht, ?_⟩
        · intro e he
          rcases List.mem_cons.mp he with rfl | he
          · refine ⟨i, ?_, ?_⟩
            · show 7 ≤ ((n.bump i).th i).pc
              simp [Node.bump, hpc]
            · show _ = ((bundleOf subs (n.bump i) i).id, bundleOf subs (n.bump i) i)
              rw [hbi]
          · exact hp e he
        · show ((((bundleOf subs n i).id, bundleOf subs n i) :: n.store).map (·.1)).Nodup
          simp only [List.map_cons, List.nodup_cons]
          refine ⟨fun hmem => hk ?_, hn⟩
          rw [knows_iff]
          simpa using hmem
    · -- send
      obtain ⟨hp, ht, hn⟩ := hbump
      refine ⟨hp, ?_, hn⟩
      intro e he
      have he' : e ∈ (subs i).peers.map (fun p => (p, bundleOf subs n i)) ++ n.sent := he
      simp only [List.mem_append, List.mem_map] at he'
      rcases he' with ⟨q, _, rfl⟩ | he
      · exact ⟨i, by simp [exec, Node.bump, hpc], hbi.symm⟩
      · exact ht e he
    · exact h

theorem invS_run (subs : Nat → Sub) (σ : List Act) (n : Node) (h : InvS subs n) :
    InvS subs (run Cfg.code subs n σ) :=
  run_invariant subs (InvS subs) σ n (fun m a _ => invS_step subs m a) h

/-- Mutual exclusion: at most one submission is between `lock` and `unlock`. -/
theorem exclusive_of_inv (n : Node) (h : InvL n)
    (i j : Nat) (hi : 1 ≤ (n.th i).pc ∧ (n.th i).pc ≤ 4) (hj : 1 ≤ (n.th j).pc ∧ (n.th j).pc ≤ 4) :
    i = j := by
  have h1 := h.l1 i hi.1 hi.2
  have h2 := h.l1 j hj.1 hj.2
  rw [h1] at h2
  exact Option.some.inj h2

/-- Two submissions that have their final number carry different ids. -/
theorem ids_ne_of_inv (subs : Nat → Sub) (A : Nat → Prop) (n : Node) (h : Inv subs A n)
    (i j : Nat) (hij : i ≠ j) (hi : 4 ≤ (n.th i).pc) (hj : 4 ≤ (n.th j).pc) :
    idOf subs n i ≠ idOf subs n j := by
  intro e
  simp only [idOf, BundleId.mk.injEq] at e
  have hk : (subs i).key = (subs j).key := by
    cases hki : (subs i).key; cases hkj : (subs j).key
    simp_all
  exact h.d i j hij hi hj hk e.2.2

/-- Every submission that has passed `push` is in the store under its own id. -/
def Filed (subs : Nat → Sub) (n : Node) : Prop :=
  ∀ i, 7 ≤ (n.th i).pc → ((bundleOf subs n i).id, bundleOf subs n i) ∈ n.store

theorem filed_of_same (subs : Nat → Sub) (n n' : Node)
    (hseq : ∀ j, 7 ≤ (n'.th j).pc → (n'.th j).seq = (n.th j).seq)
    (hpc : ∀ j, 7 ≤ (n'.th j).pc → 7 ≤ (n.th j).pc)
    (hst : n'.store = n.store) (h : Filed subs n) : Filed subs n' := by
  intro j h7
  rw [hst, bundleOf_congr subs n n' j (hseq j h7)]
  exact h j (hpc j h7)

theorem filed_setTh (subs : Nat → Sub) (n : Node) (i : Nat) (t : Th) (hp : t.pc = (n.th i).pc + 1)
    (h6 : (n.th i).pc ≠ 6) (hs : 7 ≤ (n.th i).pc → t.seq = (n.th i).seq) (h : Filed subs n) :
    Filed subs (n.setTh i t) := by
  refine filed_of_same subs n _ ?_ ?_ rfl h <;> intro j <;> rw [setTh_th] <;> split
  · next e => subst e; exact fun h7 => hs (by omega)
  · exact fun _ => rfl
  · next e => subst e; omega
  · exact id

theorem filed_exec (c : Cfg) (subs : Nat → Sub) (n : Node) (i : Nat) (ins : Instr) (h2 : ins ≠ .push)
    (h6 : (n.th i).pc ≠ 6) (hst : ins ≠ .stamp ∨ (n.th i).pc < 7) (h : Filed subs n) :
    Filed subs (exec c subs n i ins) := by
  rcases exec_th c subs n i ins with he | ⟨t, ht, hp, hs⟩
  · rw [he]; exact h
  · have := filed_setTh subs n i t hp h6 (fun h7 => hs (hst.resolve_right (by omega))) h
    exact filed_of_same subs (n.setTh i t) _ (fun j _ => by rw [ht]) (fun j => by rw [ht]; exact id)
      (exec_store c subs n i ins h2) this

theorem filed_step (subs : Nat → Sub) (A : Nat → Prop) (n : Node) (a : Act)
    (hi : Inv subs A n) (hs : InvS subs n) (hf : Filed subs n) :
    Filed subs (step Cfg.code subs n a) := by
  cases a with
  | retry p => exact hf
  | step i =>
    rcases step_code_cases subs n i with ⟨hpc, he⟩ | ⟨hpc, he⟩ | ⟨hpc, he⟩ | ⟨hpc, he⟩ | ⟨hpc, he⟩ |
        ⟨hpc, he⟩ | ⟨hpc, he⟩ | ⟨hpc, he⟩ | ⟨hpc, he⟩ <;> rw [he]
    iterate 6 exact filed_exec _ subs n i _ (by decide) (by omega) (.inr (by omega)) hf
    · -- push
      simp only [exec]
      by_cases hk : knows n.store (bundleOf subs n i).id = true
      · -- impossible: the key would belong to another submission with the same id
        exfalso
        obtain ⟨e, hmem, hid⟩ := (knows_iff _ _).mp hk
        obtain ⟨j, h7, rfl⟩ := hs.p e hmem
        have hji : j ≠ i := by intro e; subst e; omega
        exact ids_ne_of_inv subs A n hi j i hji (by omega) (by omega) hid
      · rw [if_neg hk]
        intro j h7
        have hseq : ((n.bump i).th j).seq = (n.th j).seq := by
          simp only [Node.bump, setTh_th]; split <;> simp_all
        show ((bundleOf subs (n.bump i) j).id, bundleOf subs (n.bump i) j) ∈
          ((bundleOf subs n i).id, bundleOf subs n i) :: n.store
        rw [bundleOf_congr subs n (n.bump i) j hseq]
        by_cases hji : j = i
        · subst hji; exact List.mem_cons_self ..
        · refine List.mem_cons_of_mem _ (hf j ?_)
          have : ((n.bump i).th j).pc = (n.th j).pc := by simp [Node.bump, hji]
          have h7' : 7 ≤ ((n.bump i).th j).pc := h7
          omega
    · exact filed_exec _ subs n i _ (by decide) (by omega) (.inl (by decide)) hf
    · exact hf

theorem all_run (subs : Nat → Sub) (A : Nat → Prop)
    (hret : ∀ i j, A i → A j → droppedAt Cfg.code.window (subs i).now (subs j).now (subs j).key = false)
    (σ : List Act) (n : Node) (hσ : ∀ i, Act.step i ∈ σ → A i)
    (h1 : Inv subs A n) (h2 : InvS subs n) (h3 : Filed subs n) :
    Inv subs A (run Cfg.code subs n σ) ∧ InvS subs (run Cfg.code subs n σ) ∧
      Filed subs (run Cfg.code subs n σ) :=
  run_invariant subs (fun n => Inv subs A n ∧ InvS subs n ∧ Filed subs n) σ n
    (fun m a ha h => ⟨inv_step subs A hret m a (fun i e => hσ i (e ▸ ha)) h.1, invS_step subs m a h.2.1,
      filed_step subs A m a h.1 h.2.1 h.2.2⟩) ⟨h1, h2, h3⟩

/-! ### Spec predicates on the model's observations -/

/-- What is observed in the store and on the wire is the in-memory bundle of a submission that has pushed. -/
theorem stored_of_invS {subs : Nat → Sub} {n : Node} (h : InvS subs n) {e : BundleId × BundleId × Nat}
    (he : e ∈ (obsOf n).stored) :
    ∃ i, 7 ≤ (n.th i).pc ∧ e = (idOf subs n i, idOf subs n i, (subs i).tag) := by
  simp only [obsOf, List.mem_map] at he
  obtain ⟨e', he', rfl⟩ := he
  obtain ⟨i, h7, rfl⟩ := h.p e' he'
  exact ⟨i, h7, rfl⟩

theorem sent_of_invS {subs : Nat → Sub} {n : Node} (h : InvS subs n) {e : Nat × BundleId × Nat}
    (he : e ∈ (obsOf n).sent) : ∃ i, 7 ≤ (n.th i).pc ∧ e.2 = (idOf subs n i, (subs i).tag) := by
  simp only [obsOf, List.mem_map] at he
  obtain ⟨e', he', rfl⟩ := he
  obtain ⟨i, h7, hi⟩ := h.t e' he'
  exact ⟨i, h7, by rw [hi]; rfl⟩

theorem storedIsSent_of_inv (subs : Nat → Sub) (n : Node)
    (htag : ∀ i j, (subs i).tag = (subs j).tag → i = j) (h : InvS subs n) :
    StoredIsSent (obsOf n) := by
  refine ⟨?_, ?_, ?_⟩
  · intro e he
    obtain ⟨i, _, rfl⟩ := stored_of_invS h he
    rfl
  · intro e he s hs ht
    obtain ⟨i, _, rfl⟩ := stored_of_invS h he
    obtain ⟨j, _, hj⟩ := sent_of_invS h hs
    rw [hj] at ht ⊢
    rw [htag i j ht]
  · intro a ha b hb ht
    obtain ⟨i, _, hi⟩ := sent_of_invS h ha
    obtain ⟨j, _, hj⟩ := sent_of_invS h hb
    rw [hi, hj] at ht ⊢
    rw [htag i j ht]

theorem sentDistinct_of_inv (subs : Nat → Sub) (A : Nat → Prop) (n : Node)
    (hi : Inv subs A n) (hs : InvS subs n) : SentIdsDistinct (obsOf n) := by
  intro a ha b hb ht
  obtain ⟨i, h7i, hbi⟩ := sent_of_invS hs ha
  obtain ⟨j, h7j, hbj⟩ := sent_of_invS hs hb
  rw [hbi, hbj] at ht ⊢
  have hij : i ≠ j := by intro e; subst e; exact ht rfl
  exact ids_ne_of_inv subs A n hi i j hij (by omega) (by omega)

theorem storeDistinct_of_inv (subs : Nat → Sub) (A : Nat → Prop) (n : Node)
    (hi : Inv subs A n) (hs : InvS subs n) : StoreKeysDistinct (obsOf n) := by
  refine ⟨?_, ?_⟩
  · simpa [obsOf, Function.comp_def] using hs.nd
  · intro a ha b hb ht
    obtain ⟨i, h7i, rfl⟩ := stored_of_invS hs ha
    obtain ⟨j, h7j, rfl⟩ := stored_of_invS hs hb
    have hij : i ≠ j := by intro e; subst e; exact ht rfl
    exact ids_ne_of_inv subs A n hi i j hij (by omega) (by omega)

theorem filedOnce_of_inv (subs : Nat → Sub) (n : Node)
    (htag : ∀ i j, (subs i).tag = (subs j).tag → i = j) (hs : InvS subs n) (hf : Filed subs n)
    (is : List Nat) (his : ∀ i ∈ is, 7 ≤ (n.th i).pc) :
    FiledOnce (is.map (fun i => (subs i).tag)) (obsOf n) := by
  intro t ht
  simp only [List.mem_map] at ht
  obtain ⟨i, hi, rfl⟩ := ht
  refine ⟨(idOf subs n i, idOf subs n i, (subs i).tag), ?_, rfl, ?_⟩
  · simp only [obsOf, List.mem_map]
    exact ⟨_, hf i (his i hi), rfl⟩
  · intro e' he' ht'
    obtain ⟨j, _, rfl⟩ := stored_of_invS hs he'
    rw [htag j i ht']

end Dtn7.IdKeeper.Lemmas
