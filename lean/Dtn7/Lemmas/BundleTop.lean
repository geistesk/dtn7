import Dtn7.Lemmas.BundleCodec
import Dtn7.Lemmas.BundleInv
import Dtn7.Lemmas.BundleValid

namespace Dtn7.Bundle.Lemmas
open Dtn7.Cbor Dtn7.Cbor.Lemmas Dtn7.Eid Dtn7.Eid.Lemmas Dtn7.Bundle

theorem parse_ok_iff {cfg : Cfg} {now : Nat} {bs : Bytes} {b : Bundle} {r : Bytes} :
    parse cfg now bs = .ok (b, r) ↔ parseRaw cfg bs = .ok (b, r) ∧ checkValid cfg.strict now b = true := by
  unfold parse
  constructor
  · intro h
    obtain ⟨b', r', h1, h2⟩ := bindP_eq_ok.mp h
    by_cases hv : checkValid cfg.strict now b' = true
    · rw [if_pos hv] at h2; cases h2; exact ⟨h1, hv⟩
    · rw [if_neg hv] at h2; cases h2
  · rintro ⟨h1, h2⟩
    rw [h1, bindP_ok, if_pos h2]

theorem valueEids_valid (v : BlockValue) (h : v.checkValid true = true) : v.eids.all Eid.valid = true := by
  cases v <;> simp_all [BlockValue.eids, BlockValue.checkValid, List.all_map, Function.comp_def]
  · exact h.2
  · exact h

/-- A bundle that is encodable and passes `CheckValid` with `strict := true` (the variant /repo has:
`Gen.C01.strict`) is one `MarshalCbor` does not refuse. -/
theorem serializable_of (cfg : Cfg) (now : Nat) (b : Bundle) (he : Encodable cfg b)
    (hv : checkValid true now b = true) : b.serializable = true := by
  unfold checkValid at hv
  simp only [Bool.and_eq_true] at hv
  obtain ⟨⟨⟨⟨⟨⟨⟨⟨hp, hall⟩, _⟩, _⟩, _⟩, _⟩, _⟩, _⟩, _⟩ := hv
  unfold Primary.checkValid at hp
  simp only [Bool.and_eq_true] at hp
  obtain ⟨⟨⟨⟨⟨_, _⟩, hdst⟩, hsrc⟩, hrpt⟩, _⟩ := hp
  obtain ⟨hpe, hce⟩ := he
  unfold Bundle.serializable Primary.serializable
  have hck : crcKnown b.primary.crcT = true := by simpa [crcKnown] using hpe.2.2.1
  simp only [hdst, hsrc, hrpt, hck, Bool.and_self, Bool.true_and, List.all_eq_true]
  intro c hc
  have hcv := List.all_eq_true.mp hall c hc
  unfold Canonical.checkValid at hcv
  simp only [Bool.and_eq_true] at hcv
  unfold Canonical.serializable
  have : crcKnown c.crcT = true := by simpa [crcKnown] using (hce c hc).2.2.1
  simp [valueEids_valid _ hcv.1, this]

/-- Parsing what was written for an encodable, valid bundle (followed by anything) yields the very same
bundle and leaves exactly what followed — whether or not `cfg.strict` is set. -/
theorem parse_serializeRaw (cfg : Cfg) (now : Nat) (b : Bundle) (he : Encodable cfg b)
    (hv : checkValid cfg.strict now b = true) (rest : Bytes) :
    parse cfg now (serializeRaw b ++ rest) = .ok (b, rest) :=
  parse_ok_iff.mpr ⟨parseRaw_serializeRaw cfg b he rest, hv⟩

theorem serialize_eq {b : Bundle} {bs : Bytes} (h : serialize b = .ok bs) : bs = serializeRaw b := by
  unfold serialize at h
  split at h
  · exact (Except.ok.inj h).symm
  · cases h

/-- The decoder takes the bytes `MarshalCbor` wrote back to the bundle they were written for, entirely. -/
theorem parseRaw_of_serialize (cfg : Cfg) (b : Bundle) (he : Encodable cfg b) (bs : Bytes)
    (hser : serialize b = .ok bs) (b' : Bundle) (r : Bytes) (hpar : parseRaw cfg bs = .ok (b', r)) :
    b' = b ∧ r = [] := by
  have h := parseRaw_serializeRaw cfg b he []
  rw [List.append_nil, ← serialize_eq hser, hpar] at h
  cases h; exact ⟨rfl, rfl⟩

/-- **Lossless**: serialising an encodable, valid bundle succeeds, and parsing those bytes (followed
by anything) yields the very same bundle and leaves exactly what followed. -/
theorem parse_serialize (cfg : Cfg) (hs : cfg.strict = true) (now : Nat) (b : Bundle)
    (he : Encodable cfg b) (hv : checkValid cfg.strict now b = true) (rest : Bytes) :
    serialize b = .ok (serializeRaw b) ∧ parse cfg now (serializeRaw b ++ rest) = .ok (b, rest) :=
  ⟨by unfold serialize; rw [serializable_of cfg now b he (hs ▸ hv)]; rfl, parse_serializeRaw cfg now b he hv rest⟩

/-- **Idempotent**: every accepted byte string re-serialises, and the new bytes are accepted again
(at any instant at which the bundle is still valid), consumed entirely, and yield the same bundle. -/
theorem accepted_reserialises (cfg : Cfg) (hs : cfg.strict = true) (now : Nat) (bs : Bytes)
    (b : Bundle) (r : Bytes) (h : parse cfg now bs = .ok (b, r)) :
    Encodable cfg b ∧ serialize b = .ok (serializeRaw b) ∧
    ∀ now', checkValid cfg.strict now' b = true → parse cfg now' (serializeRaw b) = .ok (b, []) := by
  obtain ⟨h1, h2⟩ := parse_ok_iff.mp h
  have he := parseRaw_inv hs h1
  refine ⟨he, (parse_serialize cfg hs now b he h2 []).1, fun now' hv' => ?_⟩
  have := parse_serializeRaw cfg now' b he hv' []
  rwa [List.append_nil] at this

end Dtn7.Bundle.Lemmas
