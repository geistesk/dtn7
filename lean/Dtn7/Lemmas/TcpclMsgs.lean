import Dtn7.Model.TcpclMsgs
import Dtn7.Lemmas.Wire

namespace Dtn7.TcpclMsgs.Lemmas
open Dtn7.Cbor (Bytes beBytes beVal)
open Dtn7.Cbor.Lemmas (beBytes_length beVal_beBytes)
open Dtn7.Wire Dtn7.Wire.Lemmas Dtn7.TcpclMsgs

theorem expectHeader_cons (code : Nat) (b : UInt8) (rest : Bytes) (h : b.toNat = code) :
    expectHeader code (b :: rest) = .ok rest := by
  simp [expectHeader, readU8, h]

theorem skipExt_zero (bs : Bytes) : skipExt 0 bs = .ok bs := by simp [skipExt]

theorem dec_sessInit (k s t : Nat) (n rest : Bytes)
    (hk : k < 2 ^ 16) (hs : s < 2 ^ 64) (ht : t < 2 ^ 64) (hn : n.length < 2 ^ 16) :
    decSessInit (enc (.sessInit k s t n) ++ rest) = .ok (.sessInit k s t n, rest) := by
  simp only [decSessInit, enc, List.cons_append, List.append_assoc,
    expectHeader_cons SESS_INIT (u8 SESS_INIT) _ (by decide), readBE_beBytes 2 k _ hk, readBE_beBytes 8 s _ hs,
    readBE_beBytes 8 t _ ht, readBE_beBytes 2 n.length _ hn, takeN_append, readBE_beBytes 4 0 _ (by decide),
    skipExt_zero]

theorem dec_sessTerm (f r : UInt8) (rest : Bytes) (hr : termValid r = true) :
    decSessTerm (enc (.sessTerm f r) ++ rest) = .ok (.sessTerm f r, rest) := by
  unfold decSessTerm enc
  simp only [List.cons_append, List.nil_append]
  rw [expectHeader_cons SESS_TERM _ _ (by decide)]
  simp [readU8, hr]

theorem dec_xferSegment (f : UInt8) (tid : Nat) (d rest : Bytes)
    (ht : tid < 2 ^ 64) (hd : d.length < 2 ^ 64) :
    decXferSegment (enc (.xferSegment f tid d) ++ rest) = .ok (.xferSegment f tid d, rest) := by
  simp only [decXferSegment, enc, List.cons_append, List.append_assoc,
    expectHeader_cons XFER_SEGMENT (u8 XFER_SEGMENT) _ (by decide), readU8, readBE_beBytes 8 tid _ ht,
    readBE_beBytes 4 0 _ (by decide), skipExt_zero, readBE_beBytes 8 d.length _ hd]
  by_cases h0 : d.length = 0
  · cases List.eq_nil_of_length_eq_zero h0; rfl
  · rw [if_neg h0, takeN_append]

theorem dec_xferAck (f : UInt8) (tid l : Nat) (rest : Bytes) (ht : tid < 2 ^ 64) (hl : l < 2 ^ 64) :
    decXferAck (enc (.xferAck f tid l) ++ rest) = .ok (.xferAck f tid l, rest) := by
  unfold decXferAck enc
  rw [List.cons_append, expectHeader_cons XFER_ACK _ _ (by decide)]
  dsimp only
  -- the 17 bytes read at once are the flag byte and the two 8-byte fields
  rw [show f :: (beBytes 8 tid ++ beBytes 8 l) ++ rest = (f :: (beBytes 8 tid ++ beBytes 8 l)) ++ rest from rfl,
    takeN_append' 17 _ _ (by simp [beBytes_length])]
  simp only [List.getD_cons_zero, List.drop_succ_cons, List.drop_zero]
  rw [List.take_left' (beBytes_length 8 tid), List.drop_left' (beBytes_length 8 tid),
    beVal_beBytes 8 tid ht, beVal_beBytes 8 l hl]

theorem dec_xferRefuse (r : UInt8) (tid : Nat) (rest : Bytes) (hr : refuseValid r = true)
    (ht : tid < 2 ^ 64) :
    decXferRefuse (enc (.xferRefuse r tid) ++ rest) = .ok (.xferRefuse r tid, rest) := by
  unfold decXferRefuse enc
  simp only [List.cons_append]
  rw [expectHeader_cons XFER_REFUSE _ _ (by decide)]
  simp only
  have : r :: (beBytes 8 tid ++ rest) = (r :: beBytes 8 tid) ++ rest := by simp
  rw [this, takeN_append' 9 _ _ (by simp [beBytes_length])]
  simp [hr, beVal_beBytes 8 tid (by omega)]

theorem dec_keepalive (rest : Bytes) :
    decKeepalive (enc .keepalive ++ rest) = .ok (.keepalive, rest) := by
  unfold decKeepalive enc
  simp only [List.cons_append, List.nil_append]
  rw [expectHeader_cons KEEPALIVE _ _ (by decide)]

theorem dec_reject (r h : UInt8) (rest : Bytes) (hr : rejectValid r = true) :
    decReject (enc (.reject r h) ++ rest) = .ok (.reject r h, rest) := by
  unfold decReject enc
  simp only [List.cons_append, List.nil_append]
  rw [expectHeader_cons MSG_REJECT _ _ (by decide)]
  simp only
  have : r :: h :: rest = [r, h] ++ rest := by simp
  rw [this, takeN_append' 2 _ _ (by simp)]
  simp [hr]

theorem dec_contact (f : UInt8) (rest : Bytes) :
    decContact (enc (.contact f) ++ rest) = .ok (.contact f, rest) := by
  unfold decContact enc
  rw [takeN_append' 6 _ _ (by simp [contactHead])]
  simp [contactHead]

/-! ### `ReadMessage` dispatches on the first byte -/

theorem readMessage_sessInit (r : Bytes) :
    readMessage (u8 SESS_INIT :: r) = decSessInit (u8 SESS_INIT :: r) := rfl
theorem readMessage_sessTerm (r : Bytes) :
    readMessage (u8 SESS_TERM :: r) = decSessTerm (u8 SESS_TERM :: r) := rfl
theorem readMessage_xferSegment (r : Bytes) :
    readMessage (u8 XFER_SEGMENT :: r) = decXferSegment (u8 XFER_SEGMENT :: r) := rfl
theorem readMessage_xferAck (r : Bytes) :
    readMessage (u8 XFER_ACK :: r) = decXferAck (u8 XFER_ACK :: r) := rfl
theorem readMessage_xferRefuse (r : Bytes) :
    readMessage (u8 XFER_REFUSE :: r) = decXferRefuse (u8 XFER_REFUSE :: r) := rfl
theorem readMessage_keepalive (r : Bytes) :
    readMessage (u8 KEEPALIVE :: r) = decKeepalive (u8 KEEPALIVE :: r) := rfl
theorem readMessage_reject (r : Bytes) :
    readMessage (u8 MSG_REJECT :: r) = decReject (u8 MSG_REJECT :: r) := rfl
theorem readMessage_contact (r : Bytes) : readMessage (0x64 :: r) = decContact (0x64 :: r) := rfl

/-- **Round trip with exact consumption through the dispatcher** (`ReadMessage`). -/
theorem readMessage_enc (m : Msg) (rest : Bytes) (hc : Canonical m) :
    readMessage (enc m ++ rest) = .ok (m, rest) := by
  cases m with
  | contact f => exact (readMessage_contact _).trans (dec_contact f rest)
  | sessInit k s t n =>
    exact (readMessage_sessInit _).trans (dec_sessInit k s t n rest hc.1 hc.2.1 hc.2.2.1 hc.2.2.2)
  | sessTerm f r => exact (readMessage_sessTerm _).trans (dec_sessTerm f r rest hc)
  | xferSegment f tid d => exact (readMessage_xferSegment _).trans (dec_xferSegment f tid d rest hc.1 hc.2)
  | xferAck f tid l => exact (readMessage_xferAck _).trans (dec_xferAck f tid l rest hc.1 hc.2)
  | xferRefuse r tid => exact (readMessage_xferRefuse _).trans (dec_xferRefuse r tid rest hc.1 hc.2)
  | keepalive => exact (readMessage_keepalive _).trans (dec_keepalive rest)
  | reject r h => exact (readMessage_reject _).trans (dec_reject r h rest hc)

theorem sessTerm_accepts (f c : UInt8) (rest : Bytes) :
    accepts (readMessage (u8 SESS_TERM :: f :: c :: rest)) = termValid c := by
  rw [readMessage_sessTerm]
  unfold decSessTerm
  rw [expectHeader_cons SESS_TERM _ _ (by decide)]
  simp only [readU8]
  cases termValid c <;> rfl

theorem xferRefuse_accepts (c : UInt8) (tid : Nat) (rest : Bytes) :
    accepts (readMessage (u8 XFER_REFUSE :: c :: (beBytes 8 tid ++ rest))) = refuseValid c := by
  rw [readMessage_xferRefuse]
  unfold decXferRefuse
  rw [expectHeader_cons XFER_REFUSE _ _ (by decide)]
  simp only
  have : c :: (beBytes 8 tid ++ rest) = (c :: beBytes 8 tid) ++ rest := by simp
  rw [this, takeN_append' 9 _ _ (by simp [beBytes_length])]
  simp only [List.getD_cons_zero]
  cases refuseValid c <;> rfl

theorem reject_accepts (c h : UInt8) (rest : Bytes) :
    accepts (readMessage (u8 MSG_REJECT :: c :: h :: rest)) = rejectValid c := by
  rw [readMessage_reject]
  unfold decReject
  rw [expectHeader_cons MSG_REJECT _ _ (by decide)]
  simp only
  have : c :: h :: rest = [c, h] ++ rest := by simp
  rw [this, takeN_append' 2 _ _ (by simp)]
  simp only [List.getD_cons_zero]
  cases rejectValid c <;> rfl

theorem contact_short (bs : Bytes) (h : bs.length < 6) : decContact bs = .error .eof := by
  unfold decContact takeN
  simp [h]

theorem enc_ne_nil (m : Msg) : enc m ≠ [] := by
  cases m <;> simp [enc, contactHead]

end Dtn7.TcpclMsgs.Lemmas
