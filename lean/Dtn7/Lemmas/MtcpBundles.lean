import Dtn7.Model.Mtcp
import Dtn7.Model.Bundle
import Dtn7.Model.BundleSpec
import Dtn7.Lemmas.Mtcp
import Dtn7.Lemmas.BundleTop
import Dtn7.Lemmas.BundleStable

/-!
MTCP over the REAL bundle codec (C01): the abstract `Mtcp.Codec` instantiated with
`Bundle.serializeRaw` / `Bundle.parse cfg now`, and the framing hypotheses (`GoodOn`) discharged from
C01's `parse_serializeRaw`.
-/
namespace Dtn7.Mtcp.Bundles
open Dtn7.Cbor (Bytes)
open Dtn7.Bundle (Bundle Cfg Encodable checkValid serializeRaw parse)
open Dtn7.Mtcp Dtn7.Mtcp.Lemmas

/-- The bundle codec as MTCP's server uses it: `Bundle.MarshalCbor` on the sending side, `Bundle.UnmarshalCbor`
(decode + `CheckValid` at the receiver's clock `now`) on the stream. Errors are mapped into the framing layer's
error type; nothing else is added. -/
def codec (cfg : Cfg) (now : Nat) : Codec Bundle :=
  { enc := serializeRaw,
    parse := fun bs => match parse cfg now bs with
      | .ok x => .ok x
      | .error e => .error (.cbor e) }

/-- The bundles the theorems speak about: what the wire can carry (`Encodable`), valid at the receiver's
clock, and with an encoding whose length fits the byte-string head (`uint64`). -/
def Sendable (cfg : Cfg) (now : Nat) (b : Bundle) : Prop :=
  Encodable cfg b ∧ checkValid cfg.strict now b = true ∧ (serializeRaw b).length < 2 ^ 64

instance (cfg : Cfg) (now : Nat) (b : Bundle) : Decidable (Sendable cfg now b) := by
  unfold Sendable; infer_instance

theorem codec_parse_ok (cfg : Cfg) (now : Nat) (bs : Bytes) (x : Bundle × Bytes) :
    (codec cfg now).parse bs = .ok x ↔ parse cfg now bs = .ok x := by
  simp only [codec]
  cases h : parse cfg now bs with
  | ok y => simp
  | error e => simp

/-- The real codec meets the framing layer's requirements on every sendable bundle: exact consumption is
C01's `parse_serializeRaw`; an encoding starts with 0x9F, so it is not empty. -/
theorem codec_good (cfg : Cfg) (now : Nat) :
    GoodOn (codec cfg now) (Sendable cfg now) where
  rt := by
    intro b rest ⟨he, hv, _⟩
    rw [codec_parse_ok]
    exact Dtn7.Bundle.Lemmas.parse_serializeRaw cfg now b he hv rest
  ne := by
    intro b _
    simp [codec, serializeRaw]
  small := fun _ h => h.2.2

/-- The real parser is extension-stable (`Dtn7.Bundle.Stable.parse_stable`), hence so is the codec. -/
theorem codec_stable (cfg : Cfg) (now : Nat) (p : Bytes) (x : Bundle) (r t : Bytes)
    (h : (codec cfg now).parse p = .ok (x, r)) : (codec cfg now).parse (p ++ t) = .ok (x, r ++ t) := by
  rw [codec_parse_ok] at h ⊢
  exact Dtn7.Bundle.Stable.parse_stable cfg now p x r t h

/-- **A truncated encoding is not a bundle**: no strict prefix of a sendable bundle's serialisation is accepted
by `Bundle.UnmarshalCbor` (as any bundle, with any rest). The indefinite array is closed only by the final break
byte and every block is length-delimited; formally: exact consumption + extension stability. -/
theorem parse_truncated (cfg : Cfg) (now : Nat) (b : Bundle) (hb : Sendable cfg now b)
    (k : Nat) (hk : k < (serializeRaw b).length) (x : Bundle × Bytes) :
    parse cfg now ((serializeRaw b).take k) ≠ .ok x := by
  intro h
  exact cut_of_stable (codec cfg now) (codec_good cfg now) (codec_stable cfg now) b hb k hk x
    ((codec_parse_ok cfg now _ x).mpr h)

end Dtn7.Mtcp.Bundles
