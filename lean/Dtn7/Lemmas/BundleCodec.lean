import Dtn7.Model.Bundle
import Dtn7.Model.BundleSpec
import Dtn7.Lemmas.Eid
import Dtn7.Lemmas.CborExtra

/-!
Round trips with exact consumption: decoding what was written for an encodable value, followed by anything,
returns that value and leaves exactly what followed.
-/
namespace Dtn7.Bundle.Lemmas
open Dtn7.Cbor Dtn7.Cbor.Lemmas Dtn7.Eid Dtn7.Eid.Lemmas Dtn7.Bundle

theorem consumed_append (x r : Bytes) : consumed (x ++ r) r = x := by
  unfold consumed
  simp

theorem rawHead_encHead (maj n : Nat) (rest : Bytes) (k : Nat → Bytes → CanonRes) (hm : maj < 8)
    (hn : n < 2 ^ 64) : rawHead maj (encHead maj n ++ rest) k = k n rest := by
  unfold rawHead
  rw [decExpect_encHead maj n rest hm hn]

theorem rawHead_encUInt (n : Nat) (rest : Bytes) (k : Nat → Bytes → CanonRes) (hn : n < 2 ^ 64) :
    rawHead majUInt (encUInt n ++ rest) k = k n rest :=
  rawHead_encHead majUInt n rest k (by decide) hn

theorem decTimestamp_enc (t s : Nat) (ht : t < 2 ^ 64) (hs : s < 2 ^ 64) (rest : Bytes) :
    decTimestamp (encTimestamp t s ++ rest) = .ok ((t, s), rest) := by
  rw [decTimestamp, encTimestamp, List.append_assoc, List.append_assoc, decArray_encArray 2 _ (by decide),
    bindP_ok, if_neg (by decide), decUInt_encUInt t _ ht, bindP_ok, decUInt_encUInt s _ hs, bindP_ok]

theorem mapInsert_fresh (m : EidMap) (k : Eid) (v : Nat) (h : k ∉ m.map (·.1)) :
    mapInsert m k v = m ++ [(k, v)] := by
  induction m with
  | nil => rfl
  | cons p ps ih =>
    obtain ⟨k', v'⟩ := p
    simp only [List.map_cons, List.mem_cons, not_or] at h
    have hne : ¬ (k' = k) := fun e => h.1 e.symm
    simp [mapInsert, hne, ih h.2]

theorem decPairs_encPairs (encV : Nat → Bytes) (decV : Bytes → Except Err (Nat × Bytes))
    (hV : ∀ n rest, n < 2 ^ 64 → decV (encV n ++ rest) = .ok (n, rest))
    (m acc : EidMap) (rest : Bytes)
    (henc : ∀ p ∈ m, Eid.Enc p.1 ∧ U64 p.2)
    (hnd : ((acc ++ m).map (·.1)).Nodup) :
    decPairs decV m.length acc (encPairs encV m ++ rest) = .ok (acc ++ m, rest) := by
  induction m generalizing acc with
  | nil => simp [decPairs, encPairs]
  | cons p ps ih =>
    obtain ⟨k, v⟩ := p
    have hk := henc (k, v) (List.mem_cons_self ..)
    simp only [List.length_cons, decPairs, encPairs, List.append_assoc]
    rw [decEid_encEidRaw k hk.1.1 hk.1.2]
    simp only [bindP_ok]
    rw [hV v _ hk.2]
    simp only [bindP_ok]
    have hfresh : k ∉ acc.map (·.1) := by
      intro hmem
      rw [List.map_append, List.map_cons] at hnd
      have := (List.nodup_append.mp hnd).2.2
      exact this k hmem k (List.mem_cons_self ..) rfl
    rw [mapInsert_fresh acc k v hfresh]
    have := ih (acc ++ [(k, v)]) (fun p hp => henc p (List.mem_cons_of_mem _ hp))
      (by simpa [List.append_assoc] using hnd)
    simpa [List.append_assoc] using this

theorem decFloatBits_enc (n : Nat) (rest : Bytes) (hn : n < 2 ^ 64) :
    decFloatBits (encFloatBits n ++ rest) = .ok (n, rest) :=
  decExpect_encHead majSimple n rest (by decide) hn

theorem decHopField_enc (x : Nat) (hx : x ≤ 255) (rest : Bytes) :
    decHopField (encUInt x ++ rest) = .ok (x, rest) := by
  unfold decHopField
  rw [decUInt_encUInt x _ (by omega)]
  have : ¬ x > 255 := by omega
  simp [this]

theorem registered_default (cfg : Cfg) :
    cfg.registered tPayload = true ∧ cfg.registered tPrevNode = true ∧
    cfg.registered tAge = true ∧ cfg.registered tHop = true := by
  simp [Cfg.registered, tPayload, tPrevNode, tAge, tHop]

section
variable {cfg : Cfg} {bt : Nat} {data : Bytes}

theorem registered_cases (h : cfg.registered bt = true) :
    bt = tPayload ∨ bt = tPrevNode ∨ bt = tAge ∨ bt = tHop ∨
    bt = tSpray ∨ bt = tDtlsr ∨ bt = tProphet ∨ bt = tSignature := by
  simp only [Cfg.registered, Bool.or_eq_true, beq_iff_eq, Bool.and_eq_true] at h
  rcases h with (((h | h) | h) | h) | ⟨((h | h) | h) | h, _⟩ <;> simp only [h, true_or, or_true]

theorem decValue_unreg (h : cfg.registered bt = false) :
    decValue cfg bt data = .ok (.generic bt data) := by
  rw [decValue, if_pos (by rw [h]; rfl)]

theorem decValue_payload : decValue cfg tPayload data = .ok (.payload data) := by
  rw [decValue, if_neg (by rw [(registered_default cfg).1]; decide), if_pos rfl]

theorem decValue_prevNode :
    decValue cfg tPrevNode data = bindP (decEid data) fun e _ => .ok (.prevNode e) := by
  rw [decValue, if_neg (by rw [(registered_default cfg).2.1]; decide), if_neg (by decide), if_pos rfl]

theorem decValue_age :
    decValue cfg tAge data = bindP (decUInt data) fun n _ => .ok (.age n) := by
  rw [decValue, if_neg (by rw [(registered_default cfg).2.2.1]; decide), if_neg (by decide),
    if_neg (by decide), if_pos rfl]

theorem decValue_hop :
    decValue cfg tHop data = bindP (decArray data) fun l r =>
      if l ≠ 2 then .error (.other 47) else
      bindP (decHopField r) fun lim r =>
      bindP (decHopField r) fun cnt _ => .ok (.hop lim cnt) := by
  rw [decValue, if_neg (by rw [(registered_default cfg).2.2.2]; decide), if_neg (by decide),
    if_neg (by decide), if_neg (by decide), if_pos rfl]

theorem decValue_spray (h : cfg.registered tSpray = true) :
    decValue cfg tSpray data = bindP (decUInt data) fun n _ => .ok (.spray n) := by
  rw [decValue, if_neg (by rw [h]; decide), if_neg (by decide), if_neg (by decide), if_neg (by decide),
    if_neg (by decide), if_pos rfl]

theorem decValue_dtlsr (h : cfg.registered tDtlsr = true) :
    decValue cfg tDtlsr data = bindP (decArray data) fun l r =>
      if l ≠ 3 then .error (.other 48) else
      bindP (decEid r) fun id r =>
      bindP (decUInt r) fun ts r =>
      bindP (decExpect majMap r) fun n r =>
      bindP (decPairs decUInt n [] r) fun peers _ => .ok (.dtlsr id ts peers) := by
  rw [decValue, if_neg (by rw [h]; decide), if_neg (by decide), if_neg (by decide), if_neg (by decide),
    if_neg (by decide), if_neg (by decide), if_pos rfl]

theorem decValue_prophet (h : cfg.registered tProphet = true) :
    decValue cfg tProphet data = bindP (decExpect majMap data) fun n r =>
      bindP (decPairs decFloatBits n [] r) fun m _ => .ok (.prophet m) := by
  rw [decValue, if_neg (by rw [h]; decide), if_neg (by decide), if_neg (by decide), if_neg (by decide),
    if_neg (by decide), if_neg (by decide), if_neg (by decide), if_pos rfl]

theorem decValue_signature (h : cfg.registered tSignature = true) :
    decValue cfg tSignature data = bindP (decArray data) fun l r =>
      if l ≠ 2 then .error (.other 49) else
      bindP (decBytes r) fun pk r =>
      bindP (decBytes r) fun sg _ => .ok (.signature pk sg) := by
  rw [decValue, if_neg (by rw [h]; decide), if_neg (by decide), if_neg (by decide), if_neg (by decide),
    if_neg (by decide), if_neg (by decide), if_neg (by decide), if_neg (by decide), if_pos rfl]

/-- **Block value round trip**: what `WriteBlock` puts into the byte string is read back by
`ReadBlock` as the same typed value. -/
theorem decValue_encValueInner (cfg : Cfg) (v : BlockValue) (hv : BlockValue.Enc cfg v) :
    decValue cfg v.typeCode (encValueInner v) = .ok v := by
  cases v with
  | payload d => exact decValue_payload
  | generic t d => exact decValue_unreg hv.1
  | prevNode e =>
    have he := decEid_encEidRaw e hv.1 hv.2 []
    rw [List.append_nil] at he
    show decValue cfg tPrevNode (encEidRaw e) = _
    rw [decValue_prevNode, he, bindP_ok]
  | age ms =>
    have hn := decUInt_encUInt ms [] hv
    rw [List.append_nil] at hn
    show decValue cfg tAge (encUInt ms) = _
    rw [decValue_age, hn, bindP_ok]
  | hop l c =>
    have hc := decHopField_enc c hv.2 []
    rw [List.append_nil] at hc
    show decValue cfg tHop (encArray 2 ++ encUInt l ++ encUInt c) = _
    rw [decValue_hop, List.append_assoc, decArray_encArray 2 _ (by decide), bindP_ok, if_neg (by decide),
      decHopField_enc l hv.1, bindP_ok, hc, bindP_ok]
  | spray n =>
    have hn := decUInt_encUInt n [] hv.2
    rw [List.append_nil] at hn
    show decValue cfg tSpray (encUInt n) = _
    rw [decValue_spray hv.1, hn, bindP_ok]
  | dtlsr id ts peers =>
    obtain ⟨hreg, hid, hts, hpe, hnd, hlen⟩ := hv
    have hp := decPairs_encPairs encUInt decUInt decUInt_encUInt peers [] [] hpe hnd
    rw [List.append_nil, List.nil_append] at hp
    show decValue cfg tDtlsr
      (encArray 3 ++ encEidRaw id ++ encUInt ts ++ encHead majMap peers.length ++ encPairs encUInt peers) = _
    simp only [List.append_assoc]
    rw [decValue_dtlsr hreg, decArray_encArray 3 _ (by decide), bindP_ok, if_neg (by decide),
      decEid_encEidRaw id hid.1 hid.2, bindP_ok, decUInt_encUInt ts _ hts, bindP_ok,
      decExpect_encHead majMap _ _ (by decide) hlen, bindP_ok, hp, bindP_ok]
  | prophet m =>
    obtain ⟨hreg, hpe, hnd, hlen⟩ := hv
    have hp := decPairs_encPairs encFloatBits decFloatBits decFloatBits_enc m [] [] hpe hnd
    rw [List.append_nil, List.nil_append] at hp
    show decValue cfg tProphet (encHead majMap m.length ++ encPairs encFloatBits m) = _
    rw [decValue_prophet hreg, decExpect_encHead majMap _ _ (by decide) hlen, bindP_ok, hp, bindP_ok]
  | signature pk sg =>
    obtain ⟨hreg, hpk, hsg⟩ := hv
    have hs := decBytes_encBytes sg [] hsg
    rw [List.append_nil] at hs
    show decValue cfg tSignature (encArray 2 ++ encBytes pk ++ encBytes sg) = _
    rw [decValue_signature hreg, List.append_assoc, decArray_encArray 2 _ (by decide), bindP_ok,
      if_neg (by decide), decBytes_encBytes pk _ hpk, bindP_ok, hs, bindP_ok]

end

theorem crcValue_known (t : Nat) (body : Bytes) (ht : t ≤ 2) :
    ∃ cc, crcValue t body = .ok cc ∧ cc.length ≤ maxInt32 ∧
      crcField t body = (if t = crcNo then [] else encBytes cc) := by
  have h : ∃ cc, crcValue t body = .ok cc ∧ cc.length ≤ 4 := by
    have : t = 0 ∨ t = 1 ∨ t = 2 := by omega
    rcases this with rfl | rfl | rfl
    · exact ⟨[], rfl, by decide⟩
    · exact ⟨_, rfl, by rw [beBytes_length]; decide⟩
    · exact ⟨_, rfl, by rw [beBytes_length]; decide⟩
  obtain ⟨cc, hcc, hl⟩ := h
  refine ⟨cc, hcc, by unfold maxInt32; omega, ?_⟩
  rw [crcField, hcc]

theorem arrayLen_spec (p : Primary) :
    8 ≤ p.arrayLen ∧ p.arrayLen ≤ 11 ∧ decide (p.arrayLen = 10 ∨ p.arrayLen = 11) = p.isFragment ∧
    decide (p.arrayLen = 9 ∨ p.arrayLen = 11) = p.hasCrc := by
  unfold Primary.arrayLen
  cases p.isFragment <;> cases p.hasCrc <;> decide

theorem decPrimaryFields_enc (strict : Bool) (p : Primary) (hp : Primary.Enc p) (rest : Bytes) :
    decPrimaryFields strict (encPrimaryBody p ++ rest) = .ok ((p.arrayLen, p), rest) := by
  obtain ⟨hver, hfl, hct, hdst, hsrc, hrpt, ht, hs, hl, ho, htot, hfrag⟩ := hp
  obtain ⟨h8, h11, hfr, hcrc⟩ := arrayLen_spec p
  have hfr' : (p.arrayLen = 10 ∨ p.arrayLen = 11) ↔ p.isFragment = true := by
    rw [← hfr]; exact decide_eq_true_iff.symm
  -- the three consistency checks that `strict` switches on (/repo has them: `Gen.C01.strict`) hold of what the
  -- serialiser writes
  have hguard : (strict && (!crcKnown p.crcT ||
      (decide (p.arrayLen = 10 ∨ p.arrayLen = 11) != has p.flags bIsFragment) ||
      (decide (p.arrayLen = 9 ∨ p.arrayLen = 11) != (p.crcT != crcNo)))) = false := by
    have hk : crcKnown p.crcT = true := by simpa [crcKnown] using hct
    rw [hfr, hcrc, hk]; simp [Primary.isFragment, Primary.hasCrc]
  unfold decPrimaryFields encPrimaryBody
  simp only [List.append_assoc]
  rw [decArray_encArray _ _ (by omega), bindP_ok, if_neg (by omega),
    decUInt_encUInt _ _ (by decide), bindP_ok, if_neg (by simp),
    decUInt_encUInt _ _ hfl, bindP_ok, decUInt_encUInt _ _ (by omega), bindP_ok, hguard, if_neg (by simp),
    decEid_encEidRaw _ hdst.1 hdst.2, bindP_ok, decEid_encEidRaw _ hsrc.1 hsrc.2, bindP_ok,
    decEid_encEidRaw _ hrpt.1 hrpt.2, bindP_ok, decTimestamp_enc _ _ ht hs, bindP_ok,
    decUInt_encUInt _ _ hl, bindP_ok]
  cases hf : p.isFragment
  · obtain ⟨h1, h2⟩ := hfrag hf
    rw [if_neg (fun h => by rw [hfr', hf] at h; cases h), bindP_ok, if_neg (by decide), List.nil_append]
    obtain ⟨ver, flags, ct, dst, src, rpt, t, sq, lt, off, tot⟩ := p
    cases hver; cases h1; cases h2; rfl
  · rw [if_pos (hfr'.mpr hf), if_pos rfl, List.append_assoc, decUInt_encUInt _ _ ho, bindP_ok,
      decUInt_encUInt _ _ htot, bindP_ok, bindP_ok]
    obtain ⟨ver, flags, ct, dst, src, rpt, t, sq, lt, off, tot⟩ := p
    cases hver; rfl

theorem decPrimary_enc (strict : Bool) (p : Primary) (hp : Primary.Enc p) (rest : Bytes) :
    decPrimary strict (encPrimaryRaw p ++ rest) = .ok (p, rest) := by
  have hct : p.crcT ≤ 2 := hp.2.2.1
  obtain ⟨cc, hcv, hlen, hcf⟩ := crcValue_known p.crcT (encPrimaryBody p) hct
  obtain ⟨_, _, _, hcrc⟩ := arrayLen_spec p
  have hal : (p.arrayLen = 9 ∨ p.arrayLen = 11) ↔ ¬ p.crcT = crcNo := by
    rw [← decide_eq_true_iff (p := p.arrayLen = 9 ∨ p.arrayLen = 11), hcrc, Primary.hasCrc, bne_iff_ne]
  unfold decPrimary encPrimaryRaw
  rw [List.append_assoc, decPrimaryFields_enc strict p hp, bindP_ok, hcf]
  by_cases h0 : p.crcT = crcNo
  · rw [if_neg (fun h => hal.mp h h0), if_pos h0, List.nil_append]
  · rw [if_pos (hal.mpr h0), if_neg h0, consumed_append, hcv]
    dsimp only
    rw [decBytes_encBytes cc rest hlen, bindP_ok, if_pos rfl]

theorem typeCode_lt (cfg : Cfg) (v : BlockValue) (hv : BlockValue.Enc cfg v) : v.typeCode < 2 ^ 64 := by
  cases v <;> simp only [BlockValue.typeCode, tPayload, tPrevNode, tAge, tHop, tSpray, tDtlsr, tProphet,
    tSignature] <;> try decide
  case generic t d => exact hv.2

/-- The bytes of a canonical block between array head and CRC field. -/
def canonFields (c : Canonical) : Bytes :=
  encUInt c.typeCode ++ encUInt c.num ++ encUInt c.flags ++ encUInt c.crcT ++
    encBytes (encValueInner c.value)

theorem encCanonBody_eq (c : Canonical) :
    encCanonBody c = encArray (if c.hasCrc then 6 else 5) ++ canonFields c := by
  simp [encCanonBody, canonFields, List.append_assoc]

theorem decCanonFields_enc (cfg : Cfg) (c : Canonical) (hc : Canonical.Enc cfg c) (rest : Bytes)
    (k : Canonical → Bytes → CanonRes) :
    decCanonFields cfg (if c.hasCrc then 6 else 5) (canonFields c ++ rest) k = k c rest := by
  obtain ⟨num, flags, ct, v⟩ := c
  simp only [Canonical.Enc, U64] at hc
  obtain ⟨hnum, hfl, hct, hv, hlen⟩ := hc
  have htc := typeCode_lt cfg v hv
  have hval := decValue_encValueInner cfg v hv
  have hb := decBytes_encBytes (encValueInner v) rest hlen
  have hcases : ct = 0 ∨ ct = 1 ∨ ct = 2 := by omega
  unfold decCanonFields canonFields
  simp only [Canonical.typeCode, List.append_assoc]
  rw [rawHead_encUInt _ _ _ htc, rawHead_encUInt _ _ _ hnum, rawHead_encUInt _ _ _ hfl,
    rawHead_encUInt _ _ _ (by omega : ct < 2 ^ 64)]
  rcases hcases with rfl | rfl | rfl <;>
    simp [Canonical.hasCrc, crcNo, crcKnown, hb, hval]

theorem decCanon_enc (cfg : Cfg) (c : Canonical) (hc : Canonical.Enc cfg c) (rest : Bytes) :
    decCanon cfg (encCanonRaw c ++ rest) = .block c rest := by
  have hct : c.crcT ≤ 2 := hc.2.2.1
  obtain ⟨cc, hcv, hlen, hcf⟩ := crcValue_known c.crcT (encCanonBody c) hct
  unfold decCanon encCanonRaw
  -- split the body into array head and fields, and show the head as the `encHead` that `rawHead_encHead` reads
  rw [hcf, encCanonBody_eq] at *
  simp only [List.append_assoc]
  unfold encArray at *
  rw [rawHead_encHead majArray _ _ _ (by decide) (by split <;> decide)]
  have hbl : ¬ ((if c.hasCrc = true then 6 else 5) ≠ 5 ∧ (if c.hasCrc = true then 6 else 5) ≠ 6) := by
    split <;> simp
  simp only [hbl, ↓reduceIte]
  rw [decCanonFields_enc cfg c hc]
  by_cases h0 : c.crcT = crcNo
  · have hh : c.hasCrc = false := by simp [Canonical.hasCrc, h0]
    simp [hh, h0]
  · have hh : c.hasCrc = true := by simpa [Canonical.hasCrc] using h0
    simp only [hh, ↓reduceIte, h0] at hcv ⊢
    rw [consumed_append, hcv]
    simp only
    unfold encBytes
    rw [List.append_assoc, rawHead_encHead majBytes _ _ _ (by decide) (by unfold maxInt32 at hlen; omega)]
    rw [readRaw_append cc rest hlen]
    simp

theorem encBlocksRaw_length (cs : List Canonical) : cs.length ≤ (encBlocksRaw cs).length := by
  induction cs with
  | nil => exact Nat.le_refl _
  | cons c cs ih =>
    have := headLen_pos (if c.hasCrc then 6 else 5)
    simp only [encBlocksRaw, encCanonRaw, encCanonBody, List.length_append, List.length_cons, encArray,
      encHead_length]
    omega

theorem decCanon_break (cfg : Cfg) (rest : Bytes) : decCanon cfg (breakCode :: rest) = .brk rest := by
  rw [decCanon, rawHead, decExpect, decHead_eq_break.mpr ⟨_, _, rfl, by decide⟩]
  rfl

theorem decBlocks_enc (cfg : Cfg) (cs : List Canonical) (hcs : ∀ c ∈ cs, Canonical.Enc cfg c)
    (rest : Bytes) (fuel : Nat) (hf : cs.length + 1 ≤ fuel) :
    decBlocks cfg fuel (encBlocksRaw cs ++ breakCode :: rest) = .ok (cs, rest) := by
  induction cs generalizing fuel with
  | nil =>
    cases fuel with
    | zero => omega
    | succ f => simp [decBlocks, encBlocksRaw, decCanon_break]
  | cons c cs ih =>
    cases fuel with
    | zero => omega
    | succ f =>
      simp only [decBlocks, encBlocksRaw, List.append_assoc]
      rw [decCanon_enc cfg c (hcs c (List.mem_cons_self ..))]
      simp only
      rw [ih (fun d hd => hcs d (List.mem_cons_of_mem _ hd)) f (by simp at hf; omega)]

/-- **Bundle round trip, decoding part**: the bytes written for an encodable bundle, followed by
anything, decode to the same bundle and leave exactly what followed. -/
theorem parseRaw_serializeRaw (cfg : Cfg) (b : Bundle) (hb : Encodable cfg b) (rest : Bytes) :
    parseRaw cfg (serializeRaw b ++ rest) = .ok (b, rest) := by
  obtain ⟨p, cs⟩ := b
  obtain ⟨hp, hcs⟩ := hb
  unfold parseRaw serializeRaw
  simp only [List.cons_append, ne_eq, not_true_eq_false, ↓reduceIte, List.append_assoc]
  rw [decPrimary_enc cfg.strict p hp]
  simp only [wrapErr, bindP_ok, List.nil_append]
  rw [decBlocks_enc cfg cs hcs rest _ (by
    have := encBlocksRaw_length cs
    simp only [List.length_append, List.length_cons]; omega)]
  rfl

end Dtn7.Bundle.Lemmas
