import Dtn7.Model.Bundle
import Dtn7.Lemmas.CborExtra
import Dtn7.Lemmas.BundleInv
import Dtn7.Lemmas.BundleTop

/-!
**Extension stability** of the bundle parser: whatever `Bundle.UnmarshalCbor` accepts on a byte string it
accepts, with the same result, when more bytes follow (the extra bytes are appended to the unconsumed rest).
Every decoder reads forward only and decides on what it has read; the break code and the length-delimited
blocks close the bundle. Consequence (with C01's exact consumption): a strict prefix of a bundle's encoding is
never accepted as a bundle (`Dtn7.Mtcp.Bundles.parse_truncated`, in Lemmas/MtcpBundles.lean).
-/
namespace Dtn7.Bundle.Stable
open Dtn7.Cbor Dtn7.Cbor.Lemmas Dtn7.Eid Dtn7.Bundle Dtn7.Bundle.Lemmas

def Stable {α : Type} (p : Bytes → Except Err (α × Bytes)) : Prop :=
  ∀ bs a r t, p bs = .ok (a, r) → p (bs ++ t) = .ok (a, r ++ t)

/-! ### Decoders that decide on a prefix

`Pre p`: what `p` returns is determined by the bytes it consumed, and the rest is handed back untouched.
Unlike stability itself this is preserved by sequencing, so it is proved along the shape of each decoder. -/

variable {α β : Type}

def Pre (p : Bytes → Except Err (α × Bytes)) : Prop :=
  ∀ bs a r, p bs = .ok (a, r) → ∃ pre, bs = pre ++ r ∧ ∀ t, p (pre ++ t) = .ok (a, t)

theorem Pre.stable {p : Bytes → Except Err (α × Bytes)} (hp : Pre p) : Stable p := by
  intro bs a r t h
  obtain ⟨pre, rfl, hpre⟩ := hp bs a r h
  rw [List.append_assoc]; exact hpre _

theorem Pre.pure (a : α) : Pre (fun bs => .ok (a, bs)) := by
  intro bs a' r h; cases h; exact ⟨[], rfl, fun _ => rfl⟩

theorem Pre.error (e : Err) : Pre (α := α) (fun _ => .error e) := by
  intro bs a r h; cases h

theorem Pre.ite {c : Prop} [Decidable c] {p q : Bytes → Except Err (α × Bytes)} (hp : Pre p) (hq : Pre q) :
    Pre (fun bs => if c then p bs else q bs) := by
  by_cases hc : c
  · simpa only [if_pos hc] using hp
  · simpa only [if_neg hc] using hq

theorem Pre.bind {p : Bytes → Except Err (α × Bytes)} {f : α → Bytes → Except Err (β × Bytes)}
    (hp : Pre p) (hf : ∀ a, Pre (f a)) : Pre (fun bs => bindP (p bs) f) := by
  intro bs b r h
  obtain ⟨a, r1, h1, h2⟩ := bindP_eq_ok.mp h
  obtain ⟨pre1, rfl, hp1⟩ := hp bs a r1 h1
  obtain ⟨pre2, rfl, hp2⟩ := hf a r1 b r h2
  refine ⟨pre1 ++ pre2, (List.append_assoc ..).symm, fun t => ?_⟩
  show bindP (p _) f = _
  rw [List.append_assoc, hp1]; exact hp2 t

theorem Pre.head {k : Nat → Nat → Bytes → Except Err (α × Bytes)} (hk : ∀ m n, Pre (k m n)) :
    Pre (fun bs => match decHead bs with | .error e => .error e | .ok (m, n, r) => k m n r) := by
  intro bs a r h
  dsimp only at h
  cases hd : decHead bs with
  | error e => rw [hd] at h; cases h
  | ok x =>
    obtain ⟨m, n, r1⟩ := x
    rw [hd] at h
    obtain ⟨b, w, rfl, hb⟩ := decHead_eq_ok.mp hd
    obtain ⟨pre, rfl, hp⟩ := hk m n _ _ _ h
    refine ⟨b :: (w ++ pre), by simp, fun t => ?_⟩
    show (match decHead _ with | .error e => Except.error e | .ok (m, n, r) => k m n r) = _
    rw [List.cons_append, List.append_assoc, decHead_eq_ok.mpr ⟨b, w, rfl, hb⟩]
    exact hp t

theorem decExpect_pre (maj : Nat) : Pre (decExpect maj) :=
  .head fun _ _ => .ite (.pure _) (.error _)

theorem readRaw_pre (l : Nat) : Pre (readRaw l) := by
  intro bs d r h
  obtain ⟨hl, hm, rfl⟩ := readRaw_ok h
  exact ⟨d, rfl, fun t => by rw [← hl]; exact readRaw_append d t (by omega)⟩

theorem decBytes_pre : Pre decBytes := by
  have : decBytes = fun bs => bindP (decExpect majBytes bs) readRaw := by
    funext bs; unfold decBytes bindP
    cases decExpect majBytes bs with
    | error e => rfl
    | ok x => rfl
  rw [this]; exact .bind (decExpect_pre _) readRaw_pre

theorem decDtn_pre : Pre decDtn :=
  .head fun _ n => .ite (.pure _) <| .ite (.bind (readRaw_pre n) fun ssp => by
    cases parseSsp ssp with
    | none => exact .error _
    | some x => exact .pure _) (.error _)

theorem decIpn_pre : Pre decIpn :=
  .bind (decExpect_pre _) fun _ => .ite (.error _) <|
  .bind (decExpect_pre _) fun _ => .bind (decExpect_pre _) fun _ => .pure _

theorem decEid_pre : Pre decEid :=
  .bind (decExpect_pre _) fun _ => .ite (.error _) <|
  .bind (decExpect_pre _) fun _ => .ite decDtn_pre <| .ite decIpn_pre (.error _)

theorem decTimestamp_pre : Pre decTimestamp :=
  .bind (decExpect_pre _) fun _ => .ite (.error _) <|
  .bind (decExpect_pre _) fun _ => .bind (decExpect_pre _) fun _ => .pure _

theorem decPrimaryFields_pre (strict : Bool) : Pre (decPrimaryFields strict) :=
  .bind (decExpect_pre _) fun _ => .ite (.error _) <|
  .bind (decExpect_pre _) fun _ => .ite (.error _) <|
  .bind (decExpect_pre _) fun _ => .bind (decExpect_pre _) fun _ => .ite (.error _) <|
  .bind decEid_pre fun _ => .bind decEid_pre fun _ => .bind decEid_pre fun _ =>
  .bind decTimestamp_pre fun _ => .bind (decExpect_pre _) fun _ =>
  .bind (.ite (.bind (decExpect_pre _) fun _ => .bind (decExpect_pre _) fun _ => .pure _) (.pure _))
    fun _ => .pure _

theorem consumed_ext (bs r t : Bytes) : consumed (bs ++ t) (r ++ t) = consumed bs r := by
  unfold consumed
  simp only [List.length_append]
  have : bs.length + t.length - (r.length + t.length) = bs.length - r.length := by omega
  rw [this, List.take_append_of_le_length (by omega)]

/-- The CRC is taken over the bytes consumed so far, which do not change when more bytes follow. -/
theorem decPrimary_stable (strict : Bool) : Stable (decPrimary strict) := by
  intro bs p r t h
  unfold decPrimary at h ⊢
  obtain ⟨x, r1, h1, h2⟩ := bindP_eq_ok.mp h
  rw [(decPrimaryFields_pre strict).stable bs x r1 t h1, bindP_ok, consumed_ext]
  by_cases hx : x.1 = 9 ∨ x.1 = 11
  · rw [if_pos hx] at h2 ⊢
    cases hc : crcValue x.2.crcT (consumed bs r1) with
    | error e => rw [hc] at h2; cases h2
    | ok cc =>
      rw [hc] at h2
      exact (Pre.bind decBytes_pre fun _ => .ite (.pure _) (.error _)).stable r1 p r t h2
  · rw [if_neg hx] at h2 ⊢
    cases h2; rfl

/-- A block-decoder outcome with `t` appended to what is left. -/
def ext (t : Bytes) : CanonRes → CanonRes
  | .block c r => .block c (r ++ t)
  | .brk r => .brk (r ++ t)
  | .err e => .err e

def good : CanonRes → Prop
  | .err _ => False
  | _ => True

theorem guard_good {c : Prop} [Decidable c] {e : Err} {x res : CanonRes}
    (h : (if c then .err e else x) = res) (hg : good res) : ¬ c ∧ x = res :=
  (ite_eq_iff_of_ne fun he => by rw [← he] at hg; exact hg).mp h

theorem decExpect_break {maj : Nat} {bs : Bytes} (h : decExpect maj bs = .error .flagBreak) (t : Bytes) :
    bs ≠ [] ∧ decExpect maj (bs ++ t) = .error .flagBreak := by
  unfold decExpect at h ⊢
  split at h
  · rename_i e he
    cases h
    obtain ⟨b, t', rfl, hb⟩ := decHead_eq_break.mp he
    exact ⟨List.cons_ne_nil _ _, by rw [List.cons_append, decHead_eq_break.mpr ⟨b, _, rfl, hb⟩]⟩
  · split at h <;> cases h

theorem rawHead_stable {maj : Nat} {bs t : Bytes} {k k' : Nat → Bytes → CanonRes} {res : CanonRes}
    (h : rawHead maj bs k = res) (hg : good res)
    (hk : ∀ n r, k n r = res → k' n (r ++ t) = ext t res) :
    rawHead maj (bs ++ t) k' = ext t res := by
  unfold rawHead at h ⊢
  split at h
  · rename_i n r he
    rw [(decExpect_pre maj).stable bs n r t he]
    exact hk n r h
  · rename_i he
    obtain ⟨hne, he'⟩ := decExpect_break he t
    rw [he']
    subst h
    simp only [ext]
    cases bs with
    | nil => exact absurd rfl hne
    | cons b rest => rfl
  · subst h; exact hg.elim

theorem decCanonFields_stable {cfg : Cfg} {bl : Nat} {r0 t : Bytes} {k k' : Canonical → Bytes → CanonRes}
    {res : CanonRes} (h : decCanonFields cfg bl r0 k = res) (hg : good res)
    (hk : ∀ c r, k c r = res → k' c (r ++ t) = ext t res) :
    decCanonFields cfg bl (r0 ++ t) k' = ext t res := by
  unfold decCanonFields at h ⊢
  refine rawHead_stable h hg ?_
  intro bt r1 h
  refine rawHead_stable h hg ?_
  intro num r2 h
  refine rawHead_stable h hg ?_
  intro flags r3 h
  refine rawHead_stable h hg ?_
  intro ct r4 h
  obtain ⟨hst, h⟩ := guard_good h hg
  rw [if_neg hst]
  split at h
  · subst h; exact hg.elim
  · rename_i data r5 hd
    rw [decBytes_pre.stable r4 data r5 t hd]
    dsimp only
    split at h
    · subst h; exact hg.elim
    · exact hk _ r5 h

theorem decCanon_stable {cfg : Cfg} {bs t : Bytes} {res : CanonRes} (h : decCanon cfg bs = res) (hg : good res) :
    decCanon cfg (bs ++ t) = ext t res := by
  unfold decCanon at h ⊢
  refine rawHead_stable h hg ?_
  intro bl r0 h
  obtain ⟨hbl, h⟩ := guard_good h hg
  rw [if_neg hbl]
  refine decCanonFields_stable h hg ?_
  intro c r h
  by_cases h6 : bl = 6
  · rw [if_pos h6] at h ⊢
    rw [consumed_ext]
    split at h
    · subst h; exact hg.elim
    · refine rawHead_stable h hg ?_
      intro n r1 h
      split at h
      · subst h; exact hg.elim
      · rename_i cv r2 hr
        rw [(readRaw_pre n).stable r1 cv r2 t hr]
        dsimp only
        split at h
        · rename_i heq
          rw [if_pos heq]; subst h; rfl
        · subst h; exact hg.elim
  · rw [if_neg h6] at h ⊢
    subst h; rfl

/-- The block loop: more bytes after the break code, and any amount of additional fuel. -/
theorem decBlocks_stable (cfg : Cfg) (d : Nat) (t : Bytes) : ∀ (fuel : Nat) (bs : Bytes) (cs : List Canonical)
    (r : Bytes), decBlocks cfg fuel bs = .ok (cs, r) → decBlocks cfg (fuel + d) (bs ++ t) = .ok (cs, r ++ t) := by
  intro fuel
  induction fuel with
  | zero => intro bs cs r h; cases h
  | succ f ih =>
    intro bs cs r h
    rw [Nat.add_right_comm]
    rw [decBlocks] at h ⊢
    cases hc : decCanon cfg bs with
    | err e => rw [hc] at h; cases h
    | brk r1 =>
      rw [hc] at h; cases h
      rw [decCanon_stable hc trivial]; rfl
    | block c r1 =>
      rw [hc] at h
      rw [decCanon_stable hc trivial]
      dsimp only [ext] at h ⊢
      cases hr : decBlocks cfg f r1 with
      | error e => rw [hr] at h; cases h
      | ok x =>
        rw [hr] at h; cases h
        rw [ih r1 _ _ hr]

theorem parseRaw_stable (cfg : Cfg) : Stable (parseRaw cfg) := by
  intro bs b r t h
  cases bs with
  | nil => cases h
  | cons b0 rest =>
    rw [parseRaw] at h
    rw [List.cons_append, parseRaw]
    obtain ⟨hb0, h⟩ := guard_eq_ok.mp h
    rw [if_neg hb0]
    obtain ⟨p, r1, h1, h⟩ := bindP_eq_ok.mp h
    obtain ⟨cs, r2, h2, h⟩ := bindP_eq_ok.mp h
    cases h
    rw [decPrimary_stable cfg.strict rest p r1 t (wrapErr_ok h1), wrapErr, bindP_ok, List.length_append,
      Nat.add_right_comm, decBlocks_stable cfg t.length t _ r1 cs _ h2, bindP_ok]

theorem parse_stable (cfg : Cfg) (now : Nat) : Stable (parse cfg now) := by
  intro bs b r t h
  obtain ⟨h1, h2⟩ := parse_ok_iff.mp h
  exact parse_ok_iff.mpr ⟨parseRaw_stable cfg bs b r t h1, h2⟩

end Dtn7.Bundle.Stable
