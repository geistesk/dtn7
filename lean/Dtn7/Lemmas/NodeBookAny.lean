/-
C13, never back to the previous node: the previous node is a booked set (`PrevE`, an `EClass`), so the
invariant `PrevInv` goes through retry, reception and the store-preserving events by the generic lemmas of
`Dtn7.Lemmas.NodeDup`. With a domain of histories (`prev_run`, every variant of the code) and without one
(`prev_run_any`, the code as it is): `SendBundle` files a bundle under a free ID (`assignSeq_free`), so a
submission neither meets nor disturbs a stored bundle, and what remains are hypotheses about the bundles
themselves (applications attach no previous-node block; what a relayed bundle must carry for the algorithm to
learn its previous node).
-/
import Dtn7.Lemmas.NodeBook
import Dtn7.Lemmas.NodeSkip
import Dtn7.Lemmas.NodeFull
import Dtn7.Lemmas.NodeDup

namespace Dtn7.Node

/-- `sendBundle_bstep` in every state: the item under the assigned ID holds the submitted bundle (with the
assigned number); all outputs are transmissions of it. -/
theorem sendBundle_bstep_any (env : Env) (b : Bundle) (n : Node)
    (hseq : n.cfg.seqFirst = true) (hskip : n.cfg.skipStored = true) :
    BStep (assignSeq b n).1 (assignSeq b n).1.key n (sendBundle env b n).1 ∧
    ∀ o ∈ (sendBundle env b n).2, ∃ p ok, o = Output.sent p (assignSeq b n).1 ok := by
  rcases preSend_of_cur b n hseq hskip with ⟨x, hx⟩
  exact (sendBundle_touch env b n _ x hx (Or.inl hseq)).2.2

/-! ## The previous node as a booked set

`PrevInv c` is `GenInv PrevE c` by definition; not choosing a member of `PrevE` is not sending the bundle back. -/

theorem PrevE_class : EClass PrevE := ⟨fun _ _ h => PrevE_like h, fun _ _ h => h.2⟩

theorem noRet_of_outOk {c : Cfg} {o : Output} (h : OutOk PrevE c o) : NoRet c o :=
  fun p b ok hob hns hrep hprev => h p b ok hob hns hrep ⟨hprev, hns⟩

theorem noRet_returnFail (c : Cfg) (e : Event) (outs : List Output) (v : View) (h : ∀ o ∈ outs, NoRet c o) :
    returnFail c ⟨e, outs, v⟩ = none := by
  unfold returnFail
  apply List.findSome?_eq_none_iff.mpr
  intro pbk hpbk
  unfold chosen at hpbk
  rcases List.mem_filterMap.mp hpbk with ⟨o, ho, hf⟩
  cases o with
  | deleted k => simp at hf
  | sent p b ok =>
    simp only at hf
    split at hf
    · cases hf
    · rename_i hcond
      cases hf
      simp only [Bool.or_eq_true, Bool.not_eq_true', not_or, Bool.not_eq_true, Bool.not_eq_false] at hcond
      have := h _ ho p b ok rfl hcond.1 hcond.2
      simp only
      split
      · rename_i heq
        exact absurd (by simpa using heq) this
      · rfl

/-- A submission of a bundle without previous-node block, filed under a free ID, keeps the invariant and sends
nothing back. -/
theorem submit_prev (env : Env) (c : Cfg) (b : Bundle) (n : Node) (hp : PrevInv c n) (b' : Bundle)
    (x : List ((Eid × Nat) × Nat))
    (hpre : (if n.cfg.seqFirst = true then assignSeq b n else (b, n)) = (b', n.setIdk x))
    (hfree : n.store.get b'.key = none)
    (hidk : n.cfg.seqFirst = true ∨ (lookupNat x (b'.src, b'.ts) = none ∧ b'.seq = 0)) (hprev : b'.prev = none) :
    PrevInv c (sendBundle env b n).1 ∧ ∀ o ∈ (sendBundle env b n).2, NoRet c o := by
  have h := submit_gen_inv env PrevE PrevE_class c b n hp b' x hpre hfree hidk
    (fun e he => by unfold PrevE at he; rw [hprev] at he; exact absurd he.1 (by simp))
  exact ⟨h.1, fun o ho => noRet_of_outOk (h.2 o ho)⟩

/-- A submission (no previous-node block) keeps the invariant and sends nothing back — in every state. -/
theorem submit_prev_any (env : Env) (c : Cfg) (b : Bundle) (n : Node) (w : WF n) (hp : PrevInv c n)
    (hseq : n.cfg.seqFirst = true) (hskip : n.cfg.skipStored = true) (hprev : b.prev = none) :
    PrevInv c (sendBundle env b n).1 ∧ ∀ o ∈ (sendBundle env b n).2, NoRet c o := by
  rcases assignSeq_free b n hskip with ⟨⟨q, hq⟩, _, hfresh⟩
  rcases preSend_of_cur b n hseq hskip with ⟨x, hx⟩
  exact submit_prev env c b n hp _ x hx hfresh (Or.inl hseq) (by rw [hq]; exact hprev)

/-- What `never_to_prev_node` assumes about the bundles of a history (nothing about IDs): applications do
not attach previous-node blocks; a relayed bundle with a previous node satisfies `seedsPrev` (spray: not a
bundle of this node; binary spray: carries the BinarySprayBlock or is not a bundle of this node). -/
structure Bundles13 (c : Cfg) (h : List Event) : Prop where
  subPrev : ∀ b ∈ submitted h, b.prev = none
  recvSeeds : ∀ b ∈ received h, seedsPrev c b ∨ b.prev = none

theorem prev_step_of (c : Cfg) (env : Env) (e : Event) (s : SpecSt) (n : Node) (inv : VInv c s n) (hp : PrevInv c n)
    (hsub : ∀ b, e = .submit b → PrevInv c (sendBundle env b n).1 ∧ ∀ o ∈ (sendBundle env b n).2, NoRet c o)
    (hrecv : ∀ b r, e = .receive b r → seedsPrev c b ∨ b.prev = none) :
    returnFail c (obsOf (e, (step env n e).2, (step env n e).1)) = none ∧ PrevInv c (step env n e).1 := by
  -- it is enough to look at the core of the step
  suffices h : PrevInv c (stepCore env n e).1 ∧ ∀ o ∈ (stepCore env n e).2, NoRet c o by
    refine ⟨noRet_returnFail _ _ _ _ fun o ho => ?_, genInv_storeSame PrevE c _ _ h.1 rfl rfl (Or.inl rfl)⟩
    rcases List.mem_append.mp ho with h1 | h1
    · exact h.2 o h1
    · rcases List.mem_map.mp h1 with ⟨kv, _, rfl⟩
      intro p b ok hob
      cases hob
  have hck : ∀ n1 : Node, WF n1 → n1.cfg = c → PrevInv c n1 →
      PrevInv c (checkPending env n1).1 ∧ ∀ o ∈ (checkPending env n1).2, NoRet c o := by
    intro n1 w1 hc1 hp1
    have h := dispatchKeys_gen env PrevE PrevE_class c _ n1 (pendingKeys_nodup w1) w1 hc1 hp1
    exact ⟨h.1, fun o ho => noRet_of_outOk (h.2 o ho).1⟩
  cases e with
  | submit b => exact hsub b rfl
  | receive b r =>
    have h := receive_gen env PrevE PrevE_class c b r n inv.cfg hp fun _ m itm hgm hmcfg e he => by
      rcases hrecv b r rfl with hs | hs
      · exact notifyNew_booked b.key b m itm hgm (by rw [hmcfg]; exact hs) e he.1
      · have := he.1; rw [hs] at this; cases this
    exact ⟨h.1, fun o ho => noRet_of_outOk (h.2 o ho).1⟩
  | peerUp p =>
    simp only [stepCore]
    split
    · exact hck n inv.wf inv.cfg hp
    · exact hck _ ⟨inv.wf.keyed, inv.wf.nodup⟩ inv.cfg (genInv_storeSame PrevE c n _ hp rfl rfl (Or.inl rfl))
  | peerDown a => exact ⟨genInv_storeSame PrevE c n _ hp rfl rfl (Or.inl rfl), fun o ho => nomatch ho⟩
  | retryTick => exact hck n inv.wf inv.cfg hp
  | restart => exact ⟨genInv_storeSame PrevE c n _ hp rfl rfl (Or.inr rfl), fun o ho => nomatch ho⟩
  | cleanTick t =>
    refine ⟨?_, fun o ho => nomatch ho⟩
    intro k it hg hrep e he
    exact Booked.mono (n := n) (n' := (stepCore env n (.cleanTick t)).1) rfl (fun _ h => h)
      (fun it' g => ⟨it', cleanTick_sub env n g, rfl⟩) (hp k it (cleanTick_sub env n hg) hrep e he)

theorem prev_step (c : Cfg) (env : Env) (past fut : List Event) (e : Event)
    (hdom : Domain13 c (past ++ e :: fut)) (s : SpecSt) (n : Node) (inv : RInv c past s n) (hp : PrevInv c n) :
    returnFail c (obsOf (e, (step env n e).2, (step env n e).1)) = none ∧ PrevInv c (step env n e).1 := by
  refine prev_step_of c env e s n inv.v hp (fun b he => ?_) (fun b r he => ?_) <;> subst he
  · have hf := submit_fresh c past fut b hdom.dom s n inv
    rcases preSend_of_fresh b n hf.2 hf.1 with ⟨x, hx, hi⟩
    exact submit_prev env c b n hp b x hx hf.1 hi
      (hdom.subPrev b (by rw [submitted_append]; exact List.mem_append_right _ List.mem_cons_self))
  · exact hdom.recvSeeds b (by rw [received_append]; exact List.mem_append_right _ List.mem_cons_self)

theorem prev_run (c : Cfg) (env : Env) :
    ∀ (fut past : List Event) (s : SpecSt) (n : Node) (i : Nat), Domain13 c (past ++ fut) → RInv c past s n →
    PrevInv c n → firstFail (fun c _ o => returnFail c o) c s i ((trace env n fut).map obsOf) = none
  | [], _, _, _, _, _, _, _ => rfl
  | e :: fut, past, s, n, i, hdom, inv, hp => by
    simp only [trace, List.map_cons, firstFail]
    have h2 := rinv_step c env past fut e hdom.dom s n inv
    rcases prev_step c env past fut e hdom s n inv hp with ⟨h3, h4⟩
    rw [h3]
    simp only
    exact prev_run c env fut (past ++ [e]) _ _ (i + 1) (by simpa using hdom) h2 h4

theorem prevInv_init (c : Cfg) (now : Nat) : PrevInv c (init c now) := by
  intro k it h
  simp [init, Store.get] at h

theorem prev_step_any (c : Cfg) (hc : Cur c) (env : Env) (e : Event)
    (hsub : ∀ b, e = .submit b → b.prev = none)
    (hrecv : ∀ b r, e = .receive b r → seedsPrev c b ∨ b.prev = none)
    (s : SpecSt) (n : Node) (inv : VInv c s n) (hp : PrevInv c n) :
    returnFail c (obsOf (e, (step env n e).2, (step env n e).1)) = none ∧ PrevInv c (step env n e).1 :=
  prev_step_of c env e s n inv hp (fun b he =>
    submit_prev_any env c b n inv.wf hp (by rw [inv.cfg]; exact hc.seq) (by rw [inv.cfg]; exact hc.skip) (hsub b he))
    hrecv

theorem prev_run_any (c : Cfg) (hc : Cur c) (env : Env) :
    ∀ (h : List Event) (s : SpecSt) (n : Node) (i : Nat), Bundles13 c h → RInvF c s n →
    PrevInv c n → firstFail (fun c _ o => returnFail c o) c s i ((trace env n h).map obsOf) = none
  | [], _, _, _, _, _, _ => rfl
  | e :: h, s, n, i, hb, inv, hp => by
    simp only [trace, List.map_cons, firstFail]
    have h2 := (rinvF_step c hc env e s n inv).2
    have hsub : ∀ b, e = .submit b → b.prev = none := by
      intro b he; subst he
      exact hb.subPrev b (by simp [submitted])
    have hrecv : ∀ b r, e = .receive b r → seedsPrev c b ∨ b.prev = none := by
      intro b r he; subst he
      exact hb.recvSeeds b (by simp [received])
    rcases prev_step_any c hc env e hsub hrecv s n inv.v hp with ⟨h3, h4⟩
    rw [h3]
    simp only
    refine prev_run_any c hc env h _ _ (i + 1) ⟨?_, ?_⟩ h2 h4
    · intro b hbm
      apply hb.subPrev b
      cases e <;> simp [submitted, hbm]
    · intro b hbm
      apply hb.recvSeeds b
      cases e <;> simp [received, hbm]

end Dtn7.Node
