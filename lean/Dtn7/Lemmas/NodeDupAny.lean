/-
C13 `never_twice`: for EVERY history of the code as it is (`dupO_run`), and for every variant of `SendBundle` on
the histories of `Domain13t` (`dup_run`) — one invariant, the two differ in how a submission gets to a free ID.
The provenance of a stored bundle is kept up to the sequence number (`Orig`): a submission is filed under
the number the node chose. What is left is a hypothesis about the tags the Spec uses to tell bundles apart
(`Tags`: one tag, one (source, creation time)).
-/
import Dtn7.Lemmas.NodeDup
import Dtn7.Lemmas.NodeBookAny

namespace Dtn7.Node

theorem sendBundle_ok_booked_any (env : Env) (b : Bundle) (n : Node)
    (hseq : n.cfg.seqFirst = true) (hskip : n.cfg.skipStored = true)
    (hrep : replicates n.cfg (assignSeq b n).1 = true) :
    ∀ p, Output.sent p (assignSeq b n).1 true ∈ (sendBundle env b n).2 → p.eid.sameNode (assignSeq b n).1.dst = false →
      Booked (sendBundle env b n).1 (assignSeq b n).1.key p.eid := by
  rcases preSend_of_cur b n hseq hskip with ⟨x, hx⟩
  exact sendBundle_ok_booked env b n _ x hx (assignSeq_free b n hskip).2.2 (Or.inl hseq) hrep

theorem sendBundle_cons_any (env : Env) (b : Bundle) (n : Node) (w : WF n) (hfix : n.cfg.holdFix = true)
    (hseq : n.cfg.seqFirst = true) (hskip : n.cfg.skipStored = true)
    (hc : ConsInv n) : ConsInv (sendBundle env b n).1 := by
  rcases preSend_of_cur b n hseq hskip with ⟨x, hx⟩
  exact sendBundle_cons env b n hfix hc _ x hx (assignSeq_free b n hskip).2.2 (Or.inl hseq)
    (sendBundle_only_any env b n w hseq hskip).2.1.other

/-- A submission whose (renumbered) bundle has an empty class keeps the invariant — in every state. -/
theorem submit_gen_any (env : Env) (EB : Bundle → Eid → Prop) (hEB : EClass EB) (c : Cfg) (b : Bundle) (n : Node)
    (w : WF n) (hc : n.cfg = c) (hp : GenInv EB c n)
    (hseq : n.cfg.seqFirst = true) (hskip : n.cfg.skipStored = true)
    (hE : ∀ e, ¬ EB (assignSeq b n).1 e) :
    GenInv EB c (sendBundle env b n).1 ∧
    ∀ o ∈ (sendBundle env b n).2, OutOk EB c o ∧ OkB c (sendBundle env b n).1 o := by
  rcases preSend_of_cur b n hseq hskip with ⟨x, hx⟩
  exact submit_gen env EB hEB c b n hc hp _ x hx (assignSeq_free b n hskip).2.2 (Or.inl hseq) hE

/-! ## Provenance up to the sequence number -/

/-- `b` is the bundle `e` of the history as the node holds it: same tag, source and creation time (the
sequence number is the node's choice for a submission). -/
def Orig (e b : Bundle) : Prop := b.tag = e.tag ∧ b.src = e.src ∧ b.ts = e.ts

theorem Orig.refl (b : Bundle) : Orig b b := ⟨rfl, rfl, rfl⟩

theorem Orig.like {e a b : Bundle} (h : Orig e a) (l : Like a b) : Orig e b := by
  have hk := l.2.1
  exact ⟨l.1.trans h.1, (congrArg Key.src hk).trans h.2.1, (congrArg Key.ts hk).trans h.2.2⟩

def ProvO (past : List Event) (n : Node) : Prop :=
  ∀ k it, n.store.get k = some it → ∃ e, evBundle past e ∧ Orig e it.bundle

theorem provO_touch {past : List Event} {ev : Event} {n n' : Node} {b0 b : Bundle} (hp : ProvO past n)
    (hb : evBundle (past ++ [ev]) b0) (ho : Orig b0 b) (hstep : BStep b b.key n n')
    (hother : ∀ k, k ≠ b.key → n'.store.get k = n.store.get k) : ProvO (past ++ [ev]) n' := by
  intro k it' hg'
  by_cases hk : k = b.key
  · subst hk
    rcases hstep.bundle it' hg' with ⟨it0, g0, l0⟩ | l0
    · rcases hp _ it0 g0 with ⟨e, he, hl⟩
      exact ⟨e, evBundle_snoc he, hl.like l0⟩
    · exact ⟨b0, hb, ho.like l0⟩
  · rw [hother k hk] at hg'
    rcases hp k it' hg' with ⟨e, he, hl⟩
    exact ⟨e, evBundle_snoc he, hl⟩

theorem provO_sub {past : List Event} {ev : Event} {n n' : Node} (hp : ProvO past n)
    (hsub : ∀ k it', n'.store.get k = some it' → ∃ it, n.store.get k = some it ∧ Like it.bundle it'.bundle) :
    ProvO (past ++ [ev]) n' := by
  intro k it' hg'
  rcases hsub k it' hg' with ⟨it, hg, hl⟩
  rcases hp k it hg with ⟨e, he, hl0⟩
  exact ⟨e, evBundle_snoc he, hl0.like hl⟩

/-- The tags tell bundles apart: two bundles of the history with one tag have one source and creation time. -/
def Tags (h : List Event) : Prop :=
  ∀ a b, evBundle h a → evBundle h b → a.tag = b.tag → a.src = b.src ∧ a.ts = b.ts

theorem tags_of_domain {c : Cfg} {h : List Event} (hdom : Domain13t c h) : Tags h :=
  fun a b ha hb ht => by rw [hdom.tags a b ha hb ht]; exact ⟨rfl, rfl⟩

structure DInvO (c : Cfg) (past : List Event) (s : SpecSt) (n : Node) : Prop where
  prov : ProvO past n
  cons : ConsInv n
  dup : GenInv (EBd s.okSent) c n
  live : ∀ te ∈ s.okSent, ∃ k it, n.store.get k = some it ∧ it.bundle.tag = te.1 ∧ k.seq = te.2.1

structure DCoreO (c : Cfg) (past : List Event) (s : SpecSt) (ev : Event) (m : Node) (outs : List Output) : Prop where
  wf : WF m
  prov : ProvO (past ++ [ev]) m
  cons : ConsInv m
  gen : GenInv (EBd s.okSent) c m
  outs : ∀ o ∈ outs, OutOk (EBd s.okSent) c o ∧ OkB c m o ∧
    ∀ p b ok, o = Output.sent p b ok → ∃ e, evBundle (past ++ [ev]) e ∧ Orig e b

/-- Two bundles held by the node that come from bundles of the history with one tag, and carry one sequence
number, have one ID. -/
theorem key_eq_of_orig {all : List Event} (htags : Tags all) {e1 e2 a b : Bundle} (h1 : evBundle all e1)
    (h2 : evBundle all e2) (ha : Orig e1 a) (hb : Orig e2 b) (htag : a.tag = b.tag) (hseq : a.seq = b.seq) :
    a.key = b.key := by
  have hst := htags e1 e2 h1 h2 (by rw [← ha.1, ← hb.1]; exact htag)
  have hs : a.src = b.src := by rw [ha.2.1, hb.2.1]; exact hst.1
  have ht : a.ts = b.ts := by rw [ha.2.2, hb.2.2]; exact hst.2
  unfold Bundle.key
  rw [hs, ht, hseq]

theorem evBundle_mono {past fut : List Event} {ev : Event} {x : Bundle} (hx : evBundle (past ++ [ev]) x) :
    evBundle (past ++ ev :: fut) x := by
  have : past ++ ev :: fut = (past ++ [ev]) ++ fut := by simp
  rw [this]
  rcases hx with hx | hx
  · left; rw [submitted_append]; exact List.mem_append_left _ hx
  · right; rw [received_append]; exact List.mem_append_left _ hx

theorem dupO_of_core (c : Cfg) (env : Env) (past fut : List Event) (ev : Event) (s : SpecSt) (n : Node)
    (htags : Tags (past ++ ev :: fut))
    (hcore : DCoreO c past s ev (stepCore env n ev).1 (stepCore env n ev).2) :
    dupFail c s (obsOf (ev, (step env n ev).2, (step env n ev).1)) = none ∧
    DInvO c (past ++ [ev]) (specNext c s (obsOf (ev, (step env n ev).2, (step env n ev).1))) (step env n ev).1 := by
  have hstore : (step env n ev).1.store = (stepCore env n ev).1.store := rfl
  have hsent : ∀ p b ok, Output.sent p b ok ∈ (step env n ev).2 → Output.sent p b ok ∈ (stepCore env n ev).2 := by
    intro p b ok h
    rcases List.mem_append.mp h with h | h
    · exact h
    · unfold deletedKeys at h
      rcases List.mem_map.mp h with ⟨kv, _, hk⟩
      cases hk
  have hbooked : ∀ k e, Booked (stepCore env n ev).1 k e → Booked (step env n ev).1 k e := fun _ _ h => h
  constructor
  · unfold dupFail
    apply List.findSome?_eq_none_iff.mpr
    intro pbk hpbk
    rcases mem_chosen hpbk with ⟨hm, hns, hrep⟩
    simp only [obsOf] at hm
    have := (hcore.outs _ (hsent _ _ _ hm)).1 pbk.1 pbk.2.1 pbk.2.2 rfl hns hrep
    have hnot : (pbk.2.1.tag, pbk.2.1.seq, pbk.1.eid) ∉ s.okSent := fun h => this ⟨h, hns⟩
    simp [hnot]
  · refine ⟨?_, ?_, ?_, ?_⟩
    · intro k it hg; rw [hstore] at hg; exact hcore.prov k it hg
    · intro k it hg; rw [hstore] at hg; exact hcore.cons k it hg
    · intro k it hg hrep e he
      rw [hstore] at hg
      apply hbooked
      have hmem : (it.bundle.tag, it.bundle.seq, e) ∈ okSentAfter c s (obsOf (ev, (step env n ev).2, (step env n ev).1)) := he.1
      unfold okSentAfter at hmem
      rcases List.mem_append.mp (List.mem_filter.mp hmem).1 with h | h
      · exact hcore.gen k it hg hrep e ⟨h, he.2⟩
      · rcases List.mem_filterMap.mp h with ⟨pbk, hpbk, hf⟩
        split at hf
        · rename_i hok
          have heq2 : (pbk.2.1.tag, pbk.2.1.seq, pbk.1.eid) = (it.bundle.tag, it.bundle.seq, e) := Option.some.inj hf
          rcases mem_chosen hpbk with ⟨hm, hns, hrepb⟩
          simp only [obsOf] at hm
          rw [hok] at hm
          have hco := hcore.outs _ (hsent _ _ _ hm)
          have hb := hco.2.1 pbk.1 pbk.2.1 rfl hns hrepb
          -- the item that carries this tag and number is the item of that bundle's ID
          rcases hco.2.2 pbk.1 pbk.2.1 true rfl with ⟨e2, he2, hl2⟩
          rcases hcore.prov k it hg with ⟨e1, he1, hl1⟩
          have hk : k = pbk.2.1.key := by
            rw [← hcore.wf.keyed k it hg]
            exact key_eq_of_orig htags (evBundle_mono he1) (evBundle_mono he2) hl1 hl2 (Prod.mk.inj heq2).1.symm
              (Prod.mk.inj (Prod.mk.inj heq2).2).1.symm
          rw [hk, ← (Prod.mk.inj (Prod.mk.inj heq2).2).2]
          exact hb
        · cases hf
    · intro te hte
      have hmem : te ∈ okSentAfter c s (obsOf (ev, (step env n ev).2, (step env n ev).1)) := hte
      unfold okSentAfter at hmem
      have := (List.mem_filter.mp hmem).2
      rcases List.any_eq_true.mp this with ⟨i, hi, hti⟩
      simp only [obsOf, viewOf] at hi
      rcases List.mem_map.mp hi with ⟨⟨k, it⟩, hkv, rfl⟩
      have hti' := hti
      simp only [itemView, Bool.and_eq_true, beq_iff_eq] at hti'
      refine ⟨k, it, ?_, hti'.1, hti'.2⟩
      rw [hstore]
      exact Store.get_of_mem hcore.wf.nodup hkv

theorem dcoreO_checkPending (c : Cfg) (hfix : c.holdFix = true) (env : Env) (past : List Event) (s : SpecSt)
    (n n1 : Node) (ev : Event) (w : WF n) (hcn : n.cfg = c) (di : DInvO c past s n)
    (hs : n1.store = n.store) (hcfg : n1.cfg = n.cfg) (hsp : n1.spray = n.spray) :
    DCoreO c past s ev (checkPending env n1).1 (checkPending env n1).2 := by
  have w1 : WF n1 := ⟨by rw [hs]; exact w.keyed, by rw [hs]; exact w.nodup⟩
  have hc1 : n1.cfg = c := hcfg.trans hcn
  have hg1 : GenInv (EBd s.okSent) c n1 := genInv_storeSame _ c n n1 di.dup hs hcfg (Or.inl hsp)
  unfold checkPending
  rcases dispatchKeys_kstep env (pendingKeys n1.store) n1 w1 with ⟨w', _, _, _, _⟩
  rcases dispatchKeys_gen env _ (EBd_class _) c (pendingKeys n1.store) n1 (pendingKeys_nodup w1) w1 hc1 hg1 with ⟨hg2, ho2⟩
  refine ⟨w', ?_, ?_, hg2, ?_⟩
  · apply provO_sub di.prov
    intro k it' hg'
    have := dispatchKeys_like env k (pendingKeys n1.store) n1 w1 it' hg'
    rw [hs] at this
    exact this
  · apply dispatchKeys_cons env _ n1 w1 (by rw [hc1]; exact hfix)
    intro k it hg; rw [hs] at hg; exact di.cons k it hg
  · intro o ho
    rcases ho2 o ho with ⟨h1, h2, h3⟩
    refine ⟨h1, h2, ?_⟩
    intro p b ok hob
    rcases h3 p b ok hob with ⟨k, it, _, hg, hb⟩
    rw [hs] at hg
    rcases di.prov k it hg with ⟨e, he, hl⟩
    exact ⟨e, evBundle_snoc he, by rw [hb]; exact hl⟩

theorem dcoreO_storeSame (c : Cfg) (past : List Event) (s : SpecSt) (n m : Node) (ev : Event)
    (w : WF n) (di : DInvO c past s n) (hs : m.store = n.store) (hc : m.cfg = n.cfg)
    (hsp : m.spray = n.spray ∨ m.spray = []) : DCoreO c past s ev m [] := by
  refine ⟨⟨by rw [hs]; exact w.keyed, by rw [hs]; exact w.nodup⟩, ?_, ?_, ?_, fun o ho => by cases ho⟩
  · exact provO_sub di.prov (fun k it' hg' => ⟨it', by rw [hs] at hg'; exact hg', Like.refl _⟩)
  · intro k it hg; rw [hs] at hg; exact di.cons k it hg
  · exact genInv_storeSame _ c n m di.dup hs hc hsp

theorem dcoreO_cleanTick (c : Cfg) (env : Env) (past : List Event) (s : SpecSt) (n : Node) (t : Nat)
    (w : WF n) (di : DInvO c past s n) :
    DCoreO c past s (.cleanTick t) (stepCore env n (.cleanTick t)).1 (stepCore env n (.cleanTick t)).2 := by
  refine ⟨wf_foldl_erase (expiredKeys n.store t) { n with now := t } ⟨w.keyed, w.nodup⟩, ?_, ?_, ?_,
    fun o ho => by cases ho⟩
  · exact provO_sub di.prov (fun k it' hg' => ⟨it', cleanTick_sub env n hg', Like.refl _⟩)
  · intro k it hg; exact di.cons k it (cleanTick_sub env n hg)
  · intro k it hg hrep e he
    have hg0 := cleanTick_sub env n hg
    exact Booked.mono (n := n) (n' := (stepCore env n (.cleanTick t)).1) rfl (fun _ h => h)
      (fun it' hg' => ⟨it', cleanTick_sub env n hg', rfl⟩) (di.dup k it hg0 hrep e he)

/-- No remembered transmission names a free ID: a remembered one is still stored, under an ID with that tag's
source and creation time and with that number. -/
theorem no_memory_of_free (c : Cfg) (past : List Event) (s : SpecSt) (n : Node) (w : WF n) (di : DInvO c past s n)
    (all : List Event) (htags : Tags all) (hpast : ∀ x, evBundle past x → evBundle all x)
    (b0 b : Bundle) (hb0 : evBundle all b0) (ho : Orig b0 b) (hfree : n.store.get b.key = none) :
    ∀ e, ¬ EBd s.okSent b e := by
  intro e he
  rcases di.live _ he.1 with ⟨k, it, hg, htag, hseq⟩
  rcases di.prov k it hg with ⟨e1, he1, hl1⟩
  have hkk : it.bundle.key = k := w.keyed k it hg
  have hk : k = b.key := by
    rw [← hkk]
    exact key_eq_of_orig htags (hpast _ he1) hb0 hl1 ho htag (by rw [← hkk] at hseq; exact hseq)
  rw [hk, hfree] at hg
  cases hg

/-- A submission that is filed under a free ID as `b'` (the submitted bundle up to the sequence number). -/
theorem dcoreO_submit (c : Cfg) (hfix : c.holdFix = true) (env : Env) (past fut : List Event) (b : Bundle)
    (htags : Tags (past ++ .submit b :: fut)) (s : SpecSt) (n : Node)
    (w : WF n) (hcn : n.cfg = c) (di : DInvO c past s n) (b' : Bundle) (x : List ((Eid × Nat) × Nat))
    (hpre : (if n.cfg.seqFirst = true then assignSeq b n else (b, n)) = (b', n.setIdk x))
    (hfree : n.store.get b'.key = none)
    (hidk : n.cfg.seqFirst = true ∨ (lookupNat x (b'.src, b'.ts) = none ∧ b'.seq = 0)) (horig : Orig b b') :
    DCoreO c past s (.submit b) (stepCore env n (.submit b)).1 (stepCore env n (.submit b)).2 := by
  rcases sendBundle_touch env b n b' x hpre hidk with ⟨hwf, honly, hbs, hnames⟩
  have hbnew : evBundle (past ++ [.submit b]) b := by
    left; rw [submitted_append]; exact List.mem_append_right _ List.mem_cons_self
  have hE := no_memory_of_free c past s n w di _ htags (fun x hx => evBundle_mono (evBundle_snoc hx)) b b'
    (evBundle_mono hbnew) horig hfree
  rcases submit_gen env _ (EBd_class _) c b n hcn di.dup b' x hpre hfree hidk hE with ⟨hg2, ho2⟩
  simp only [stepCore]
  refine ⟨hwf w, provO_touch di.prov hbnew horig hbs honly.other,
    sendBundle_cons env b n (by rw [hcn]; exact hfix) di.cons b' x hpre hfree hidk honly.other, hg2, ?_⟩
  intro o ho
  rcases ho2 o ho with ⟨h1, h2⟩
  refine ⟨h1, h2, ?_⟩
  intro p b'' ok hob
  rcases hnames o ho with ⟨q, ok', hq⟩
  rw [hob] at hq
  cases hq
  exact ⟨b, hbnew, horig⟩

theorem dcoreO_receive (c : Cfg) (hfix : c.holdFix = true) (env : Env) (past fut : List Event) (b : Bundle)
    (r : Option Eid) (htags : Tags (past ++ .receive b r :: fut)) (s : SpecSt) (n : Node)
    (w : WF n) (hcn : n.cfg = c) (di : DInvO c past s n) :
    DCoreO c past s (.receive b r) (stepCore env n (.receive b r)).1 (stepCore env n (.receive b r)).2 := by
  have hstep := receive_kstep env b r n
  have hbnew : evBundle (past ++ [.receive b r]) b := by
    right; rw [received_append]; exact List.mem_append_right _ List.mem_cons_self
  have hball : evBundle (past ++ .receive b r :: fut) b := evBundle_mono hbnew
  have hpast : ∀ x, evBundle past x → evBundle (past ++ .receive b r :: fut) x :=
    fun x hx => evBundle_mono (evBundle_snoc hx)
  have hseed : (∀ it, n.store.get b.key = some it → it.cons.isEmpty = true) →
      ∀ m itm, m.store.get b.key = some itm → m.cfg = c → ∀ e, EBd s.okSent b e →
        Booked (notifyNew b.key b m) b.key e := by
    intro hemp m itm _ _ e he
    exfalso
    have hnone : n.store.get b.key = none := by
      cases hg : n.store.get b.key with
      | none => rfl
      | some it => exact absurd (hemp it hg) (by rw [di.cons _ it hg]; exact Bool.noConfusion)
    exact no_memory_of_free c past s n w di _ htags hpast b b hball (Orig.refl b) hnone e he
  rcases receive_gen env _ (EBd_class _) c b r n hcn di.dup hseed with ⟨hg2, ho2⟩
  simp only [stepCore]
  refine ⟨hstep.wf w, provO_touch di.prov hbnew (Orig.refl b) (receive_step env b r n).toBStep hstep.only.other,
    receive_cons env b r n (by rw [hcn]; exact hfix) di.cons, hg2, ?_⟩
  intro o ho
  rcases ho2 o ho with ⟨h1, h2, h3⟩
  exact ⟨h1, h2, fun p b' ok hob => ⟨b, hbnew, by rw [h3 p b' ok hob]; exact Orig.refl b⟩⟩

/-- One event; how a submission gets to a free ID (by `Cur`, or by the domain) is the caller's business. -/
theorem dupO_step (c : Cfg) (hfix : c.holdFix = true) (env : Env) (past fut : List Event) (ev : Event)
    (htags : Tags (past ++ ev :: fut)) (s : SpecSt) (n : Node) (w : WF n) (hcn : n.cfg = c)
    (di : DInvO c past s n)
    (hsub : ∀ b, ev = .submit b → DCoreO c past s ev (stepCore env n ev).1 (stepCore env n ev).2) :
    dupFail c s (obsOf (ev, (step env n ev).2, (step env n ev).1)) = none ∧
    DInvO c (past ++ [ev]) (specNext c s (obsOf (ev, (step env n ev).2, (step env n ev).1))) (step env n ev).1 := by
  apply dupO_of_core c env past fut ev s n htags
  cases ev with
  | submit b => exact hsub b rfl
  | receive b r => exact dcoreO_receive c hfix env past fut b r htags s n w hcn di
  | peerUp p =>
    simp only [stepCore]
    split <;> exact dcoreO_checkPending c hfix env past s n _ (.peerUp p) w hcn di rfl rfl rfl
  | peerDown a => exact dcoreO_storeSame c past s n _ (.peerDown a) w di rfl rfl (Or.inl rfl)
  | retryTick => exact dcoreO_checkPending c hfix env past s n n .retryTick w hcn di rfl rfl rfl
  | cleanTick t => exact dcoreO_cleanTick c env past s n t w di
  | restart => exact dcoreO_storeSame c past s n _ .restart w di rfl rfl (Or.inr rfl)

theorem dupO_run (c : Cfg) (hc : Cur c) (env : Env) :
    ∀ (fut past : List Event) (s : SpecSt) (n : Node) (i : Nat), Tags (past ++ fut) → RInvF c s n →
    DInvO c past s n → firstFail dupFail c s i ((trace env n fut).map obsOf) = none
  | [], _, _, _, _, _, _, _ => rfl
  | ev :: fut, past, s, n, i, htags, inv, di => by
    simp only [trace, List.map_cons, firstFail]
    have h2 := (rinvF_step c hc env ev s n inv).2
    rcases dupO_step c hc.hold env past fut ev htags s n inv.v.wf inv.v.cfg di
      (fun b hb => by
        subst hb
        have hseq : n.cfg.seqFirst = true := by rw [inv.v.cfg]; exact hc.seq
        have hskip : n.cfg.skipStored = true := by rw [inv.v.cfg]; exact hc.skip
        rcases assignSeq_free b n hskip with ⟨⟨q, hq⟩, _, hfree⟩
        rcases preSend_of_cur b n hseq hskip with ⟨x, hx⟩
        exact dcoreO_submit c hc.hold env past fut b htags s n inv.v.wf inv.v.cfg di _ x hx hfree (Or.inl hseq)
          (by rw [hq]; exact ⟨rfl, rfl, rfl⟩)) with ⟨h3, h4⟩
    rw [h3]
    simp only
    exact dupO_run c hc env fut (past ++ [ev]) _ _ (i + 1) (by simpa using htags) h2 h4

/-- Every variant of the code with `holdFix`, on the histories of `Domain13t`. -/
theorem dup_run (c : Cfg) (hfix : c.holdFix = true) (env : Env) :
    ∀ (fut past : List Event) (s : SpecSt) (n : Node) (i : Nat), Domain13t c (past ++ fut) → RInv c past s n →
    DInvO c past s n → firstFail dupFail c s i ((trace env n fut).map obsOf) = none
  | [], _, _, _, _, _, _, _ => rfl
  | ev :: fut, past, s, n, i, hdom, inv, di => by
    simp only [trace, List.map_cons, firstFail]
    have h2 := rinv_step c env past fut ev hdom.d13.dom s n inv
    rcases dupO_step c hfix env past fut ev (tags_of_domain hdom) s n inv.wf inv.cfg di
      (fun b hb => by
        subst hb
        have hf := submit_fresh c past fut b hdom.d13.dom s n inv
        rcases preSend_of_fresh b n hf.2 hf.1 with ⟨x, hx, hi⟩
        exact dcoreO_submit c hfix env past fut b (tags_of_domain hdom) s n inv.wf inv.cfg di b x hx hf.1 hi
          (Orig.refl b)) with ⟨h3, h4⟩
    rw [h3]
    simp only
    exact dup_run c hfix env fut (past ++ [ev]) _ _ (i + 1) (by simpa using hdom) h2 h4

theorem dinvO_init (c : Cfg) (now : Nat) : DInvO c [] (SpecSt.init now) (init c now) := by
  refine ⟨?_, ?_, ?_, ?_⟩
  · intro k it h; simp [init, Store.get] at h
  · intro k it h; simp [init, Store.get] at h
  · intro k it h; simp [init, Store.get] at h
  · intro te h; simp [SpecSt.init] at h

end Dtn7.Node
