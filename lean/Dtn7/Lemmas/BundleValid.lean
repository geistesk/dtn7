import Dtn7.Model.Bundle
import Dtn7.Model.BundleSpec
import Dtn7.Lemmas.Eid

/-!
`checkValid` (the model of `Bundle.CheckValid`) implies the Spec predicate `WellFormed`, rule by rule.
-/
namespace Dtn7.Bundle.Lemmas
open Dtn7.Cbor Dtn7.Eid Dtn7.Bundle Dtn7.Eid.Lemmas

theorem dupFree_sound (seen l : List Nat) (h : dupFree seen l = true) :
    l.Nodup ∧ ∀ x ∈ l, x ∉ seen := by
  induction l generalizing seen with
  | nil => simp
  | cons x xs ih =>
    simp only [dupFree, Bool.and_eq_true, Bool.not_eq_true', List.contains_eq_mem,
      decide_eq_false_iff_not] at h
    obtain ⟨hx, hrest⟩ := h
    obtain ⟨hnd, hns⟩ := ih (x :: seen) hrest
    refine ⟨List.nodup_cons.mpr ⟨fun hmem => ?_, hnd⟩, ?_⟩
    · exact hns x hmem (List.mem_cons_self ..)
    · intro y hy
      rcases List.mem_cons.mp hy with rfl | hy
      · exact hx
      · exact fun hys => hns y hy (List.mem_cons_of_mem _ hys)

theorem dupFree_nodup (l : List Nat) (h : dupFree [] l = true) : l.Nodup := (dupFree_sound [] l h).1

/-! ### payload block: last, hence present, hence exactly one when the types are unique -/

theorem lastIsPayload_getLast (bs : List Canonical) (h : lastIsPayload bs = true) :
    bs.getLast?.map isPayload = some true := by
  induction bs with
  | nil => simp [lastIsPayload] at h
  | cons c cs ih =>
    cases cs with
    | nil =>
      simp only [lastIsPayload] at h
      simp only [List.getLast?_singleton, Option.map_some, isPayload]
      exact congrArg some h
    | cons d ds =>
      simp only [lastIsPayload] at h
      rw [List.getLast?_cons_cons]
      exact ih h

theorem lastIsPayload_mem (bs : List Canonical) (h : lastIsPayload bs = true) :
    ∃ c ∈ bs, c.typeCode = tPayload := by
  have hl := lastIsPayload_getLast bs h
  cases hg : bs.getLast? with
  | none => rw [hg] at hl; cases hl
  | some c =>
    rw [hg] at hl
    exact ⟨c, List.mem_of_getLast? hg, by simpa [isPayload, tPayload] using hl⟩

/-- In a list with pairwise different type codes that contains a payload block, exactly one block
is a payload block. -/
theorem one_payload (bs : List Canonical) (hnd : (bs.map Canonical.typeCode).Nodup)
    (hex : ∃ c ∈ bs, c.typeCode = tPayload) : (bs.filter isPayload).length = 1 := by
  induction bs with
  | nil => obtain ⟨c, hc, _⟩ := hex; simp at hc
  | cons c cs ih =>
    simp only [List.map_cons, List.nodup_cons] at hnd
    obtain ⟨hnotin, hnd'⟩ := hnd
    by_cases hc : c.typeCode = tPayload
    · -- no other payload block in the tail
      have hnone : cs.filter isPayload = [] := by
        rw [List.filter_eq_nil_iff]
        intro d hd hp
        simp only [isPayload, beq_iff_eq] at hp
        apply hnotin
        rw [List.mem_map]
        exact ⟨d, hd, by rw [hp, hc]; rfl⟩
      have hp : isPayload c = true := by simp [isPayload, hc, tPayload]
      simp [hp, hnone]
    · have hp : isPayload c = false := by
        simp only [isPayload, beq_eq_false_iff_ne, ne_eq]; exact hc
      simp only [List.filter_cons, hp, Bool.false_eq_true, ↓reduceIte]
      apply ih hnd'
      obtain ⟨d, hd, hdp⟩ := hex
      rcases List.mem_cons.mp hd with rfl | hd
      · exact absurd hdp hc
      · exact ⟨d, hd, hdp⟩

theorem findAge_some (bs : List Canonical) (a : Nat) (h : findAge bs = some a) :
    ∃ c ∈ bs, c.value = .age a := by
  induction bs with
  | nil => simp [findAge] at h
  | cons c cs ih =>
    simp only [findAge] at h
    split at h
    · cases hv : c.value with
      | age ms =>
        rw [hv] at h
        simp only [Option.some.injEq] at h
        exact ⟨c, List.mem_cons_self .., by rw [hv, h]⟩
      | _ => rw [hv] at h; simp at h
    · obtain ⟨x, hx, hv⟩ := ih h
      exact ⟨x, List.mem_cons_of_mem _ hx, hv⟩

theorem toI64_le (n : Nat) : toI64 n ≤ (n : Int) := by
  unfold toI64
  have h1 : ((n % 2 ^ 64 : Nat) : Int) ≤ (n : Int) := Int.ofNat_le.mpr (Nat.mod_le _ _)
  split <;> omega

/-- `int64` wrap-around stays below `2^63`, and does not increase a value that is not below `-2^63`. -/
theorem wrapI64_spec (x : Int) : wrapI64 x < 2 ^ 63 ∧ (-2 ^ 63 ≤ x → wrapI64 x ≤ x) := by
  unfold wrapI64
  split <;> omega

/-- The instant computed by the code (with all its `int64` wrap-arounds) never lies after the true
`creation time + lifetime`. -/
theorem expiryNs_le (t l : Nat) :
    expiryNs t l ≤ (((t : Int) + ms1970To2k) + (l : Int)) * 1000000 := by
  unfold expiryNs
  have ht := toI64_le t
  have hl := toI64_le l
  have h1 : wrapI64 (toI64 t + ms1970To2k) ≤ (t : Int) + ms1970To2k := by
    have := (wrapI64_spec (toI64 t + ms1970To2k)).2 (by unfold toI64 ms1970To2k; split <;> omega)
    omega
  have h2 : wrapI64 (toI64 l * 1000000) ≤ (l : Int) * 1000000 := by
    by_cases hneg : l % 2 ^ 64 < 2 ^ 63
    · have := (wrapI64_spec (toI64 l * 1000000)).2 (by unfold toI64; rw [if_pos hneg]; omega)
      omega
    · -- `int64(l)` is negative, so `l ≥ 2^63`: already `l · 10^6` exceeds every `int64`, whatever the product wraps to
      have := (wrapI64_spec (toI64 l * 1000000)).1
      have : l % 2 ^ 64 ≤ l := Nat.mod_le _ _
      omega
  omega

theorem has_eq (f k : Nat) : has f k = f.testBit k := rfl

theorem statusRequested_false (f : Nat) (h : statusRequested f = false) : ¬ requestsStatus f := by
  unfold statusRequested at h
  simp only [Bool.or_eq_false_iff, has_eq] at h
  unfold requestsStatus
  simp only [bSrReception, bSrForward, bSrDelivery, bSrDeletion] at h
  rintro (h1 | h1 | h1 | h1) <;> simp_all

theorem valueCheck_eids (strict : Bool) (v : BlockValue) (h : v.checkValid strict = true) :
    valueEidsWf v := by
  cases v <;> simp only [valueEidsWf]
  case prevNode e => exact wf_of_valid e h

theorem valueCheck_hop (strict : Bool) (v : BlockValue) (h : v.checkValid strict = true) : hopOk v := by
  cases v <;> simp only [hopOk]
  case hop l c => simpa [BlockValue.checkValid] using h

/-- **`CheckValid` is sound for the rule list of C02.** -/
theorem checkValid_sound (strict : Bool) (now : Nat) (b : Bundle) (h : checkValid strict now b = true) :
    WellFormed now b := by
  unfold checkValid at h
  simp only [Bool.and_eq_true] at h
  obtain ⟨⟨⟨⟨⟨⟨⟨⟨hp, hall⟩, hne⟩, hrep⟩, hnum⟩, htyp⟩, hlast⟩, hzero⟩, hlife⟩ := h
  unfold Primary.checkValid at hp
  simp only [Bool.and_eq_true, beq_iff_eq] at hp
  obtain ⟨⟨⟨⟨⟨hver, hfl⟩, hdst⟩, hsrc⟩, hrpt⟩, hanon⟩ := hp
  unfold bundleFlagsValid at hfl
  simp only [Bool.and_eq_true, Bool.not_eq_true', Bool.and_eq_false_iff, Bool.or_eq_true, has_eq] at hfl
  obtain ⟨hfm, hadm⟩ := hfl
  have hallc : ∀ c ∈ b.blocks, c.value.checkValid strict = true ∧ (c.typeCode = tPayload → c.num = 1) := by
    intro c hc
    have := List.all_eq_true.mp hall c hc
    unfold Canonical.checkValid at this
    simp only [Bool.and_eq_true, Bool.or_eq_true, bne_iff_ne, ne_eq, beq_iff_eq] at this
    exact ⟨this.1, fun hp => this.2.resolve_left fun h => h hp⟩
  have hndT := dupFree_nodup _ htyp
  have hex := lastIsPayload_mem _ hlast
  -- what an anonymous source entails
  have hanon' : b.primary.src = Eid.none →
      b.primary.flags.testBit 2 = true ∧ statusRequested b.primary.flags = false := by
    intro hs
    simp only [hs, bne_self_eq_false, Bool.false_or, Bool.and_eq_true, Bool.not_eq_true', has_eq] at hanon
    exact hanon
  refine
    { version := hver
      onePayload := one_payload _ hndT hex
      payloadNum := fun c hc hpl => (hallc c hc).2 (by simpa [isPayload, tPayload] using hpl)
      payloadLast := lastIsPayload_getLast _ hlast
      uniqueNums := dupFree_nodup _ hnum
      uniqueTypes := hndT
      primaryEids := ⟨wf_of_valid _ hdst, wf_of_valid _ hsrc, wf_of_valid _ hrpt⟩
      blockEids := fun c hc => valueCheck_eids strict _ (hallc c hc).1
      fragVsMnf := ?_
      adminNoStatus := ?_
      anonMnf := fun hs => (hanon' hs).1
      zeroTimeAge := ?_
      hopCount := fun c hc => valueCheck_hop strict _ (hallc c hc).1
      lifetime := ?_ }
  · rintro ⟨h0, h2⟩
    simp only [bIsFragment, bMustNotFragment] at hfm
    rcases hfm with h | h <;> simp_all
  · intro hcase
    have hst : statusRequested b.primary.flags = false := by
      rcases hcase with hadmin | hsrc0
      · simp only [bAdminRecord] at hadm
        rcases hadm with h | h
        · simp_all
        · simpa using h
      · exact (hanon' hsrc0).2
    refine ⟨statusRequested_false _ hst, ?_⟩
    have hcond : (has b.primary.flags bAdminRecord || b.primary.src == Eid.none) = true := by
      rcases hcase with hadmin | hsrc0
      · simp [has_eq, bAdminRecord, hadmin]
      · simp [hsrc0]
    simp only [hcond, Bool.not_true, Bool.false_or] at hrep
    intro c hc
    have := List.all_eq_true.mp hrep c hc
    simpa [has_eq, kStatusReport] using this
  · intro hz
    simp only [hz, beq_self_eq_true, Bool.not_true, Bool.false_or] at hzero
    unfold hasType at hzero
    obtain ⟨c, hc, hct⟩ := List.any_eq_true.mp hzero
    exact ⟨c, hc, by simpa [tAge] using hct⟩
  · simp only [Bool.not_eq_true'] at hlife
    unfold lifetimeExceeded at hlife
    unfold NotExpired
    by_cases hz : b.primary.tsTime = 0
    · simp only [hz, ↓reduceIte] at hlife ⊢
      cases hfa : findAge b.blocks with
      | none => simp [hfa] at hlife
      | some a =>
        simp only [hfa, decide_eq_false_iff_not, Nat.not_lt] at hlife
        obtain ⟨c, hc, hv⟩ := findAge_some _ _ hfa
        exact ⟨c, hc, by rw [hv]; exact hlife⟩
    · simp only [hz, ↓reduceIte, decide_eq_false_iff_not, Int.not_lt] at hlife ⊢
      have hle := expiryNs_le b.primary.tsTime b.primary.lifetime
      unfold nowNs at hlife
      have : ((now : Int) + ms1970To2k) * 1000000 ≤
          (((b.primary.tsTime : Int) + ms1970To2k) + (b.primary.lifetime : Int)) * 1000000 :=
        Int.le_trans hlife hle
      omega

/-- The rule table the drivers evaluate is the Spec predicate. -/
theorem wfRules_iff (now : Nat) (b : Bundle) : (wfRules now b).all (·.2) = true ↔ WellFormed now b := by
  simp only [wfRules, List.all_cons, List.all_nil, Bool.and_true, Bool.and_eq_true, decide_eq_true_eq]
  constructor
  · rintro ⟨h1, h2, h3, h4, h5, h6, h7, h8, h9, h10, h11, h12, h13, h14⟩
    exact ⟨h1, h2, h3, h4, h5, h6, h7, h8, h9, h10, h11, h12, h13, h14⟩
  · rintro ⟨h1, h2, h3, h4, h5, h6, h7, h8, h9, h10, h11, h12, h13, h14⟩
    exact ⟨h1, h2, h3, h4, h5, h6, h7, h8, h9, h10, h11, h12, h13, h14⟩

end Dtn7.Bundle.Lemmas
