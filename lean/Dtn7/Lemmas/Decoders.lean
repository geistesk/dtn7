import Dtn7.Model.Decoders
import Dtn7.Lemmas.CborExtra
import Dtn7.Lemmas.Tcpcl

/-!
Lemmas for `Dtn7.Decoders`: every decoder is `Sound` — it only ever consumes input, every entry it adds
to the allocation log is within `C + K · arrived`, and it never reports exhausted fuel — and the element
decoders of the count-driven loops `Adv`ance (a successful element consumes at least one byte).
-/
namespace Dtn7.Decoders.Lemmas
open Dtn7.Cbor Dtn7.Decoders

structure Sound (x : D α) : Prop where
  rest : ∀ s, (x s).2.rest.length ≤ s.rest.length
  pos : ∀ s, s.pos ≤ (x s).2.pos
  log : ∀ s, LogOk s.log → LogOk (x s).2.log
  nofuel : ∀ s, (x s).1 ≠ .error fuelErr

/-- A successful run consumes at least one byte. -/
def Adv (x : D α) : Prop :=
  ∀ s a s', x s = (.ok a, s') → s'.rest.length < s.rest.length ∧ s.pos < s'.pos

/-- `Sound`, for one run. -/
def SoundAt (s : St) (r : Except Err β × St) : Prop :=
  r.2.rest.length ≤ s.rest.length ∧ s.pos ≤ r.2.pos ∧ (LogOk s.log → LogOk r.2.log) ∧ r.1 ≠ .error fuelErr

theorem sound_of_at {x : D α} (h : ∀ s, SoundAt s (x s)) : Sound x :=
  ⟨fun s => (h s).1, fun s => (h s).2.1, fun s => (h s).2.2.1, fun s => (h s).2.2.2⟩

theorem soundAt_of_sound {x : D α} (h : Sound x) (s : St) : SoundAt s (x s) :=
  ⟨h.rest s, h.pos s, h.log s, h.nofuel s⟩

/-- An error of a sound decoder is passed on unchanged, whatever the result type of the caller. -/
theorem soundAt_of_err {x : D α} (hx : Sound x) {s s' : St} {e : Err} (h : x s = (.error e, s')) :
    SoundAt (β := β) s (.error e, s') := by
  have := soundAt_of_sound hx s
  rw [h] at this
  exact ⟨this.1, this.2.1, this.2.2.1, fun h' => this.2.2.2 (by injection h' with h'; rw [h'])⟩

theorem logOk_nil : LogOk [] := by intro p hp; cases hp

theorem logOk_cons {r a : Nat} {l : Log} (h : r ≤ C + K * a) (hl : LogOk l) : LogOk ((r, a) :: l) := by
  intro p hp
  rcases List.mem_cons.mp hp with hp | hp
  · subst hp; exact h
  · exact hl p hp

theorem sound_pure (a : α) : Sound (D.pure a) :=
  ⟨fun _ => Nat.le_refl _, fun _ => Nat.le_refl _, fun _ h => h, fun _ h => by cases h⟩

theorem sound_fail (e : Err) (he : e ≠ fuelErr) : Sound (fail e : D α) :=
  ⟨fun _ => Nat.le_refl _, fun _ => Nat.le_refl _, fun _ h => h,
   fun _ h => by simp only [fail] at h; exact he (by injection h)⟩

theorem bind_eq (x : D α) (f : α → D β) (s : St) :
    (x >>= f) s = match x s with
      | (.error e, s') => (.error e, s')
      | (.ok a, s') => f a s' := rfl

/-- `bind` when the continuation needs a fact about the value (e.g. a 16 bit field is below 2^16). -/
theorem sound_bind_val {x : D α} {f : α → D β} (P : α → Prop) (hx : Sound x)
    (hv : ∀ s a s', x s = (.ok a, s') → P a) (hf : ∀ a, P a → Sound (f a)) : Sound (x >>= f) := by
  refine sound_of_at fun s => ?_
  rw [bind_eq]
  rcases hxs : x s with ⟨e | a, s'⟩
  · exact soundAt_of_err hx hxs
  · obtain ⟨h1, h2, h3, _⟩ := hxs ▸ soundAt_of_sound hx s
    have hfa := hf a (hv s a s' hxs)
    exact ⟨Nat.le_trans (hfa.rest s') h1, Nat.le_trans h2 (hfa.pos s'), fun hl => hfa.log s' (h3 hl),
      hfa.nofuel s'⟩

theorem sound_bind {x : D α} {f : α → D β} (hx : Sound x) (hf : ∀ a, Sound (f a)) : Sound (x >>= f) :=
  sound_bind_val (fun _ => True) hx (fun _ _ _ _ => trivial) fun a _ => hf a

theorem sound_ite {c : Prop} [Decidable c] {x y : D α} (hx : Sound x) (hy : Sound y) :
    Sound (if c then x else y) := by
  split <;> assumption

theorem adv_bind_left {x : D α} {f : α → D β} (hx : Adv x) (hf : ∀ a, Sound (f a)) : Adv (x >>= f) := by
  intro s b s'' h
  rw [bind_eq] at h
  rcases hxs : x s with ⟨r, s'⟩
  rw [hxs] at h
  cases r with
  | error e => simp at h
  | ok a =>
    obtain ⟨h1, h2⟩ := hx s a s' hxs
    have h3 := (hf a).rest s'
    have h4 := (hf a).pos s'
    simp only at h
    rw [h] at h3 h4
    exact ⟨by simp only at h3; omega, by simp only at h4; omega⟩

theorem fuelErr_ne : (Err.eof ≠ fuelErr) ∧ (Err.flagIndef ≠ fuelErr) ∧ (Err.flagBreak ≠ fuelErr) ∧
    (Err.badAdds ≠ fuelErr) ∧ (Err.wrongMajor ≠ fuelErr) ∧ (Err.tooLong ≠ fuelErr) := by
  refine ⟨?_, ?_, ?_, ?_, ?_, ?_⟩ <;> (intro h; cases h)

theorem other_ne (n : Nat) (h : n ≠ 99) : Err.other n ≠ fuelErr := by
  intro e; unfold fuelErr at e; injection e with e; exact h e

/-- What `head` does to the state: an error leaves it alone, a success only moves forward. -/
theorem head_cases (s : St) :
    (∃ e, e ≠ fuelErr ∧ head s = (.error e, s)) ∨
    (∃ a s', head s = (.ok a, s') ∧ s'.log = s.log ∧ s'.rest.length < s.rest.length ∧ s.pos < s'.pos) := by
  unfold head
  rcases hs : s.rest with _ | ⟨b, rest⟩
  · exact Or.inl ⟨_, by decide, rfl⟩
  · dsimp only
    by_cases h1 : b.toNat = 0x9F
    · rw [if_pos h1]; exact Or.inl ⟨_, by decide, rfl⟩
    rw [if_neg h1]
    by_cases h2 : b.toNat = 0xFF
    · rw [if_pos h2]; exact Or.inl ⟨_, by decide, rfl⟩
    rw [if_neg h2]
    by_cases h3 : b.toNat % 32 ≤ 23
    · rw [if_pos h3]; exact Or.inr ⟨_, _, rfl, rfl, Nat.lt_succ_self _, Nat.lt_succ_self _⟩
    rw [if_neg h3]
    by_cases h4 : b.toNat % 32 ≤ 27
    · rw [if_pos h4]
      by_cases h5 : (List.take (2 ^ (b.toNat % 32 - 24)) rest).length < 2 ^ (b.toNat % 32 - 24)
      · rw [if_pos h5]; exact Or.inl ⟨_, by decide, rfl⟩
      · rw [if_neg h5]
        have hl : 0 < 2 ^ (b.toNat % 32 - 24) := Nat.pow_pos (by decide)
        refine Or.inr ⟨_, _, rfl, rfl, ?_, ?_⟩
        · simp only [List.length_drop, List.length_cons]; omega
        · dsimp only; omega
    · rw [if_neg h4]; exact Or.inl ⟨_, by decide, rfl⟩

theorem sound_head : Sound head := by
  refine sound_of_at fun s => ?_
  rcases head_cases s with ⟨e, he, h⟩ | ⟨a, s', h, h1, h2, h3⟩ <;> rw [h]
  · exact ⟨Nat.le_refl _, Nat.le_refl _, id, fun h' => he (by injection h')⟩
  · exact ⟨Nat.le_of_lt h2, Nat.le_of_lt h3, fun hl => h1 ▸ hl, fun h' => nomatch h'⟩

theorem adv_head : Adv head := by
  intro s a s' h
  rcases head_cases s with ⟨e, _, h'⟩ | ⟨_, _, h', _, h2, h3⟩ <;> rw [h] at h'
  · cases h'
  · cases h'; exact ⟨h2, h3⟩

theorem expect_eq_bind (maj : Nat) :
    expect maj = head >>= fun p => if p.1 = maj then D.pure p.2 else fail .wrongMajor := by
  funext s
  rw [bind_eq]; unfold expect
  rcases head s with ⟨_ | p, s'⟩
  · rfl
  · dsimp only; split <;> rfl

theorem sound_expect (maj : Nat) : Sound (expect maj) :=
  expect_eq_bind maj ▸ sound_bind sound_head fun _ => sound_ite (sound_pure _) (sound_fail _ (by decide))

theorem adv_expect (maj : Nat) : Adv (expect maj) :=
  expect_eq_bind maj ▸ adv_bind_left adv_head fun _ => sound_ite (sound_pure _) (sound_fail _ (by decide))

theorem sound_uint : Sound uint := sound_expect _
theorem sound_arrayLen : Sound arrayLen := sound_expect _
theorem sound_mapLen : Sound mapLen := sound_expect _
theorem adv_arrayLen : Adv arrayLen := adv_expect _

theorem sound_check (c : Bool) (e : Err) (he : e ≠ fuelErr) : Sound (check c e) := by
  unfold check; split
  · exact sound_pure _
  · exact sound_fail e he

theorem sound_byte : Sound byte := by
  refine sound_of_at fun s => ?_
  unfold byte
  rcases hs : s.rest with _ | ⟨b, rest⟩
  · exact ⟨Nat.le_refl _, Nat.le_refl _, id, fun h => nomatch h⟩
  · exact ⟨by rw [hs]; exact Nat.le_succ _, Nat.le_succ _, id, fun h => nomatch h⟩

theorem adv_byte : Adv byte := by
  intro s a s' h
  unfold byte at h
  rcases hs : s.rest with _ | ⟨b, rest⟩
  · rw [hs] at h; simp at h
  · rw [hs] at h
    simp only [Prod.mk.injEq] at h
    rw [← h.2]; simp

theorem boolean_eq_bind :
    boolean = byte >>= fun b => if b / 32 = 7 ∧ b % 32 = 20 then D.pure false
      else if b / 32 = 7 ∧ b % 32 = 21 then D.pure true else fail .wrongMajor := by
  funext s
  rw [bind_eq]; unfold boolean
  rcases byte s with ⟨_ | p, s'⟩
  · rfl
  · dsimp only; split
    · rfl
    · split <;> rfl

theorem sound_boolean : Sound boolean :=
  boolean_eq_bind ▸ sound_bind sound_byte fun _ => sound_ite (sound_pure _) <|
    sound_ite (sound_pure _) (sound_fail _ (by decide))

theorem sound_takeN (n : Nat) : Sound (takeN n) := by
  refine sound_of_at fun s => ?_
  unfold takeN; dsimp only
  by_cases h : (s.rest.take n).length < n
  · rw [if_pos h]; exact ⟨Nat.le_refl _, Nat.le_refl _, id, fun h => nomatch h⟩
  · rw [if_neg h]
    exact ⟨by dsimp only; rw [List.length_drop]; exact Nat.sub_le _ _, Nat.le_add_right _ _, id, fun h => nomatch h⟩

theorem adv_takeN (n : Nat) (hn : 0 < n) : Adv (takeN n) := by
  intro s a s' h
  unfold takeN at h
  simp only at h
  split at h
  · simp at h
  · rename_i hlt
    simp only [Prod.mk.injEq] at h
    rw [← h.2]
    simp only [List.length_take] at hlt
    simp only [List.length_drop]
    omega

theorem be_eq_bind (w : Nat) : be w = takeN w >>= fun t => D.pure (beVal t) := by
  funext s
  rw [bind_eq]; unfold be
  rcases takeN w s with ⟨_ | t, s'⟩ <;> rfl

theorem sound_be (w : Nat) : Sound (be w) := be_eq_bind w ▸ sound_bind (sound_takeN w) fun _ => sound_pure _

theorem adv_be (w : Nat) (hw : 0 < w) : Adv (be w) :=
  be_eq_bind w ▸ adv_bind_left (adv_takeN w hw) fun _ => sound_pure _

/-- `cboring.ReadRawBytes` below the length limit: what is logged does not depend on whether enough bytes
arrive. -/
theorem raw_eq (l : Nat) (s : St) (h : ¬ l > maxInt32) :
    raw l s =
      let t := s.rest.take l
      let e : Nat × Nat := if l ≤ preallocLimit then (l, s.pos) else (2 * t.length + minRead, s.pos + t.length)
      if t.length < l then (.error .eof, { s with log := e :: s.log })
      else (.ok t, { rest := s.rest.drop l, pos := s.pos + l, log := e :: s.log }) := by
  unfold raw
  rw [if_neg h]
  by_cases hp : l ≤ preallocLimit <;> simp only [hp, if_true, if_false]

/-- The pre-allocation is at most 1 MiB; beyond that the buffer follows the bytes that arrive. -/
theorem sound_raw (l : Nat) : Sound (raw l) := by
  have hent : ∀ s : St, LogOk s.log → LogOk ((if l ≤ preallocLimit then (l, s.pos)
      else (2 * (s.rest.take l).length + minRead, s.pos + (s.rest.take l).length)) :: s.log) := by
    intro s hl
    by_cases hp : l ≤ preallocLimit
    · rw [if_pos hp]; exact logOk_cons (by unfold C; omega) hl
    · rw [if_neg hp]; exact logOk_cons (by unfold C K blockSize; omega) hl
  refine sound_of_at fun s => ?_
  by_cases h : l > maxInt32
  · unfold raw; rw [if_pos h]
    exact ⟨Nat.le_refl _, Nat.le_refl _, id, fun h => nomatch h⟩
  · rw [raw_eq l s h]
    dsimp only
    by_cases ht : (s.rest.take l).length < l
    · rw [if_pos ht]; exact ⟨Nat.le_refl _, Nat.le_refl _, hent s, fun h => nomatch h⟩
    · rw [if_neg ht]
      exact ⟨by dsimp only; rw [List.length_drop]; exact Nat.sub_le _ _, Nat.le_add_right _ _, hent s,
        fun h => nomatch h⟩

theorem sound_discard (l : Nat) : Sound (discard l) := by
  refine sound_of_at fun s => ?_
  unfold discard
  by_cases h0 : l > 2 ^ 63 - 1
  · rw [if_pos h0]; exact ⟨Nat.le_refl _, Nat.le_refl _, id, fun h => nomatch h⟩
  rw [if_neg h0]; dsimp only
  by_cases h : (s.rest.take l).length < l
  · rw [if_pos h]; exact ⟨Nat.le_refl _, Nat.le_refl _, id, fun h => nomatch h⟩
  · rw [if_neg h]
    exact ⟨by dsimp only; rw [List.length_drop]; exact Nat.sub_le _ _, Nat.le_add_right _ _, id, fun h => nomatch h⟩

/-- One iteration: the element took at least one byte, so `n + 1` elements fit below the new position and the
append that doubles the backing array to `2·esz·(n+1)` is within `K ·` arrived. -/
theorem soundAt_push {elem : D α} {esz : Nat} (he : Sound elem) (ha : Adv elem) (hk : 2 * esz ≤ K)
    {s s' : St} {x : α} {n : Nat} (hx : elem s = (.ok x, s')) (hn : n ≤ s.pos)
    {r : Except Err β × St} (hr : SoundAt { s' with log := (2 * esz * (n + 1), s'.pos) :: s'.log } r) :
    SoundAt s r := by
  obtain ⟨a1, a2⟩ := ha s x s' hx
  have h3 := he.log s; rw [hx] at h3
  obtain ⟨i1, i2, i3, i4⟩ := hr
  have : 2 * esz * (n + 1) ≤ K * s'.pos := Nat.mul_le_mul hk (by omega)
  exact ⟨by dsimp only at i1; omega, by dsimp only at i2; omega,
    fun hl => i3 (logOk_cons (by omega) (h3 hl)), i4⟩

theorem loopN_spec (elem : D α) (esz : Nat) (he : Sound elem) (ha : Adv elem) (hk : 2 * esz ≤ K) :
    ∀ (f n : Nat) (acc : List α) (s : St), s.rest.length + 1 ≤ f → acc.length ≤ s.pos →
      SoundAt s (loopN elem esz f n acc s) := by
  intro f
  induction f with
  | zero => intro n acc s hf; omega
  | succ f ih =>
    intro n acc s hf hacc
    cases n with
    | zero => exact ⟨Nat.le_refl _, Nat.le_refl _, id, fun h => nomatch h⟩
    | succ n =>
      simp only [loopN]
      rcases hxs : elem s with ⟨e | x, s'⟩
      · exact soundAt_of_err he hxs
      · obtain ⟨a1, a2⟩ := ha s x s' hxs
        exact soundAt_push he ha hk hxs hacc
          (ih n (x :: acc) _ (by dsimp only; omega) (by rw [List.length_cons]; dsimp only; omega))

theorem loopBreak_spec (elem : D α) (esz : Nat) (he : Sound elem) (ha : Adv elem) (hk : 2 * esz ≤ K) :
    ∀ (f : Nat) (acc : List α) (s : St), s.rest.length + 1 ≤ f → acc.length ≤ s.pos →
      SoundAt s (loopBreak elem esz f acc s) := by
  intro f
  induction f with
  | zero => intro acc s hf; omega
  | succ f ih =>
    intro acc s hf hacc
    simp only [loopBreak]
    rcases hxs : elem s with ⟨e | x, s'⟩
    · have h := soundAt_of_err (β := List α) he hxs
      dsimp only
      by_cases hb : e = .flagBreak
      · rw [if_pos hb]; exact ⟨h.1, h.2.1, h.2.2.1, fun h => nomatch h⟩
      · rw [if_neg hb]; exact h
    · obtain ⟨a1, a2⟩ := ha s x s' hxs
      exact soundAt_push he ha hk hxs hacc
        (ih (x :: acc) _ (by dsimp only; omega) (by rw [List.length_cons]; dsimp only; omega))

theorem sound_repeatN (elem : D α) (esz n : Nat) (he : Sound elem) (ha : Adv elem) (hk : 2 * esz ≤ K) :
    Sound (repeatN elem esz n) :=
  sound_of_at fun s => loopN_spec elem esz he ha hk (s.rest.length + 1) n [] s (Nat.le_refl _) (Nat.zero_le _)

theorem sound_untilBreak (elem : D α) (esz : Nat) (he : Sound elem) (ha : Adv elem) (hk : 2 * esz ≤ K) :
    Sound (untilBreak elem esz) :=
  sound_of_at fun s => loopBreak_spec elem esz he ha hk (s.rest.length + 1) [] s (Nat.le_refl _) (Nat.zero_le _)

theorem takeN_len (n : Nat) (s : St) (t : Bytes) (s' : St) (h : takeN n s = (.ok t, s')) : t.length = n := by
  unfold takeN at h
  simp only at h
  split at h
  · simp at h
  · rename_i hlt
    simp only [Prod.mk.injEq, Except.ok.injEq] at h
    rw [← h.1]
    have := List.length_take_le n s.rest
    omega

/-- A `w` byte big-endian field is below `256^w` (the type bound of `uint16`, `uint32`, …). -/
theorem be_lt (w : Nat) (s : St) (a : Nat) (s' : St) (h : be w s = (.ok a, s')) : a < 256 ^ w := by
  unfold be at h
  rcases hxs : takeN w s with ⟨r, s1⟩
  rw [hxs] at h
  cases r with
  | error e => simp at h
  | ok t =>
    simp only [Prod.mk.injEq, Except.ok.injEq] at h
    rw [← h.1, ← takeN_len w s t s1 hxs]
    exact Cbor.Lemmas.beVal_lt t

theorem sound_logAlloc (r : Nat) (hr : r ≤ C) : Sound (logAlloc r) := by
  refine ⟨fun s => Nat.le_refl _, fun s => Nat.le_refl _, fun s hl => ?_, fun s h => by simp [logAlloc] at h⟩
  exact logOk_cons (by omega) hl

/-- A decoder that begins with an advancing one is sound and advances: the shape of every loop element. -/
theorem elem_bind {x : D α} {f : α → D β} (hs : Sound x) (ha : Adv x) (hf : ∀ a, Sound (f a)) :
    Sound (x >>= f) ∧ Adv (x >>= f) :=
  ⟨sound_bind hs hf, adv_bind_left ha hf⟩

theorem sound_dtnSsp : Sound dtnSsp :=
  sound_bind sound_head fun _ => sound_ite (sound_pure _) <| sound_ite
    (sound_bind (sound_raw _) fun _ => sound_ite (sound_fail _ (by decide)) <| by
      split
      · exact sound_pure _
      · exact sound_fail _ (by decide))
    (sound_fail _ (by decide))

theorem sound_ipnSsp : Sound ipnSsp :=
  sound_bind sound_arrayLen fun _ => sound_bind (sound_check _ _ (by decide)) fun _ =>
  sound_bind sound_uint fun _ => sound_bind sound_uint fun _ => sound_pure _

theorem eid_elem : Sound eid ∧ Adv eid :=
  elem_bind sound_arrayLen adv_arrayLen fun _ => sound_bind (sound_check _ _ (by decide)) fun _ =>
  sound_bind sound_uint fun _ => sound_ite sound_dtnSsp <| sound_ite sound_ipnSsp (sound_fail _ (by decide))

theorem sound_eid : Sound eid := eid_elem.1

theorem statusItem_elem : Sound statusItem ∧ Adv statusItem :=
  elem_bind sound_arrayLen adv_arrayLen fun _ => sound_bind (sound_check _ _ (by decide)) fun _ =>
  sound_bind sound_boolean fun _ => sound_ite (sound_bind sound_uint fun _ => sound_pure _) (sound_pure _)

theorem sound_timestamp : Sound timestamp :=
  sound_bind sound_arrayLen fun _ => sound_bind (sound_check _ _ (by decide)) fun _ =>
  sound_bind sound_uint fun _ => sound_bind sound_uint fun _ => sound_pure _

theorem sound_statusReport : Sound statusReport :=
  sound_bind sound_arrayLen fun _ => sound_bind (sound_check _ _ (by decide)) fun _ =>
  sound_bind sound_arrayLen fun _ =>
  sound_bind (sound_repeatN _ _ _ statusItem_elem.1 statusItem_elem.2 (by decide)) fun _ =>
  sound_bind sound_uint fun _ => sound_bind sound_eid fun _ => sound_bind sound_timestamp fun _ =>
  sound_ite (sound_bind sound_uint fun _ => sound_bind sound_uint fun _ => sound_pure _) (sound_pure _)

theorem sound_adminRecord : Sound adminRecord :=
  sound_bind sound_arrayLen fun _ => sound_bind (sound_check _ _ (by decide)) fun _ =>
  sound_bind sound_uint fun _ => sound_bind (sound_check _ _ (by decide)) fun _ => sound_statusReport

theorem announcement_elem : Sound announcement ∧ Adv announcement :=
  elem_bind sound_arrayLen adv_arrayLen fun _ => sound_bind (sound_check _ _ (by decide)) fun _ =>
  sound_bind sound_uint fun _ => sound_bind (sound_check _ _ (by decide)) fun _ =>
  sound_bind sound_eid fun _ => sound_bind sound_uint fun _ => sound_pure _

theorem sound_announcements : Sound announcements :=
  sound_bind sound_arrayLen fun _ =>
  sound_repeatN _ _ _ announcement_elem.1 announcement_elem.2 (by decide)

theorem dtlsrEntry_elem : Sound dtlsrEntry ∧ Adv dtlsrEntry :=
  elem_bind eid_elem.1 eid_elem.2 fun _ => sound_bind sound_uint fun _ => sound_pure _

theorem prophetEntry_elem : Sound prophetEntry ∧ Adv prophetEntry :=
  elem_bind eid_elem.1 eid_elem.2 fun _ => sound_bind (sound_expect _) fun _ => sound_pure _

theorem sound_dtlsr : Sound dtlsr :=
  sound_bind sound_arrayLen fun _ => sound_bind (sound_check _ _ (by decide)) fun _ =>
  sound_bind sound_eid fun _ => sound_bind sound_uint fun _ => sound_bind sound_mapLen fun _ =>
  sound_bind (sound_repeatN _ _ _ dtlsrEntry_elem.1 dtlsrEntry_elem.2 (by decide)) fun _ => sound_pure _

theorem sound_prophet : Sound prophet :=
  sound_bind sound_mapLen fun _ =>
  sound_bind (sound_repeatN _ _ _ prophetEntry_elem.1 prophetEntry_elem.2 (by decide)) fun _ => sound_pure _

/-- The block loop of a bundle, for ANY primary/canonical block decoder that is itself sound and whose
blocks consume input. -/
theorem sound_bundleBlocks {primary : D β} {block : D α} (hp : Sound primary) (hb : Sound block) (ha : Adv block) :
    Sound (bundleBlocks primary block) :=
  sound_bind sound_byte fun _ => sound_bind (sound_check _ _ (by decide)) fun _ =>
  sound_bind hp fun _ => sound_bind (sound_untilBreak _ _ hb ha (by decide)) fun _ => sound_pure _

theorem sound_xferSegment : Sound xferSegment :=
  sound_bind (sound_be 1) fun _ => sound_bind (sound_check _ _ (by decide)) fun _ =>
  sound_bind (sound_be 1) fun _ => sound_bind (sound_be 8) fun _ => sound_bind (sound_be 4) fun _ =>
  sound_bind (sound_discard _) fun _ => sound_bind (sound_be 8) fun _ =>
  sound_ite (sound_bind (sound_raw _) fun _ => sound_pure _) (sound_pure _)

/-- The node ID buffer is sized by a 16 bit field: `be_lt` bounds it below `C`. -/
theorem sound_sessInit : Sound sessInit :=
  sound_bind (sound_be 1) fun _ => sound_bind (sound_check _ _ (by decide)) fun _ =>
  sound_bind (sound_be 2) fun _ => sound_bind (sound_be 8) fun _ => sound_bind (sound_be 8) fun _ =>
  sound_bind_val (· < 256 ^ 2) (sound_be 2) (be_lt 2) fun idLen hid =>
  sound_bind (sound_logAlloc idLen (by unfold C preallocLimit minRead; omega)) fun _ =>
  sound_bind (sound_takeN _) fun _ => sound_bind (sound_be 4) fun _ =>
  sound_bind (sound_discard _) fun _ => sound_pure _

/-- `head` is `Cbor.decHead` (the shared model of `cboring.ReadMajors`) on the state's input: same
result, same unconsumed rest. -/
theorem head_decHead (s : St) :
    (head s).1 = (decHead s.rest).map (fun r => (r.1, r.2.1)) ∧
    (∀ m n r, decHead s.rest = .ok (m, n, r) → (head s).2.rest = r) := by
  unfold head decHead
  rcases s.rest with _ | ⟨b, rest⟩
  · simp [Except.map]
  · by_cases h1 : b.toNat = 0x9F
    · simp [h1, Except.map]
    · by_cases h2 : b.toNat = 0xFF
      · simp [h2, Except.map]
      · by_cases h3 : b.toNat % 32 ≤ 23
        · simp [h1, h2, h3, Except.map]
        · by_cases h4 : b.toNat % 32 ≤ 27
          · have hlen : (min (2 ^ (b.toNat % 32 - 24)) rest.length < 2 ^ (b.toNat % 32 - 24)) ↔
                (rest.length < 2 ^ (b.toNat % 32 - 24)) := by omega
            by_cases h : rest.length < 2 ^ (b.toNat % 32 - 24)
            · simp [h1, h2, h3, h4, h, hlen.mpr h, Except.map]
            · have h' : ¬ min (2 ^ (b.toNat % 32 - 24)) rest.length < 2 ^ (b.toNat % 32 - 24) :=
                fun x => h (hlen.mp x)
              simp [h1, h2, h3, h4, h, h', Except.map]
          · simp [h1, h2, h3, h4, Except.map]

/-- Zero is refused and the rest is clamped: what `negotiate` and `segmentBuffer` both do. -/
theorem clamp_ok {e : Err} {v m : Nat}
    (h : (if v = 0 then Except.error e else Except.ok (min v maxSegmentMtu)) = .ok m) :
    1 ≤ m ∧ m ≤ maxSegmentMtu := by
  by_cases h0 : v = 0
  · rw [if_pos h0] at h; cases h
  · rw [if_neg h0] at h; cases h
    exact ⟨Nat.le_min.mpr ⟨Nat.pos_of_ne_zero h0, by decide⟩, Nat.min_le_right _ _⟩

open Dtn7.Tcpcl in
/-- One `NextSegment` with a segment size ≥ 1 that yields a segment takes at least one byte and at most
`mtu` bytes from the stream. -/
theorem nextSegment_progress (la st : Bool) (rest : List UInt8) (mtu : Nat) (hm : 1 ≤ mtu) (sg : Seg)
    (r : List UInt8) (h : nextSegment la st rest mtu = .seg sg r) :
    r.length < rest.length ∧ 1 ≤ sg.data.length ∧ sg.data.length ≤ mtu := by
  obtain ⟨hne, hd, rfl, _⟩ := Tcpcl.Lemmas.nextSegment_seg la st rest mtu sg r h
  have := List.length_pos_iff.mpr hne
  rw [hd, List.length_take, List.length_drop]; omega

end Dtn7.Decoders.Lemmas
