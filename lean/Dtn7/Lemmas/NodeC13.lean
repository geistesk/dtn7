/-
C13: what the replicating algorithms choose and how they keep their books.
Function-level facts about `SenderForBundle` / `ReportFailure` / the sensor-mule filter for every
algorithm and any number of peers.
-/
import Dtn7.Lemmas.Node
import Dtn7.Model.NodeSpec

namespace Dtn7.Node

/-- The sent list the configured algorithm keeps for the bundle with this key (store property or
in-memory spray bookkeeping); `[]` if there is none. -/
def sentL (n : Node) (k : Key) : List Eid :=
  match n.cfg.algo with
  | .epidemic => ((n.store.get k).map (·.rt.sentE)).getD []
  | .prophet => ((n.store.get k).map (·.rt.sentP)).getD []
  | .dtlsr => ((n.store.get k).map (·.rt.sentD)).getD []
  | .spray => ((lookupMeta n.spray k).map (·.sent)).getD []
  | .binarySpray => ((lookupMeta n.spray k).map (·.sent)).getD []

/-! ## filterCLAs / sprayPick -/

/-- `ps` is a choice against the sent list `sent` that leaves `sent'`: nobody listed is chosen, no endpoint
ID twice, and the chosen ones are appended. -/
structure Pick (sent : List Eid) (ps : List Peer) (sent' : List Eid) : Prop where
  fresh : ∀ p ∈ ps, sent.contains p.eid = false
  nodup : (ps.map (·.eid)).Nodup
  app : sent' = sent ++ ps.map (·.eid)

theorem Pick.nil (sent : List Eid) : Pick sent [] sent :=
  ⟨fun _ h => (nomatch h), List.nodup_nil, (List.append_nil sent).symm⟩

theorem Pick.cons {sent : List Eid} {q : Peer} {ps : List Peer} {sent' : List Eid}
    (hq : ¬ sent.contains q.eid = true) (h : Pick (sent ++ [q.eid]) ps sent') : Pick sent (q :: ps) sent' := by
  have hfr : ∀ p ∈ ps, p.eid ∉ sent ∧ p.eid ≠ q.eid := by
    intro p hp
    simpa [not_or] using h.fresh p hp
  refine ⟨?_, ?_, ?_⟩
  · intro p hp
    rcases List.mem_cons.mp hp with rfl | hp
    · simpa using hq
    · simpa using (hfr p hp).1
  · simp only [List.map_cons, List.nodup_cons]
    refine ⟨fun hm => ?_, h.nodup⟩
    rcases List.mem_map.mp hm with ⟨p, hp, hpe⟩
    exact (hfr p hp).2 hpe
  · rw [h.app]; simp

theorem filterCLAs_pick : ∀ (sent : List Eid) (ps : List Peer),
    Pick sent (filterCLAs sent ps).1 (filterCLAs sent ps).2
  | sent, [] => Pick.nil sent
  | sent, q :: ps => by
    simp only [filterCLAs]
    split
    · exact filterCLAs_pick sent ps
    · rename_i hq
      exact (filterCLAs_pick (sent ++ [q.eid]) ps).cons hq

theorem sprayPick_pick : ∀ (m : SprayMeta) (ps : List Peer),
    Pick m.sent (sprayPick m ps).1 (sprayPick m ps).2.sent
  | m, [] => Pick.nil m.sent
  | m, q :: ps => by
    simp only [sprayPick]
    split
    · exact Pick.nil m.sent
    · split
      · exact sprayPick_pick m ps
      · rename_i hq
        exact (sprayPick_pick { sent := m.sent ++ [q.eid], copies := m.copies - 1 } ps).cons hq

/-- The spray budget: at most `copies - 1` peers are picked. -/
theorem sprayPick_budget : ∀ (m : SprayMeta) (ps : List Peer),
    (sprayPick m ps).1.length + 1 ≤ max m.copies 1 ∧
    (sprayPick m ps).2.copies + (sprayPick m ps).1.length = m.copies
  | m, [] => by simp [sprayPick]; omega
  | m, q :: ps => by
    simp only [sprayPick]
    split
    · simp; omega
    · split
      · exact sprayPick_budget m ps
      · have := sprayPick_budget { sent := m.sent ++ [q.eid], copies := m.copies - 1 } ps
        simp only [List.length_cons] at this ⊢
        omega

/-! ## The algorithms' choice -/

/-- The sent list the configured algorithm keeps for this key, if it keeps one right now (store-kept lists:
the item exists; spray variants: the in-memory bookkeeping exists). -/
def book (n : Node) (k : Key) : Option (List Eid) :=
  match n.cfg.algo with
  | .epidemic => (n.store.get k).map (·.rt.sentE)
  | .prophet => (n.store.get k).map (·.rt.sentP)
  | .dtlsr => (n.store.get k).map (·.rt.sentD)
  | .spray => (lookupMeta n.spray k).map (·.sent)
  | .binarySpray => (lookupMeta n.spray k).map (·.sent)

theorem sentL_eq_book (n : Node) (k : Key) : sentL n k = (book n k).getD [] := by
  unfold sentL book; cases n.cfg.algo <;> rfl

/-- **What `SenderForBundle` does to the sent list** (all algorithms, any number of peers): without a list
nobody is chosen and none appears; with one, the choice is a `Pick` against it. For DTLSR this is about
broadcast bundles (`replicates`). -/
theorem innerSenders_book (env : Env) (d : Desc) (b : Bundle) (n : Node) (hrep : replicates n.cfg b = true) :
    (book n d.key = none ∧ (innerSenders env d b n).1 = [] ∧ book (innerSenders env d b n).2.2.2 d.key = none) ∨
    ∃ l l', book n d.key = some l ∧ book (innerSenders env d b n).2.2.2 d.key = some l' ∧
      Pick l (innerSenders env d b n).1 l' := by
  have hcfg : (innerSenders env d b n).2.2.2.cfg = n.cfg := (innerSenders_picks env d b n).rt.only.env.cfg
  unfold book
  rw [hcfg]
  unfold innerSenders
  cases ha : n.cfg.algo <;> dsimp only
  · cases hg : n.store.get d.key with
    | none => exact Or.inl ⟨rfl, rfl, congrArg (Option.map _) hg⟩
    | some it => exact Or.inr ⟨_, _, rfl, by rw [modRt_get, hg]; rfl, filterCLAs_pick _ _⟩
  · cases hg : lookupMeta n.spray d.key with
    | none => exact Or.inl ⟨rfl, rfl, congrArg (Option.map _) hg⟩
    | some m =>
      dsimp only
      split
      · exact Or.inr ⟨_, _, rfl, by rw [hg]; rfl, Pick.nil _⟩
      · exact Or.inr ⟨_, _, rfl, by rw [lookupMeta_setMeta_eq]; rfl, sprayPick_pick _ _⟩
  · cases hg : lookupMeta n.spray d.key with
    | none => exact Or.inl ⟨rfl, rfl, congrArg (Option.map _) hg⟩
    | some m =>
      dsimp only
      split
      · exact Or.inr ⟨_, _, rfl, by rw [hg]; rfl, Pick.nil _⟩
      · cases hf : (senders env n d.key).find? (fun p => !m.sent.contains p.eid) with
        | none => exact Or.inr ⟨_, _, rfl, by rw [lookupMeta_setMeta_eq]; rfl, Pick.nil _⟩
        | some p =>
          refine Or.inr ⟨_, _, rfl, by rw [lookupMeta_setMeta_eq]; rfl, ?_, by simp, rfl⟩
          intro q hq
          cases List.mem_singleton.mp hq
          simpa using List.find?_some hf
  · cases hg : n.store.get d.key with
    | none => exact Or.inl ⟨rfl, rfl, congrArg (Option.map _) hg⟩
    | some it =>
      dsimp only
      split
      · exact Or.inr ⟨_, _, rfl, by rw [hg]; rfl, Pick.nil _⟩
      · exact Or.inr ⟨_, _, rfl, by rw [modRt_get, hg]; rfl, filterCLAs_pick _ _⟩
  · have hb : b.dst = n.cfg.bcast := by
      unfold replicates at hrep
      simpa [ha] using hrep
    rw [if_pos hb]
    cases hg : n.store.get d.key with
    | none => exact Or.inl ⟨rfl, rfl, congrArg (Option.map _) hg⟩
    | some it => exact Or.inr ⟨_, _, rfl, by rw [modRt_get, hg]; rfl, filterCLAs_pick _ _⟩

theorem innerSenders_spec (env : Env) (d : Desc) (b : Bundle) (n : Node) (hrep : replicates n.cfg b = true) :
    (∀ p ∈ (innerSenders env d b n).1, (sentL n d.key).contains p.eid = false) ∧
    sentL (innerSenders env d b n).2.2.2 d.key = sentL n d.key ++ (innerSenders env d b n).1.map (·.eid) := by
  simp only [sentL_eq_book]
  rcases innerSenders_book env d b n hrep with ⟨h0, h1, h2⟩ | ⟨l, l', h0, h1, hp⟩
  · rw [h0, h1, h2]; exact ⟨fun _ h => (nomatch h), rfl⟩
  · rw [h0, h1]; exact ⟨hp.fresh, hp.app⟩

theorem innerSenders_nodup (env : Env) (d : Desc) (b : Bundle) (n : Node) (hrep : replicates n.cfg b = true) :
    ((innerSenders env d b n).1.map (·.eid)).Nodup := by
  rcases innerSenders_book env d b n hrep with ⟨_, h1, _⟩ | ⟨_, _, _, _, hp⟩
  · rw [h1]; exact List.nodup_nil
  · exact hp.nodup

/-- A DTLSR unicast bundle is not booked: the state stays as it is. -/
theorem innerSenders_unicast (env : Env) (d : Desc) (b : Bundle) (n : Node) (hrep : ¬ replicates n.cfg b = true) :
    (innerSenders env d b n).2.2.2 = n := by
  have ha : n.cfg.algo = .dtlsr := by
    unfold replicates at hrep
    cases ha : n.cfg.algo <;> simp [ha] at hrep
    rfl
  have hb : ¬ b.dst = n.cfg.bcast := by
    unfold replicates at hrep
    simpa [ha] using hrep
  unfold innerSenders
  simp only [ha, hb, if_false]
  cases (senders env n d.key).find? (fun p => env.cand p.eid b) <;> rfl

/-! ## Failure reports -/

theorem eraseFirst_append_self (e : Eid) (l₁ l₂ : List Eid) (h1 : e ∉ l₁) :
    eraseFirst e (l₁ ++ e :: l₂) = l₁ ++ l₂ := by
  rw [eraseFirst_eq_erase, List.erase_append_right _ h1, List.erase_cons_head]

/-- Is `ReportFailure` a no-op for this descriptor? (binary spray needs its block in the in-memory
bundle; DTLSR only books broadcast bundles.) -/
def rfActive (d : Desc) (n : Node) : Bool :=
  match n.cfg.algo with
  | .binarySpray => (d.bndl.bind (·.bsCopies)).isSome
  | .dtlsr => n.cfg.dtlsrFail && (match d.bndl with | some b => decide (b.dst = n.cfg.bcast) | none => false)
  | _ => true

theorem reportFailure_cfg (d : Desc) (p : Peer) (n : Node) : (reportFailure d p n).cfg = n.cfg :=
  (reportFailure_rt d p n).only.env.cfg

/-- **`ReportFailure`** (all algorithms): the sent list loses the first occurrence of exactly that peer —
or, where the report is a no-op, stays as it is; no list appears or disappears. -/
theorem reportFailure_book (d : Desc) (p : Peer) (n : Node) :
    book (reportFailure d p n) d.key =
      (book n d.key).map fun l => if rfActive d n then eraseFirst p.eid l else l := by
  unfold book
  rw [reportFailure_cfg]
  unfold reportFailure rfActive
  cases n.cfg.algo <;> dsimp only
  · rw [modRt_get]; cases n.store.get d.key <;> rfl
  · cases hg : lookupMeta n.spray d.key with
    | none => simp [hg]
    | some m => simp [lookupMeta_setMeta_eq]
  · cases d.bndl.bind (·.bsCopies) with
    | none => cases lookupMeta n.spray d.key <;> rfl
    | some c =>
      dsimp only
      cases hg : lookupMeta n.spray d.key with
      | none => simp [hg]
      | some m => simp [lookupMeta_setMeta_eq]
  · rw [modRt_get]; cases n.store.get d.key <;> rfl
  · generalize (n.cfg.dtlsrFail && (match d.bndl with | some b => decide (b.dst = n.cfg.bcast) | none => false)) = cnd
    cases cnd
    · simp only [Bool.false_eq_true, if_false]; cases n.store.get d.key <;> rfl
    · rw [if_pos rfl, modRt_get]; cases n.store.get d.key <;> rfl

theorem reportFailure_sentL (d : Desc) (p : Peer) (n : Node) :
    sentL (reportFailure d p n) d.key =
      if rfActive d n then eraseFirst p.eid (sentL n d.key) else sentL n d.key := by
  rw [sentL_eq_book, sentL_eq_book, reportFailure_book]
  cases book n d.key with
  | none => split <;> rfl
  | some l => rfl

theorem reportFailure_others (d : Desc) (p : Peer) (n : Node) (e : Eid) :
    (e ∈ sentL (reportFailure d p n) d.key → e ∈ sentL n d.key) ∧
    (e ∈ sentL n d.key → e ≠ p.eid → e ∈ sentL (reportFailure d p n) d.key) := by
  rw [reportFailure_sentL]
  split
  · rw [eraseFirst_eq_erase]
    exact ⟨List.mem_of_mem_erase, fun h hne => (List.mem_erase_of_ne hne).mpr h⟩
  · exact ⟨id, fun h _ => h⟩

/-! ## The sensor-mule wrapper -/

theorem muleFilter_cfg (d : Desc) : ∀ (ps : List Peer) (n : Node), (muleFilter d ps n).2.cfg = n.cfg :=
  fun ps n => (muleFilter_rt d ps n).only.env.cfg

/-- **`SensorNetworkMuleRouting.SenderForBundle`** only removes senders — exactly the sensor nodes the
bundle was not received from — and reports every removed sender as a failure to the wrapped algorithm. -/
theorem muleFilter_sound (d : Desc) : ∀ (ps : List Peer) (n : Node),
    (muleFilter d ps n).1 = ps.filter (fun p => !muleDrops n.cfg d p) ∧
    (muleFilter d ps n).2 = (ps.filter (fun p => muleDrops n.cfg d p)).foldr (fun p m => reportFailure d p m) n
  | [], n => by simp [muleFilter]
  | p :: ps, n => by
    have ih := muleFilter_sound d ps n
    simp only [muleFilter]
    by_cases h : muleDrops n.cfg d p = true
    · simp only [h, if_true, List.filter_cons, Bool.not_true, Bool.false_eq_true, if_false, List.foldr_cons]
      exact ⟨ih.1, by rw [ih.2]⟩
    · have h' : muleDrops n.cfg d p = false := eq_false_of_ne_true h
      simp only [h', Bool.false_eq_true, if_false, List.filter_cons, Bool.not_false, if_true]
      exact ⟨by rw [ih.1], ih.2⟩

/-! ## Spray variants after a restart -/

/-- **Without bookkeeping the spray variants choose nobody** (a restart drops `bundleData`). -/
theorem spray_silent (env : Env) (d : Desc) (b : Bundle) (n : Node)
    (ha : n.cfg.algo = .spray ∨ n.cfg.algo = .binarySpray) (hs : lookupMeta n.spray d.key = none) :
    (innerSenders env d b n).1 = [] := by
  unfold innerSenders
  rcases ha with ha | ha <;> simp [ha, hs]

end Dtn7.Node
