/-
C07, histories: the model (`step`, nested MuxAgent / RestAgent / WebSocketAgent state) refines the
flat reference registry (`Reg.step`), and therefore every trace of the model satisfies `histOk` —
`eventsOk` at every operation, the predicate the driver evaluates step by step on the
implementation's traces while it replays `Reg.step`. Core-only.
-/
import Dtn7.Lemmas.Delivery

namespace Dtn7.Delivery.Lemmas

def agentKind : Agent → Kind
  | .ping _ => .ping
  | .mock _ => .mock
  | .rest _ => .rest
  | .ws _ => .ws

theorem agentKind_rest {ag : Agent} (h : agentKind ag = .rest) : ∃ ra, ag = .rest ra := by
  cases ag <;> first | exact ⟨_, rfl⟩ | cases h

theorem agentKind_ws {ag : Agent} (h : agentKind ag = .ws) : ∃ conns, ag = .ws conns := by
  cases ag <;> first | exact ⟨_, rfl⟩ | cases h

/-- The endpoints a recipient is registered for, read off its agent's state. -/
def regOfA : Option Agent → Rcpt → Option (List Eid)
  | some (.ping ep), .ping _ => some [ep]
  | some (.mock eps), .mock _ => some eps
  | some (.rest ra), .rest _ c => (aload c ra.clients).map (fun e => [e])
  | some (.ws conns), .ws _ c => (aload c conns).map Option.toList
  | _, _ => none

def regOf (m : Mux) (x : Rcpt) : Option (List Eid) := regOfA (m.child x.agent) x

/-- A recipient's mailbox, read off its agent's state. -/
def boxOfA : Option Agent → Rcpt → List Bundle
  | some (.rest ra), .rest _ c => (aload c ra.mailbox).getD []
  | _, _ => []

def boxOf (m : Mux) (x : Rcpt) : List Bundle := boxOfA (m.child x.agent) x

theorem aload_append {κ β : Type} [DecidableEq κ] (k : κ) (l₁ l₂ : List (κ × β)) :
    aload k (l₁ ++ l₂) = match aload k l₁ with
      | some v => some v
      | none => aload k l₂ := by
  induction l₁ with
  | nil => simp [aload]
  | cons e t ih =>
    obtain ⟨k', v⟩ := e
    by_cases h : k' = k
    · simp [aload, h]
    · simp [aload, h, ih]

theorem child_add (m : Mux) (i : Nat) (a : Agent) (j : Nat) :
    (m.add i a).child j =
      if (m.child i).isSome then m.child j else if j = i then some a else m.child j := by
  unfold Mux.add Mux.child
  by_cases h : (aload i m.children).isSome = true
  · simp [h]
  · have h' : (aload i m.children).isSome = false := by simpa using h
    simp only [h', Bool.false_eq_true, if_false]
    rw [aload_append]
    by_cases hj : j = i
    · subst hj
      have : aload j m.children = none := by
        cases hx : aload j m.children with
        | none => rfl
        | some v => simp [hx] at h
      simp [this, aload]
    · have hij : ¬ i = j := fun e => hj e.symm
      cases hx : aload j m.children with
      | none => simp [aload, hij, hj]
      | some v => simp [hj]

theorem child_update (m : Mux) (i : Nat) (f : Agent → Agent) (j : Nat) :
    (m.update i f).child j = if j = i then (m.child i).map f else m.child j := by
  have e : (fun c : Nat × Agent => if c.1 = i then (c.1, f c.2) else c) =
      fun c => (c.1, if c.1 = i then f c.2 else c.2) := by
    funext c; split <;> rfl
  unfold Mux.update Mux.child
  rw [e, aload_map_val (fun k a => if k = i then f a else a) j m.children]
  by_cases hj : j = i
  · subst hj; simp
  · simp [hj]

theorem child_drop (m : Mux) (a j : Nat) :
    (⟨adelete a m.children⟩ : Mux).child j = if j = a then none else m.child j :=
  aload_adelete a j m.children

theorem child_deliver (cfg : Cfg) (m : Mux) (b : Bundle) (i : Nat) :
    (m.deliver cfg b).1.child i = (m.child i).map (fun a =>
      if bagContains (a.endpoints cfg) [b.dest] then (a.receive cfg i b).1 else a) := by
  simp only [Mux.deliver, Mux.child, deliverChildren_child]

theorem regOfA_none (x : Rcpt) : regOfA none x = none := by cases x <;> rfl
theorem boxOfA_none (x : Rcpt) : boxOfA none x = [] := by cases x <;> rfl

theorem aload_map_key {β γ : Type} (f : Nat → Rcpt) (hf : ∀ u c, f u = f c → u = c) (g : β → γ)
    (c : Nat) (l : List (Nat × β)) :
    aload (f c) (l.map (fun e => (f e.1, g e.2))) = (aload c l).map g := by
  induction l with
  | nil => rfl
  | cons e t ih =>
    obtain ⟨u, v⟩ := e
    by_cases hu : u = c
    · subst hu; simp [aload]
    · have : ¬ f u = f c := fun h => hu (hf u c h)
      simp [aload, hu, this, ih]

theorem aload_map_key_other {β γ : Type} (f : Nat → Rcpt) (g : β → γ) (x : Rcpt)
    (hx : ∀ u, f u ≠ x) (l : List (Nat × β)) :
    aload x (l.map (fun e => (f e.1, g e.2))) = none := by
  induction l with
  | nil => rfl
  | cons e t ih =>
    obtain ⟨u, v⟩ := e
    simp [aload, hx u, ih]

theorem aload_registered (a : Nat) (ag : Agent) (x : Rcpt) (hx : x.agent = a) :
    aload x (ag.registered a) = regOfA (some ag) x := by
  cases ag with
  | ping ep =>
    cases x <;> simp_all [Agent.registered, aload, regOfA, Rcpt.agent]
  | mock eps =>
    cases x <;> simp_all [Agent.registered, aload, regOfA, Rcpt.agent]
  | rest ra =>
    simp only [Agent.registered]
    cases x with
    | rest a' c =>
      simp only [Rcpt.agent] at hx; subst hx
      simp only [regOfA]
      exact aload_map_key (Rcpt.rest a') (fun u c h => by simpa using h) (fun e => [e]) c ra.clients
    | ping a' => exact aload_map_key_other (Rcpt.rest a) (fun e => [e]) _ (fun u => by simp) ra.clients
    | mock a' => exact aload_map_key_other (Rcpt.rest a) (fun e => [e]) _ (fun u => by simp) ra.clients
    | ws a' c => exact aload_map_key_other (Rcpt.rest a) (fun e => [e]) _ (fun u => by simp) ra.clients
  | ws conns =>
    simp only [Agent.registered]
    cases x with
    | ws a' c =>
      simp only [Rcpt.agent] at hx; subst hx
      simp only [regOfA]
      exact aload_map_key (Rcpt.ws a') (fun u c h => by simpa using h) Option.toList c conns
    | ping a' => exact aload_map_key_other (Rcpt.ws a) Option.toList _ (fun u => by simp) conns
    | mock a' => exact aload_map_key_other (Rcpt.ws a) Option.toList _ (fun u => by simp) conns
    | rest a' c => exact aload_map_key_other (Rcpt.ws a) Option.toList _ (fun u => by simp) conns

theorem mem_registered_iff (m : Mux) (hwf : m.WF) (x : Rcpt) (eps : List Eid) :
    (x, eps) ∈ m.registered ↔ regOf m x = some eps := by
  -- membership in the agent's own registrations, as a lookup
  have hag : ∀ ag, m.child x.agent = some ag →
      ((x, eps) ∈ ag.registered x.agent ↔ regOfA (some ag) x = some eps) := by
    intro ag hch
    have hawf := hwf.2 _ (aload_mem x.agent m.children _ hch)
    rw [← aload_registered x.agent ag x rfl]
    exact (aload_eq_some_iff x eps _ (registered_child_nodup x.agent ag hawf)).symm
  unfold regOf
  simp only [Mux.registered, List.mem_flatMap]
  constructor
  · rintro ⟨⟨i, a⟩, hc, hx⟩
    have hi : x.agent = i := registered_agent i a _ hx
    subst hi
    have hch : m.child x.agent = some a := (aload_eq_some_iff _ a m.children hwf.1).mpr hc
    rw [hch]
    exact (hag a hch).mp hx
  · intro h
    cases hch : m.child x.agent with
    | none => rw [hch, regOfA_none] at h; cases h
    | some ag =>
      rw [hch] at h
      exact ⟨(x.agent, ag), aload_mem x.agent m.children _ hch, (hag ag hch).mpr h⟩

/-- The model state `m` (nested agents) represents the flat reference registry `r`: kinds,
registrations and mailboxes of `r` are what `agentKind`, `regOf` and `boxOf` read off `m`. Mailboxes
are compared as lists (`getD []`): a missing entry and an empty mailbox are the same to every
observation (a fetch returns `[]` for both). -/
structure Sim (m : Mux) (r : Reg) : Prop where
  wf : m.WF
  nd : keysNodup r.regs
  kinds : ∀ a, aload a r.kinds = (m.child a).map agentKind
  regs : ∀ x, aload x r.regs = regOf m x
  boxes : ∀ x, (aload x r.boxes).getD [] = boxOf m x

theorem sim_mem {m : Mux} {r : Reg} (s : Sim m r) (x : Rcpt) (eps : List Eid) :
    (x, eps) ∈ m.registered ↔ (x, eps) ∈ r.regs := by
  rw [mem_registered_iff m s.wf, ← s.regs x, aload_eq_some_iff x eps r.regs s.nd]

theorem registeredFor_mem (regs : Regs) (d : Eid) (x : Rcpt) :
    x ∈ registeredFor regs d ↔ ∃ eps, (x, eps) ∈ regs ∧ d ∈ eps := by
  simp only [registeredFor, List.mem_map, List.mem_filter, List.contains_iff_mem]
  constructor
  · rintro ⟨⟨y, eps⟩, ⟨hm, hd⟩, rfl⟩; exact ⟨eps, hm, hd⟩
  · rintro ⟨eps, hm, hd⟩; exact ⟨(x, eps), ⟨hm, hd⟩, rfl⟩

theorem all_congr_mem {α : Type} (l₁ l₂ : List α) (p : α → Bool) (h : ∀ x, x ∈ l₁ ↔ x ∈ l₂) :
    l₁.all p = l₂.all p := by
  rw [Bool.eq_iff_iff]
  simp only [List.all_eq_true]
  exact ⟨fun h1 x hx => h1 x ((h x).mpr hx), fun h2 x hx => h2 x ((h x).mp hx)⟩

theorem contains_congr_mem (l₁ l₂ : List Rcpt) (x : Rcpt) (h : ∀ x, x ∈ l₁ ↔ x ∈ l₂) :
    l₁.contains x = l₂.contains x := by
  rw [Bool.eq_iff_iff]
  simp only [List.contains_iff_mem]
  exact h x

theorem deliveredExactly_congr (r₁ r₂ : Regs) (b : Bundle) (out : List (Rcpt × Bundle))
    (h : ∀ x, x ∈ registeredFor r₁ b.dest ↔ x ∈ registeredFor r₂ b.dest) :
    DeliveredExactly r₁ b out = DeliveredExactly r₂ b out := by
  unfold DeliveredExactly
  rw [all_congr_mem _ _ _ h]
  congr 1
  apply List.all_congr rfl
  intro o
  rw [contains_congr_mem _ _ o.1 h]

theorem sim_registeredFor {m : Mux} {r : Reg} (s : Sim m r) (d : Eid) (x : Rcpt) :
    x ∈ registeredFor m.registered d ↔ x ∈ registeredFor r.regs d := by
  rw [registeredFor_mem, registeredFor_mem]
  constructor
  · rintro ⟨eps, hm, hd⟩; exact ⟨eps, (sim_mem s x eps).mp hm, hd⟩
  · rintro ⟨eps, hm, hd⟩; exact ⟨eps, (sim_mem s x eps).mpr hm, hd⟩

theorem step_restFetch_events (cfg : Cfg) (m : Mux) (a c : Nat) :
    (step cfg m (.restFetch a c)).2 = (boxOf m (.rest a c)).map (fun b => (Rcpt.rest a c, b)) := by
  simp only [step, boxOf, Rcpt.agent]
  cases m.child a with
  | none => rfl
  | some ag =>
    cases ag with
    | rest ra =>
      simp only [boxOfA, Rest.fetch]
      cases aload c ra.mailbox <;> rfl
    | _ => rfl

theorem sim_events (cfg : Cfg) (hall : cfg.rangeAll = true) {m : Mux} {r : Reg} (s : Sim m r) (op : Op) :
    eventsOk r op (step cfg m op).2 = true := by
  cases op with
  | deliver b =>
    simp only [eventsOk, step]
    rw [← deliveredExactly_congr m.registered r.regs b _ (sim_registeredFor s b.dest)]
    exact delivered_exactly cfg hall m s.wf b
  | restFetch a c =>
    rw [step_restFetch_events, ← s.boxes]
    simp [eventsOk, Reg.box, FetchExactlyOnce, List.map_map, Function.comp_def, List.isPerm_iff]
  | _ => simp [eventsOk, step]

theorem aload_filter_key {κ β : Type} [DecidableEq κ] (p : κ → Bool) (k : κ) (l : List (κ × β)) :
    aload k (l.filter (fun e => p e.1)) = if p k then aload k l else none := by
  induction l with
  | nil => simp [aload]
  | cons e t ih =>
    obtain ⟨k', v⟩ := e
    by_cases hp : p k' = true
    · by_cases hk : k' = k
      · subst hk; simp [hp, aload]
      · simp [hp, aload, hk, ih]
    · by_cases hk : k' = k
      · subst hk
        have hp' : p k' = false := by simpa using hp
        simp [hp', ih]
      · simp [hp, aload, hk, ih]

theorem aload_none_of_not_mem {κ β : Type} [DecidableEq κ] (k : κ) (l : List (κ × β))
    (h : k ∉ l.map (·.1)) : aload k l = none := by
  cases hx : aload k l with
  | none => rfl
  | some v =>
    exfalso; apply h
    exact (aload_isSome_iff k l).mp (by simp [hx])

theorem sim_of_child_eq {m m' : Mux} {r : Reg} (s : Sim m r) (hwf : m'.WF)
    (h : ∀ j, m'.child j = m.child j) : Sim m' r := by
  refine ⟨hwf, s.nd, ?_, ?_, ?_⟩
  · intro a; rw [h]; exact s.kinds a
  · intro x; unfold regOf; rw [h]; exact s.regs x
  · intro x; unfold boxOf; rw [h]; exact s.boxes x

theorem kind_isSome {m : Mux} {r : Reg} (s : Sim m r) (a : Nat) :
    (r.kindOf a).isSome = (m.child a).isSome := by
  unfold Reg.kindOf; rw [s.kinds a]; cases m.child a <;> rfl

theorem regs_key_child {m : Mux} {r : Reg} (s : Sim m r) (x : Rcpt) (hx : x ∈ r.regs.map (·.1)) :
    m.child x.agent ≠ none := by
  intro hnone
  have h1 : (aload x r.regs).isSome = true := (aload_isSome_iff x r.regs).mpr hx
  rw [s.regs x] at h1
  unfold regOf at h1
  rw [hnone, regOfA_none] at h1
  cases h1

theorem sim_add {m : Mux} {r : Reg} (s : Sim m r) (a : Nat) (ag : Agent) (k : Kind)
    (hk : agentKind ag = k) (hwf : ag.WF) (hbox : ∀ x, boxOfA (some ag) x = []) :
    Sim (m.add a ag) (r.addAgent a k (ag.registered a)) := by
  have hsome := kind_isSome s a
  by_cases hex : (m.child a).isSome = true
  · -- the name is taken: nothing happens on either side
    have h1 : m.add a ag = m := by unfold Mux.add; unfold Mux.child at hex; simp [hex]
    have h2 : r.addAgent a k (ag.registered a) = r := by
      unfold Reg.addAgent; rw [hsome]; simp [hex]
    rw [h1, h2]; exact s
  · have hnone : m.child a = none := by
      cases hc : m.child a with
      | none => rfl
      | some v => simp [hc] at hex
    have hr : r.addAgent a k (ag.registered a) =
        { r with kinds := r.kinds ++ [(a, k)], regs := r.regs ++ ag.registered a } := by
      unfold Reg.addAgent; rw [hsome]; simp [hnone]
    rw [hr]
    have hchild : ∀ j, (m.add a ag).child j = if j = a then some ag else m.child j := by
      intro j; rw [child_add]; simp [hnone]
    refine ⟨add_wf m a ag s.wf hwf, ?_, ?_, ?_, ?_⟩
    · -- keys stay distinct
      show ((r.regs ++ ag.registered a).map (·.1)).Nodup
      rw [List.map_append, List.nodup_append]
      refine ⟨s.nd, registered_child_nodup a ag hwf, ?_⟩
      intro x hx y hy hxy
      subst hxy
      have hag : x.agent = a := by
        simp only [List.mem_map] at hy
        obtain ⟨e, he, rfl⟩ := hy
        exact registered_agent a ag e he
      exact regs_key_child s x hx (by rw [hag]; exact hnone)
    · intro j
      show aload j (r.kinds ++ [(a, k)]) = _
      rw [aload_append, hchild, s.kinds j]
      by_cases hj : j = a
      · subst hj; simp [hnone, aload, hk]
      · have : ¬ a = j := fun e => hj e.symm
        cases hc : m.child j <;> simp [hj, aload, this]
    · intro x
      show aload x (r.regs ++ ag.registered a) = _
      rw [aload_append]
      unfold regOf
      rw [hchild]
      by_cases hx : x.agent = a
      · have h0 : aload x r.regs = none := by
          rw [s.regs x]; unfold regOf; rw [hx, hnone, regOfA_none]
        simp only [h0, hx, if_true]
        exact aload_registered a ag x hx
      · have h0 : aload x (ag.registered a) = none := by
          apply aload_none_of_not_mem
          intro hmem
          simp only [List.mem_map] at hmem
          obtain ⟨e, he, rfl⟩ := hmem
          exact hx (registered_agent a ag e he)
        simp only [hx, if_false, h0]
        have := s.regs x
        unfold regOf at this
        rw [← this]
        cases aload x r.regs <;> rfl
    · intro x
      show (aload x r.boxes).getD [] = _
      unfold boxOf
      rw [hchild]
      by_cases hx : x.agent = a
      · have := s.boxes x
        unfold boxOf at this
        rw [hx, hnone, boxOfA_none] at this
        simp [hx, this, hbox]
      · simp only [hx, if_false]
        exact s.boxes x

theorem sim_drop {m : Mux} {r : Reg} (s : Sim m r) (a : Nat) :
    Sim ⟨adelete a m.children⟩
      { kinds := adelete a r.kinds, regs := r.regs.filter (fun e => e.1.agent ≠ a),
        boxes := r.boxes.filter (fun e => e.1.agent ≠ a) } := by
  have hwf : (⟨adelete a m.children⟩ : Mux).WF := by
    refine ⟨keysNodup_adelete a _ s.wf.1, ?_⟩
    intro c hc
    exact s.wf.2 c (List.mem_filter.mp hc).1
  refine ⟨hwf, ?_, ?_, ?_, ?_⟩
  · exact List.Nodup.sublist ((List.filter_sublist).map _) s.nd
  · intro j
    show aload j (adelete a r.kinds) = _
    rw [child_drop, aload_adelete, s.kinds j]
    split <;> rfl
  · intro x
    show aload x (r.regs.filter (fun e => decide (e.1.agent ≠ a))) = _
    rw [aload_filter_key (fun k : Rcpt => decide (k.agent ≠ a))]
    unfold regOf
    rw [child_drop]
    by_cases hx : x.agent = a
    · simp [hx, regOfA_none]
    · simp only [hx, ne_eq, not_false_eq_true, decide_true, if_true, if_false]
      exact s.regs x
  · intro x
    show (aload x (r.boxes.filter (fun e => decide (e.1.agent ≠ a)))).getD [] = _
    rw [aload_filter_key (fun k : Rcpt => decide (k.agent ≠ a))]
    unfold boxOf
    rw [child_drop]
    by_cases hx : x.agent = a
    · simp [hx, boxOfA_none]
    · simp only [hx, ne_eq, not_false_eq_true, decide_true, if_true, if_false]
      exact s.boxes x

theorem kind_eq {m : Mux} {r : Reg} (s : Sim m r) (a : Nat) (k : Kind) :
    r.kindOf a = some k ↔ ∃ ag, m.child a = some ag ∧ agentKind ag = k := by
  unfold Reg.kindOf
  rw [s.kinds a]
  cases m.child a <;> simp

/-- The agent `a` goes from `ag` to `ag'` and, on both sides, the registration and the mailbox of
the one recipient `x0` of that agent change in the same way; everything else stays. -/
theorem sim_point {m : Mux} {r r' : Reg} (s : Sim m r) (a : Nat) (ag ag' : Agent) (f : Agent → Agent)
    (hch : m.child a = some ag) (hf : f ag = ag') (hwf : (m.update a f).WF)
    (hkind : agentKind ag' = agentKind ag) (hk : r'.kinds = r.kinds) (hnd : keysNodup r'.regs)
    (x0 : Rcpt) (hx0 : x0.agent = a) (v : Option (List Eid) → Option (List Eid)) (w : List Bundle → List Bundle)
    (hr : ∀ x, aload x r'.regs = if x = x0 then v (aload x r.regs) else aload x r.regs)
    (hr' : ∀ x, x.agent = a →
      regOfA (some ag') x = if x = x0 then v (regOfA (some ag) x) else regOfA (some ag) x)
    (hb : ∀ x, (aload x r'.boxes).getD [] =
      if x = x0 then w ((aload x r.boxes).getD []) else (aload x r.boxes).getD [])
    (hb' : ∀ x, x.agent = a →
      boxOfA (some ag') x = if x = x0 then w (boxOfA (some ag) x) else boxOfA (some ag) x) :
    Sim (m.update a f) r' := by
  have hchild : ∀ j, (m.update a f).child j = if j = a then some ag' else m.child j := by
    intro j; rw [child_update]
    by_cases hj : j = a
    · simp [hj, hch, hf]
    · simp [hj]
  have hne : ∀ x : Rcpt, x.agent ≠ a → x ≠ x0 := fun x hx e => hx (e ▸ hx0)
  refine ⟨hwf, hnd, fun j => ?_, fun x => ?_, fun x => ?_⟩
  · rw [hk, hchild, s.kinds j]
    by_cases hj : j = a
    · subst hj; simp [hch, hkind]
    · simp [hj]
  · rw [hr]; unfold regOf; rw [hchild]
    by_cases hx : x.agent = a
    · rw [if_pos hx, hr' x hx, s.regs x]
      unfold regOf
      rw [hx, hch]
    · rw [if_neg hx, if_neg (hne x hx)]; exact s.regs x
  · rw [hb]; unfold boxOf; rw [hchild]
    by_cases hx : x.agent = a
    · rw [if_pos hx, hb' x hx, s.boxes x]
      unfold boxOf
      rw [hx, hch]
    · rw [if_neg hx, if_neg (hne x hx)]; exact s.boxes x

/-- An operation `f` on the agents of kind `K`, addressed to agent `a`: the reference changes (to
`r'`, a point update at `x0`) exactly if `a` is of kind `K`; otherwise nothing changes on either
side. -/
theorem sim_agent_op {m : Mux} {r r' : Reg} (s : Sim m r) (a : Nat) (K : Kind) (f : Agent → Agent)
    (hwf : (m.update a f).WF) (hid : ∀ ag, agentKind ag ≠ K → f ag = ag)
    (hkind : ∀ ag, agentKind (f ag) = agentKind ag) (hk : r'.kinds = r.kinds) (hnd : keysNodup r'.regs)
    (x0 : Rcpt) (hx0 : x0.agent = a) (v : Option (List Eid) → Option (List Eid)) (w : List Bundle → List Bundle)
    (hr : ∀ x, aload x r'.regs = if x = x0 then v (aload x r.regs) else aload x r.regs)
    (hr' : ∀ ag x, agentKind ag = K → x.agent = a →
      regOfA (some (f ag)) x = if x = x0 then v (regOfA (some ag) x) else regOfA (some ag) x)
    (hb : ∀ x, (aload x r'.boxes).getD [] =
      if x = x0 then w ((aload x r.boxes).getD []) else (aload x r.boxes).getD [])
    (hb' : ∀ ag x, agentKind ag = K → x.agent = a →
      boxOfA (some (f ag)) x = if x = x0 then w (boxOfA (some ag) x) else boxOfA (some ag) x) :
    Sim (m.update a f) (if r.kindOf a = some K then r' else r) := by
  by_cases hK : r.kindOf a = some K
  · obtain ⟨ag, hch, hag⟩ := (kind_eq s a K).mp hK
    rw [if_pos hK]
    exact sim_point s a ag (f ag) f hch rfl hwf (hkind ag) hk hnd x0 hx0 v w hr
      (fun x => hr' ag x hag) hb (fun x => hb' ag x hag)
  · rw [if_neg hK]
    refine sim_of_child_eq s hwf (fun j => ?_)
    rw [child_update]
    by_cases hj : j = a
    · subst hj
      rw [if_pos rfl]
      cases hc : m.child j with
      | none => rfl
      | some ag => rw [Option.map_some, hid ag (fun e => hK ((kind_eq s j K).mpr ⟨ag, hc, e⟩))]
    · rw [if_neg hj]

theorem sim_restReg (cfg : Cfg) {m : Mux} {r : Reg} (s : Sim m r) (a c : Nat) (ep : Eid) :
    Sim (step cfg m (.restReg a c ep)).1 (r.step (.restReg a c ep)).1 := by
  have hwf := step_wf cfg m (.restReg a c ep) s.wf
  simp only [step, Reg.step, apply_ite Prod.fst] at hwf ⊢
  refine sim_agent_op s a .rest _ hwf (fun ag h => ?_) (fun ag => ?_) rfl (keysNodup_astore _ _ _ s.nd)
    (.rest a c) rfl (fun _ => some [ep]) id (fun x => aload_astore _ _ _ _) (fun ag x hag hx => ?_)
    (fun x => (ite_self _).symm) (fun ag x hag _ => ?_)
  · cases ag <;> first | rfl | exact absurd rfl h
  · cases ag <;> rfl
  · obtain ⟨ra, rfl⟩ := agentKind_rest hag
    cases x with
    | rest a' c' =>
      cases hx
      by_cases hc : c' = c <;> simp [regOfA, Rest.register, aload_astore, hc, Rcpt.agent]
    | _ => rfl
  · obtain ⟨ra, rfl⟩ := agentKind_rest hag
    cases x <;> simp [boxOfA, Rest.register]

theorem sim_restUnreg (cfg : Cfg) {m : Mux} {r : Reg} (s : Sim m r) (a c : Nat) :
    Sim (step cfg m (.restUnreg a c)).1 (r.step (.restUnreg a c)).1 := by
  have hwf := step_wf cfg m (.restUnreg a c) s.wf
  simp only [step, Reg.step, apply_ite Prod.fst] at hwf ⊢
  refine sim_agent_op s a .rest _ hwf (fun ag h => ?_) (fun ag => ?_) rfl (keysNodup_adelete _ _ s.nd)
    (.rest a c) rfl (fun _ => none) (fun _ => []) (fun x => aload_adelete _ _ _) (fun ag x hag hx => ?_)
    (fun x => ?_) (fun ag x hag hx => ?_)
  · cases ag <;> first | rfl | exact absurd rfl h
  · cases ag <;> rfl
  · obtain ⟨ra, rfl⟩ := agentKind_rest hag
    cases x with
    | rest a' c' =>
      cases hx
      by_cases hc : c' = c <;> simp [regOfA, Rest.unregister, aload_adelete, hc, Rcpt.agent]
    | _ => rfl
  · show (aload x (adelete (Rcpt.rest a c) r.boxes)).getD [] = _
    rw [aload_adelete]
    split <;> rfl
  · obtain ⟨ra, rfl⟩ := agentKind_rest hag
    cases x with
    | rest a' c' =>
      cases hx
      by_cases hc : c' = c <;> simp [boxOfA, Rest.unregister, aload_adelete, hc, Rcpt.agent]
    | _ => rfl

theorem fetch_mailbox_lookup (ra : Rest) (c c' : Nat) :
    aload c' (ra.fetch c).1.mailbox = if c' = c then none else aload c' ra.mailbox := by
  unfold Rest.fetch
  cases hl : aload c ra.mailbox with
  | none =>
    by_cases h : c' = c
    · subst h; simp [hl]
    · simp [h]
  | some l => exact aload_adelete _ _ _

theorem fetch_clients (ra : Rest) (c : Nat) : (ra.fetch c).1.clients = ra.clients := by
  unfold Rest.fetch; cases aload c ra.mailbox <;> rfl

theorem sim_restFetch (cfg : Cfg) {m : Mux} {r : Reg} (s : Sim m r) (a c : Nat) :
    Sim (step cfg m (.restFetch a c)).1 (r.step (.restFetch a c)).1 := by
  have hwf := step_wf cfg m (.restFetch a c) s.wf
  simp only [step, Reg.step, apply_ite Prod.fst] at hwf ⊢
  by_cases hk : r.kindOf a = some .rest
  · obtain ⟨ag, hch, hag⟩ := (kind_eq s a .rest).mp hk
    obtain ⟨ra, rfl⟩ := agentKind_rest hag
    rw [if_pos hk]
    simp only [hch] at hwf ⊢
    refine sim_point s a (.rest ra) (.rest (ra.fetch c).1) _ hch rfl hwf rfl rfl s.nd
      (.rest a c) rfl id (fun _ => []) (fun x => (ite_self _).symm) (fun x _ => ?_)
      (fun x => ?_) (fun x hx => ?_)
    · rw [id, ite_self]
      cases x <;> simp [regOfA, fetch_clients]
    · show (aload x (adelete (Rcpt.rest a c) r.boxes)).getD [] = _
      rw [aload_adelete]
      split <;> rfl
    · cases x with
      | rest a' c' =>
        cases hx
        by_cases hc : c' = c <;> simp [boxOfA, fetch_mailbox_lookup, hc, Rcpt.agent]
      | _ => rfl
  · rw [if_neg hk]
    cases hch : m.child a with
    | none => exact s
    | some ag =>
      cases ag with
      | rest ra => exact absurd ((kind_eq s a .rest).mpr ⟨_, hch, rfl⟩) hk
      | _ => exact s

theorem sim_wsConnect (cfg : Cfg) {m : Mux} {r : Reg} (s : Sim m r) (a c : Nat) (ep : Option Eid) :
    Sim (step cfg m (.wsConnect a c ep)).1 (r.step (.wsConnect a c ep)).1 := by
  have hwf := step_wf cfg m (.wsConnect a c ep) s.wf
  simp only [step, Reg.step, apply_ite Prod.fst] at hwf ⊢
  refine sim_agent_op s a .ws _ hwf (fun ag h => ?_) (fun ag => ?_) rfl (keysNodup_astore _ _ _ s.nd)
    (.ws a c) rfl (fun _ => some ep.toList) id (fun x => aload_astore _ _ _ _) (fun ag x hag hx => ?_)
    (fun x => (ite_self _).symm) (fun ag x hag _ => ?_)
  · cases ag <;> first | rfl | exact absurd rfl h
  · cases ag <;> rfl
  · obtain ⟨conns, rfl⟩ := agentKind_ws hag
    cases x with
    | ws a' c' =>
      cases hx
      by_cases hc : c' = c <;> simp [regOfA, aload_astore, hc, Rcpt.agent]
    | _ => rfl
  · obtain ⟨conns, rfl⟩ := agentKind_ws hag
    cases x <;> simp [boxOfA]

theorem sim_wsClose (cfg : Cfg) {m : Mux} {r : Reg} (s : Sim m r) (a c : Nat) :
    Sim (step cfg m (.wsClose a c)).1 (r.step (.wsClose a c)).1 := by
  have hwf := step_wf cfg m (.wsClose a c) s.wf
  simp only [step, Reg.step, apply_ite Prod.fst] at hwf ⊢
  refine sim_agent_op s a .ws _ hwf (fun ag h => ?_) (fun ag => ?_) rfl (keysNodup_adelete _ _ s.nd)
    (.ws a c) rfl (fun _ => none) id (fun x => aload_adelete _ _ _) (fun ag x hag hx => ?_)
    (fun x => (ite_self _).symm) (fun ag x hag _ => ?_)
  · cases ag <;> first | rfl | exact absurd rfl h
  · cases ag <;> rfl
  · obtain ⟨conns, rfl⟩ := agentKind_ws hag
    cases x with
    | ws a' c' =>
      cases hx
      by_cases hc : c' = c <;> simp [regOfA, aload_adelete, hc, Rcpt.agent]
    | _ => rfl
  · obtain ⟨conns, rfl⟩ := agentKind_ws hag
    cases x <;> simp [boxOfA]

/-- What the agent looks like after it was (possibly) handed the bundle. -/
def afterDeliver (cfg : Cfg) (b : Bundle) (i : Nat) (a : Agent) : Agent :=
  if bagContains (a.endpoints cfg) [b.dest] then (a.receive cfg i b).1 else a

theorem afterDeliver_kind (cfg : Cfg) (b : Bundle) (i : Nat) (a : Agent) :
    agentKind (afterDeliver cfg b i a) = agentKind a := by
  unfold afterDeliver; split
  · cases a <;> rfl
  · rfl

theorem afterDeliver_regOfA (cfg : Cfg) (b : Bundle) (i : Nat) (a : Agent) (x : Rcpt) :
    regOfA (some (afterDeliver cfg b i a)) x = regOfA (some a) x := by
  unfold afterDeliver; split
  · cases a with
    | rest ra => cases x <;> simp [Agent.receive, Rest.receive, regOfA]
    | _ => rfl
  · rfl

theorem boxOfA_of_not_rest {x : Rcpt} (hx : isRest x = false) (o : Option Agent) : boxOfA o x = [] := by
  cases x with
  | rest a c => cases hx
  | _ =>
    cases o with
    | none => rfl
    | some ag => cases ag <;> rfl

theorem boxOfA_of_kind {ag : Agent} (h : agentKind ag ≠ .rest) (x : Rcpt) : boxOfA (some ag) x = [] := by
  cases ag <;> first | exact absurd rfl h | (cases x <;> rfl)

theorem regOfA_rest_of_kind {ag : Agent} (h : agentKind ag ≠ .rest) (a c : Nat) :
    regOfA (some ag) (.rest a c) = none := by
  cases ag <;> first | exact absurd rfl h | rfl

theorem sim_deliver (cfg : Cfg) (hall : cfg.rangeAll = true) {m : Mux} {r : Reg} (s : Sim m r)
    (b : Bundle) : Sim (step cfg m (.deliver b)).1 (r.step (.deliver b)).1 := by
  simp only [step, Reg.step]
  have hchild : ∀ j, (m.deliver cfg b).1.child j = (m.child j).map (afterDeliver cfg b j) :=
    fun j => child_deliver cfg m b j
  refine ⟨deliver_wf cfg m b s.wf, s.nd, ?_, ?_, ?_⟩
  · intro j
    rw [hchild, s.kinds j]
    cases m.child j with
    | none => rfl
    | some ag => simp [afterDeliver_kind]
  · intro x
    show aload x r.regs = _
    rw [s.regs x]; unfold regOf; rw [hchild]
    cases m.child x.agent with
    | none => rfl
    | some ag => simp [afterDeliver_regOfA]
  · intro x
    have hnd : ((registeredFor r.regs b.dest).filter isRest).Nodup :=
      List.Nodup.sublist List.filter_sublist (registeredFor_nodup _ _ s.nd)
    show (aload x (((registeredFor r.regs b.dest).filter isRest).foldl
      (fun bx y => astore y ((aload y bx).getD [] ++ [b]) bx) r.boxes)).getD [] = _
    rw [aload_foldl_append b _ hnd x]
    unfold boxOf
    rw [hchild]
    -- is x a REST client registered for the destination?
    have hwant : x ∈ (registeredFor r.regs b.dest).filter isRest ↔
        isRest x = true ∧ ∃ eps, regOf m x = some eps ∧ b.dest ∈ eps := by
      rw [List.mem_filter, registeredFor_mem]
      constructor
      · rintro ⟨⟨eps, hm, hd⟩, hr⟩
        exact ⟨hr, eps, by rw [← s.regs x]; exact (aload_eq_some_iff x eps r.regs s.nd).mpr hm, hd⟩
      · rintro ⟨hr, eps, hm, hd⟩
        exact ⟨⟨eps, (aload_eq_some_iff x eps r.regs s.nd).mp (by rw [s.regs x]; exact hm), hd⟩, hr⟩
    -- a recipient the delivery does not concern: nothing to show beyond "no mailbox changes"
    have skip : (∀ eps, regOf m x ≠ some eps) ∨ isRest x = false →
        boxOfA ((m.child x.agent).map (afterDeliver cfg b x.agent)) x = boxOfA (m.child x.agent) x →
        (if x ∈ (registeredFor r.regs b.dest).filter isRest then some ((aload x r.boxes).getD [] ++ [b])
          else aload x r.boxes).getD [] =
          boxOfA ((m.child x.agent).map (afterDeliver cfg b x.agent)) x := by
      intro hno hsame
      have : x ∉ (registeredFor r.regs b.dest).filter isRest := by
        rw [hwant]
        rintro ⟨hr, eps, hm, _⟩
        rcases hno with hno | hno
        · exact hno eps hm
        · rw [hno] at hr; cases hr
      rw [if_neg this, hsame]
      exact s.boxes x
    cases hx : isRest x with
    | false => exact skip (Or.inr hx) (by rw [boxOfA_of_not_rest hx, boxOfA_of_not_rest hx])
    | true =>
      cases x with
      | rest a c =>
        simp only [Rcpt.agent] at skip ⊢
        cases hch : m.child a with
        | none =>
          rw [hch] at skip
          refine skip (Or.inl fun eps hm => ?_) rfl
          unfold regOf at hm; simp only [Rcpt.agent] at hm; rw [hch, regOfA_none] at hm; cases hm
        | some ag =>
          rw [hch] at skip
          by_cases hag : agentKind ag = .rest
          · obtain ⟨ra, rfl⟩ := agentKind_rest hag
            have hold := s.boxes (.rest a c)
            unfold boxOf at hold
            simp only [Rcpt.agent, hch, boxOfA] at hold
            obtain ⟨ra', hch', _, hmb⟩ := deliver_mailbox cfg hall m s.wf b a ra hch
            have hmap : (some (Agent.rest ra)).map (afterDeliver cfg b a) = some (Agent.rest ra') := by
              rw [← hch, ← hchild]; exact hch'
            simp only [hmap, boxOfA, hmb c]
            have hin : Rcpt.rest a c ∈ (registeredFor r.regs b.dest).filter isRest ↔
                aload c ra.clients = some b.dest := by
              rw [hwant]
              unfold regOf
              simp only [Rcpt.agent, hch, regOfA, isRest, true_and]
              cases aload c ra.clients with
              | none => simp
              | some e =>
                simp only [Option.map_some, Option.some.injEq, exists_eq_left', List.mem_singleton]
                exact eq_comm
            by_cases hreg : aload c ra.clients = some b.dest
            · rw [if_pos (hin.mpr hreg), if_pos hreg, hold]
            · rw [if_neg (fun h => hreg (hin.mp h)), if_neg hreg]
              exact hold
          · refine skip (Or.inl fun eps hm => ?_) ?_
            · unfold regOf at hm
              simp only [Rcpt.agent, hch, regOfA_rest_of_kind hag] at hm
              cases hm
            · rw [Option.map_some, boxOfA_of_kind hag, boxOfA_of_kind (by rw [afterDeliver_kind]; exact hag)]
      | _ => cases hx

theorem sim_step (cfg : Cfg) (hall : cfg.rangeAll = true) {m : Mux} {r : Reg} (s : Sim m r) (op : Op) :
    Sim (step cfg m op).1 (r.step op).1 := by
  cases op with
  | addPing a ep => exact sim_add s a (.ping ep) .ping rfl trivial (by intro x; cases x <;> rfl)
  | addMock a eps => exact sim_add s a (.mock eps) .mock rfl trivial (by intro x; cases x <;> rfl)
  | addRest a =>
    exact sim_add s a (.rest {}) .rest rfl ⟨keysNodup_nil, keysNodup_nil⟩ (by intro x; cases x <;> rfl)
  | addWs a => exact sim_add s a (.ws []) .ws rfl keysNodup_nil (by intro x; cases x <;> rfl)
  | dropAgent a => exact sim_drop s a
  | restReg a c ep => exact sim_restReg cfg s a c ep
  | restUnreg a c => exact sim_restUnreg cfg s a c
  | restFetch a c => exact sim_restFetch cfg s a c
  | wsConnect a c ep => exact sim_wsConnect cfg s a c ep
  | wsClose a c => exact sim_wsClose cfg s a c
  | deliver b => exact sim_deliver cfg hall s b

theorem sim_empty : Sim {} {} := by
  refine ⟨empty_wf, keysNodup_nil, ?_, ?_, ?_⟩
  · intro a; rfl
  · intro x; cases x <;> rfl
  · intro x; cases x <;> rfl

theorem histOk_of_sim (cfg : Cfg) (hall : cfg.rangeAll = true) (ops : List Op) :
    ∀ (m : Mux) (r : Reg), Sim m r → histOk r (trace cfg m ops) = true := by
  induction ops with
  | nil => intro m r _; rfl
  | cons op t ih =>
    intro m r s
    simp only [trace, histOk, Bool.and_eq_true]
    exact ⟨sim_events cfg hall s op, ih _ _ (sim_step cfg hall s op)⟩

end Dtn7.Delivery.Lemmas
