import Dtn7.Model.EidText
import Dtn7.Lemmas.Decimal

/-! Endpoint URI text ↔ structure. -/
namespace Dtn7.EidText.Lemmas
open Dtn7.Cbor (Bytes)
open Dtn7.Cbor.Lemmas (takeWhile_sep dropWhile_sep)
open Dtn7.Wire Dtn7.EidText

theorem isDot_of_isNodeChar (b : UInt8) (h : isNodeChar b = true) : isDot b = true := by
  unfold isNodeChar isAlnum isDigit isAlpha at h
  unfold isDot
  simp only [Bool.or_eq_true, Bool.and_eq_true, decide_eq_true_eq] at h
  simp only [ne_eq, decide_not, Bool.not_eq_eq_eq_not, Bool.not_true, decide_eq_false_iff_not]
  omega

theorem isDot_of_isDigit (b : UInt8) (h : isDigit b = true) : isDot b = true :=
  isDot_of_isNodeChar b (by simp [isNodeChar, isAlnum, h])

theorem all_imp {p q : UInt8 → Bool} (l : Bytes) (h : ∀ b, p b = true → q b = true) (hl : l.all p = true) :
    l.all q = true := by
  rw [List.all_eq_true] at hl ⊢
  exact fun b hb => h b (hl b hb)

theorem parseDtnSsp_print (node demux : Bytes) (hn : node ≠ []) (hnc : node.all isNodeChar = true)
    (hd : demux.all isDot = true) :
    parseDtnSsp ([cSlash, cSlash] ++ node ++ [cSlash] ++ demux) = .ok (node, demux) := by
  have hs : isNodeChar 47 = false := by decide
  have e : [cSlash, cSlash] ++ node ++ [cSlash] ++ demux = 47 :: 47 :: (node ++ 47 :: demux) := by
    simp [cSlash]
  rw [e]
  simp only [parseDtnSsp]
  rw [takeWhile_sep node demux 47 hnc hs, dropWhile_sep node demux 47 hnc hs]
  have : node.isEmpty = false := by cases node <;> simp_all
  simp [this, hd]

theorem parseDtnSsp_ok (ssp node demux : Bytes) (h : parseDtnSsp ssp = .ok (node, demux)) :
    ssp = [cSlash, cSlash] ++ node ++ [cSlash] ++ demux ∧ node ≠ [] ∧ node.all isNodeChar = true ∧
      demux.all isDot = true := by
  unfold parseDtnSsp at h
  split at h
  · rename_i r
    split at h
    · rename_i demux' hdw
      by_cases hc : ((List.takeWhile isNodeChar r).isEmpty || !demux'.all isDot) = true
      · rw [if_pos hc] at h; exact absurd h (by simp)
      · rw [if_neg hc] at h
        simp only [Except.ok.injEq, Prod.mk.injEq] at h
        obtain ⟨h1, h2⟩ := h
        subst h2
        simp only [Bool.or_eq_true, Bool.not_eq_true', not_or, Bool.not_eq_true, Bool.not_eq_false] at hc
        have hr : r = List.takeWhile isNodeChar r ++ List.dropWhile isNodeChar r :=
          List.takeWhile_append_dropWhile.symm
        rw [hdw, h1] at hr
        refine ⟨?_, ?_, ?_, hc.2⟩
        · rw [hr]; simp [cSlash]
        · intro hnil; rw [← h1] at hnil; rw [hnil] at hc; simp at hc
        · rw [← h1]; exact List.all_takeWhile
    · exact absurd h (by simp)
  · exact absurd h (by simp)

/-- `parseUri` on a text whose scheme part is known. -/
theorem parseUri_sep (strict : Bool) (scheme ssp : Bytes) (ha : scheme.all isAlnum = true) :
    parseUri strict (scheme ++ cColon :: ssp) =
      if scheme.isEmpty || ssp.isEmpty || !ssp.all isDot then .error .badEid
      else if scheme = sDtn then
        if ssp = sNone then .ok .none
        else match parseDtnSsp ssp with
          | .ok (node, demux) => .ok (.dtn node demux)
          | .error e => .error e
      else if scheme = sIpn then parseIpnSsp strict ssp
      else .error .badEid := by
  rw [parseUri, takeWhile_sep scheme ssp cColon ha (by decide), dropWhile_sep scheme ssp cColon ha (by decide)]
  rfl

theorem parseUri_dtn_ssp (strict : Bool) (ssp : Bytes) (hne : ssp ≠ []) (hdot : ssp.all isDot = true)
    (hnone : ssp ≠ sNone) :
    parseUri strict (sDtn ++ cColon :: ssp) = match parseDtnSsp ssp with
      | .ok (node, demux) => .ok (.dtn node demux)
      | .error e => .error e := by
  have hne' : ssp.isEmpty = false := by simpa using hne
  rw [parseUri_sep strict sDtn ssp (by decide), hdot, hne', if_neg (by decide), if_pos rfl, if_neg hnone]

theorem parseUri_ipn_ssp (strict : Bool) (ssp : Bytes) (hne : ssp ≠ []) (hdot : ssp.all isDot = true) :
    parseUri strict (sIpn ++ cColon :: ssp) = parseIpnSsp strict ssp := by
  have hne' : ssp.isEmpty = false := by simpa using hne
  rw [parseUri_sep strict sIpn ssp (by decide), hdot, hne', if_neg (by decide), if_neg (by decide), if_pos rfl]

theorem parseUri_none (strict : Bool) : parseUri strict (printUri .none) = .ok .none := by
  cases strict <;> rfl

theorem parseUri_dtn (strict : Bool) (node demux : Bytes) (hn : node ≠ []) (hnc : node.all isNodeChar = true)
    (hd : demux.all isDot = true) : parseUri strict (printUri (.dtn node demux)) = .ok (.dtn node demux) := by
  have e : printUri (.dtn node demux) = sDtn ++ cColon :: (cSlash :: cSlash :: (node ++ cSlash :: demux)) := by
    simp [printUri]
  have e' : cSlash :: cSlash :: (node ++ cSlash :: demux) = [cSlash, cSlash] ++ node ++ [cSlash] ++ demux := by simp
  rw [e, parseUri_dtn_ssp strict _ (List.cons_ne_nil _ _) ?_ (by simp [cSlash, sNone]), e',
    parseDtnSsp_print node demux hn hnc hd]
  simp only [List.all_cons, List.all_append, Bool.and_eq_true]
  exact ⟨by decide, by decide, all_imp node isDot_of_isNodeChar hnc, by decide, hd⟩

theorem parseIpnSsp_print (strict : Bool) (n s : Nat) (hn1 : 1 ≤ n) (hn : n < 2 ^ 64) (hs1 : 1 ≤ s) (hs : s < 2 ^ 64) :
    parseIpnSsp strict (printDec n ++ [cPoint] ++ printDec s) = .ok (.ipn n s) := by
  have e : printDec n ++ [cPoint] ++ printDec s = printDec n ++ 46 :: printDec s := by simp [cPoint]
  rw [e]
  unfold parseIpnSsp
  rw [takeWhile_sep _ _ 46 (printDec_all_digit n) (by decide), dropWhile_sep _ _ 46 (printDec_all_digit n) (by decide)]
  simp only [parseDec_printDec]
  simp [hn, hs, hn1, hs1]

theorem parseUri_ipn (strict : Bool) (n s : Nat) (hn1 : 1 ≤ n) (hn : n < 2 ^ 64) (hs1 : 1 ≤ s) (hs : s < 2 ^ 64) :
    parseUri strict (printUri (.ipn n s)) = .ok (.ipn n s) := by
  have e : printUri (.ipn n s) = sIpn ++ cColon :: (printDec n ++ [cPoint] ++ printDec s) := by
    simp [printUri]
  rw [e, parseUri_ipn_ssp strict _ (by simp) ?_, parseIpnSsp_print strict n s hn1 hn hs1 hs]
  simp only [List.all_append, Bool.and_eq_true]
  exact ⟨⟨all_imp _ isDot_of_isDigit (printDec_all_digit n), by decide⟩,
    all_imp _ isDot_of_isDigit (printDec_all_digit s)⟩

/-- **print → parse**: every valid endpoint is recovered from its text. -/
theorem parse_print (strict : Bool) (e : Eid) (hv : Valid e) : parseUri strict (printUri e) = .ok e := by
  cases e with
  | none => exact parseUri_none strict
  | dtn node demux => exact parseUri_dtn strict node demux hv.1 hv.2.1 hv.2.2
  | ipn n s => exact parseUri_ipn strict n s hv.1 hv.2.1 hv.2.2.1 hv.2.2.2

theorem parseIpnSsp_ok (ssp : Bytes) (e : Eid) (h : parseIpnSsp true ssp = .ok e) :
    ∃ n s, e = .ipn n s ∧ ssp = printDec n ++ [cPoint] ++ printDec s ∧ 1 ≤ n ∧ n < 2 ^ 64 ∧ 1 ≤ s ∧ s < 2 ^ 64 := by
  unfold parseIpnSsp at h
  split at h
  · rename_i r hdw
    split at h
    · rename_i n s hpn hps
      by_cases hc : n < 2 ^ 64 ∧ s < 2 ^ 64 ∧ 1 ≤ n ∧ 1 ≤ s
      · rw [if_pos hc] at h
        simp only [Except.ok.injEq] at h
        refine ⟨n, s, h.symm, ?_, hc.2.2.1, hc.1, hc.2.2.2, hc.2.1⟩
        have hr : ssp = List.takeWhile isDigit ssp ++ List.dropWhile isDigit ssp :=
          List.takeWhile_append_dropWhile.symm
        rw [hdw, ← printDec_of_parseDec _ _ hpn, ← printDec_of_parseDec _ _ hps] at hr
        rw [hr]; simp [cPoint]
      · rw [if_neg hc] at h; exact absurd h (by simp)
    · exact absurd h (by simp)
  · exact absurd h (by simp)

/-- **parse → print** (`strictZeros := true`, the ipn pattern without leading zeros that /repo has): the
accepted text is exactly the text the resulting endpoint prints as, and the endpoint is valid. -/
theorem print_parse (s : Bytes) (e : Eid) (h : parseUri true s = .ok e) : printUri e = s ∧ Valid e := by
  unfold parseUri at h
  have hs : s = List.takeWhile isAlnum s ++ List.dropWhile isAlnum s := List.takeWhile_append_dropWhile.symm
  split at h
  · rename_i ssp hdw
    rw [hdw] at hs
    by_cases hc : ((List.takeWhile isAlnum s).isEmpty || ssp.isEmpty || !ssp.all isDot) = true
    · rw [if_pos hc] at h; exact absurd h (by simp)
    · rw [if_neg hc] at h
      by_cases hsch : List.takeWhile isAlnum s = sDtn
      · rw [if_pos hsch] at h
        by_cases hnone : ssp = sNone
        · rw [if_pos hnone] at h
          simp only [Except.ok.injEq] at h
          subst h
          refine ⟨?_, trivial⟩
          rw [hs, hsch, hnone]
          simp [printUri, cColon]
        · rw [if_neg hnone] at h
          split at h
          · rename_i node demux hp
            simp only [Except.ok.injEq] at h
            subst h
            obtain ⟨h1, h2, h3, h4⟩ := parseDtnSsp_ok ssp node demux hp
            refine ⟨?_, h2, h3, h4⟩
            rw [hs, hsch, h1]
            simp [printUri, cColon, cSlash]
          · exact absurd h (by simp)
      · rw [if_neg hsch] at h
        by_cases hipn : List.takeWhile isAlnum s = sIpn
        · rw [if_pos hipn] at h
          obtain ⟨n, sv, he, hssp, h1, h2, h3, h4⟩ := parseIpnSsp_ok ssp e h
          subst he
          refine ⟨?_, h1, h2, h3, h4⟩
          rw [hs, hipn, hssp]
          simp [printUri, cColon, cPoint]
        · rw [if_neg hipn] at h; exact absurd h (by simp)
  · exact absurd h (by simp)

theorem reject_unknown_scheme (strict : Bool) (scheme ssp : Bytes) (ha : scheme.all isAlnum = true)
    (h1 : scheme ≠ sDtn) (h2 : scheme ≠ sIpn) : parseUri strict (scheme ++ cColon :: ssp) = .error .badEid := by
  rw [parseUri_sep strict scheme ssp ha, if_neg h1, if_neg h2]
  split <;> rfl

theorem reject_newline (strict : Bool) (scheme ssp : Bytes) (ha : scheme.all isAlnum = true)
    (hnl : (10 : UInt8) ∈ ssp) : parseUri strict (scheme ++ cColon :: ssp) = .error .badEid := by
  have : ssp.all isDot = false := by
    rw [List.all_eq_false]
    exact ⟨10, hnl, by decide⟩
  rw [parseUri_sep strict scheme ssp ha, this, if_pos (by simp)]

theorem reject_empty_node (strict : Bool) (demux : Bytes) :
    parseUri strict (sDtn ++ [cColon, cSlash, cSlash, cSlash] ++ demux) = .error .badEid := by
  have e : sDtn ++ [cColon, cSlash, cSlash, cSlash] ++ demux = sDtn ++ cColon :: (cSlash :: cSlash :: cSlash :: demux) := by
    simp
  rw [e, parseUri_sep strict sDtn _ (by decide)]
  have hs : isNodeChar 47 = false := by decide
  simp only [cSlash, parseDtnSsp, List.takeWhile_cons, List.dropWhile_cons, hs, sDtn, sNone]
  simp

theorem reject_ipn_zero_or_big (strict : Bool) (n s : Nat) (h : n = 0 ∨ s = 0 ∨ 2 ^ 64 ≤ n ∨ 2 ^ 64 ≤ s) :
    parseUri strict (printUri (.ipn n s)) = .error .badEid := by
  have e : printUri (.ipn n s) = sIpn ++ cColon :: (printDec n ++ cPoint :: printDec s) := by
    simp [printUri]
  have hdot : (printDec n ++ cPoint :: printDec s).all isDot = true := by
    simp only [List.all_append, List.all_cons, Bool.and_eq_true]
    exact ⟨all_imp _ isDot_of_isDigit (printDec_all_digit n), by decide,
      all_imp _ isDot_of_isDigit (printDec_all_digit s)⟩
  rw [e, parseUri_ipn_ssp strict _ (by simp) hdot, parseIpnSsp,
    takeWhile_sep _ _ cPoint (printDec_all_digit n) (by decide),
    dropWhile_sep _ _ cPoint (printDec_all_digit n) (by decide)]
  have : ¬ (n < 2 ^ 64 ∧ s < 2 ^ 64 ∧ 1 ≤ n ∧ 1 ≤ s) := by omega
  simp [this, cPoint, parseDec_printDec]

end Dtn7.EidText.Lemmas
