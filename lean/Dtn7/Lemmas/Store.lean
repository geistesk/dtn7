import Dtn7.Model.Store

/-!
C08. Push, update and delete act on the durable state `(index, files)` through three frame lemmas:
`files_frame` (files no index entry refers to are invisible), `index_put` and `index_del` (one entry
changes, the others and all files stay); the replacement of a part's file, the one step that changes
a referenced file, has its own (`replace_frame`). `exec_refines` is the refinement of the reference map
`specStep`; `plan_shape` lists the shapes a plan can have, and crash safety, "no step fails" and "no
unreferenced file" are read off those shapes.
-/
namespace Dtn7.Store.Lemmas

section AList
variable {κ : Type} {α β : Type} [DecidableEq κ]

@[simp] theorem get_nil (k : κ) : get k ([] : List (κ × α)) = none := rfl

theorem get_cons (k k' : κ) (v : α) (r : List (κ × α)) :
    get k ((k', v) :: r) = if k' = k then some v else get k r := rfl

theorem get_put_self (k : κ) (v : α) (l : List (κ × α)) : get k (put k v l) = some v := by
  induction l with
  | nil => simp [put, get_cons]
  | cons e r ih =>
    obtain ⟨k', v'⟩ := e
    by_cases h : k' = k <;> simp [put, get_cons, h, ih]

theorem get_put_ne (k k₂ : κ) (v : α) (l : List (κ × α)) (h : k ≠ k₂) :
    get k₂ (put k v l) = get k₂ l := by
  induction l with
  | nil => simp [put, get_cons, h]
  | cons e r ih =>
    obtain ⟨k', v'⟩ := e
    by_cases h' : k' = k
    · subst h'; simp [put, get_cons, h]
    · simp only [put, h', if_false, get_cons, ih]

theorem get_del_self (k : κ) (l : List (κ × α)) : get k (del k l) = none := by
  induction l with
  | nil => rfl
  | cons e r ih =>
    obtain ⟨k', v'⟩ := e
    by_cases h : k' = k
    · simpa [del, h] using ih
    · simpa [del, h, get_cons] using ih

theorem get_del_ne (k k₂ : κ) (l : List (κ × α)) (h : k ≠ k₂) : get k₂ (del k l) = get k₂ l := by
  induction l with
  | nil => rfl
  | cons e r ih =>
    obtain ⟨k', v'⟩ := e
    by_cases h' : k' = k
    · subst h'
      have : get k₂ (del k' r) = get k₂ r := ih
      simpa [del, get_cons, h] using this
    · have : get k₂ (del k r) = get k₂ r := ih
      simp only [del, List.filter, h', decide_false, Bool.not_false, get_cons] at this ⊢
      rw [this]

theorem get_none_iff (k : κ) (l : List (κ × α)) : get k l = none ↔ k ∉ keys l := by
  induction l with
  | nil => simp [keys]
  | cons e r ih =>
    obtain ⟨k', v'⟩ := e
    by_cases h : k' = k
    · simp [get_cons, keys, h]
    · have h2 : ¬ k = k' := fun e => h e.symm
      simp only [get_cons, h, if_false, ih, keys, List.map_cons, List.mem_cons, h2, false_or]

theorem get_some_mem {k : κ} {v : α} {l : List (κ × α)} (h : get k l = some v) : (k, v) ∈ l := by
  induction l with
  | nil => simp at h
  | cons e r ih =>
    obtain ⟨k', v'⟩ := e
    by_cases h' : k' = k
    · subst h'; simp [get_cons] at h; simp [h]
    · simp only [get_cons, h', if_false] at h
      exact List.mem_cons_of_mem _ (ih h)

theorem get_of_mem {k : κ} {v : α} {l : List (κ × α)} (hn : (keys l).Nodup) (h : (k, v) ∈ l) :
    get k l = some v := by
  induction l with
  | nil => simp at h
  | cons e r ih =>
    obtain ⟨k', v'⟩ := e
    simp only [keys, List.map_cons, List.nodup_cons] at hn
    rcases List.mem_cons.mp h with h | h
    · injection h with h1 h2; subst h1 h2; simp [get_cons]
    · have hk : k ∈ keys r := List.mem_map.mpr ⟨(k, v), h, rfl⟩
      have hne : k' ≠ k := fun e => hn.1 (e ▸ hk)
      simp only [get_cons, hne, if_false]
      exact ih hn.2 h

theorem put_of_get_none {k : κ} (v : α) {l : List (κ × α)} (h : get k l = none) :
    put k v l = l ++ [(k, v)] := by
  induction l with
  | nil => rfl
  | cons e r ih =>
    obtain ⟨k', v'⟩ := e
    by_cases h' : k' = k
    · simp [get_cons, h'] at h
    · simp only [get_cons, h', if_false] at h
      simp [put, h', ih h]

theorem keys_put_of_some {k : κ} (v : α) {l : List (κ × α)} (h : (get k l).isSome) :
    keys (put k v l) = keys l := by
  induction l with
  | nil => simp at h
  | cons e r ih =>
    obtain ⟨k', v'⟩ := e
    by_cases h' : k' = k
    · simp [put, keys, h']
    · simp only [get_cons, h', if_false] at h
      have := ih h
      simp only [keys] at this
      simp [put, keys, h', this]

theorem keys_put_of_none {k : κ} (v : α) {l : List (κ × α)} (h : get k l = none) :
    keys (put k v l) = keys l ++ [k] := by
  rw [put_of_get_none v h]; simp [keys]

theorem keys_del (k : κ) (l : List (κ × α)) : keys (del k l) = (keys l).filter (fun x => !decide (x = k)) := by
  induction l with
  | nil => rfl
  | cons e r ih =>
    obtain ⟨k', v'⟩ := e
    simp only [keys] at ih
    by_cases h : k' = k <;> simp [del, keys, h] <;> simpa [del] using ih

theorem nodup_keys_put {k : κ} (v : α) {l : List (κ × α)} (hn : (keys l).Nodup) :
    (keys (put k v l)).Nodup := by
  cases h : get k l with
  | none =>
    rw [keys_put_of_none v h]
    have : k ∉ keys l := (get_none_iff k l).mp h
    exact List.nodup_append.mpr ⟨hn, by simp, by
      intro a ha b hb
      simp only [List.mem_singleton] at hb
      subst hb; intro e; exact this (e ▸ ha)⟩
  | some x =>
    rw [keys_put_of_some v (by simp [h])]; exact hn

theorem nodup_keys_del (k : κ) {l : List (κ × α)} (hn : (keys l).Nodup) : (keys (del k l)).Nodup := by
  rw [keys_del]; exact hn.filter _

theorem map_put_congr (k : κ) (v : α) (l : List (κ × α)) (f g : α → β) (hn : (keys l).Nodup)
    (h : ∀ e ∈ l, e.1 ≠ k → f e.2 = g e.2) :
    (put k v l).map (fun e => (e.1, f e.2)) = put k (f v) (l.map (fun e => (e.1, g e.2))) := by
  induction l with
  | nil => rfl
  | cons e r ih =>
    obtain ⟨k', v'⟩ := e
    simp only [keys, List.map_cons, List.nodup_cons] at hn
    have ih' := ih hn.2 (fun e he => h e (List.mem_cons_of_mem _ he))
    by_cases h' : k' = k
    · subst h'
      simp only [put, if_true, List.map_cons]
      congr 1
      refine List.map_congr_left (fun e he => ?_)
      have hk : e.1 ≠ k' := fun heq => hn.1 (heq ▸ List.mem_map.mpr ⟨e, he, rfl⟩)
      rw [h e (List.mem_cons_of_mem _ he) hk]
    · have := h (k', v') (by simp) h'
      simp only at this
      simp only [put, h', if_false, List.map_cons, ih', this]

theorem map_del (k : κ) (l : List (κ × α)) (f : α → β) :
    (del k l).map (fun e => (e.1, f e.2)) = del k (l.map (fun e => (e.1, f e.2))) := by
  induction l with
  | nil => rfl
  | cons e r ih =>
    obtain ⟨k', v'⟩ := e
    simp only [del] at ih
    by_cases h : k' = k <;> simp [del, h, ih]

theorem get_map (k : κ) (l : List (κ × α)) (f : α → β) :
    get k (l.map (fun e => (e.1, f e.2))) = (get k l).map f := by
  induction l with
  | nil => rfl
  | cons e r ih =>
    obtain ⟨k', v'⟩ := e
    by_cases h : k' = k <;> simp [get_cons, h, ih]

omit [DecidableEq κ] in
theorem keys_map (l : List (κ × α)) (f : α → β) :
    keys (l.map (fun e => (e.1, f e.2))) = keys l := by
  simp [keys, List.map_map, Function.comp_def]

theorem put_same {k : κ} {v : α} {l : List (κ × α)} (h : get k l = some v) : put k v l = l := by
  induction l with
  | nil => simp at h
  | cons e r ih =>
    obtain ⟨k', v'⟩ := e
    by_cases h' : k' = k
    · subst h'; simp only [get_cons, if_true, Option.some.injEq] at h; subst h; simp [put]
    · simp only [get_cons, h', if_false] at h
      simp [put, h', ih h]

theorem foldl_del_eq_filter (ks : List κ) (m : List (κ × α)) :
    ks.foldl (fun m k => del k m) m = m.filter (fun e => !decide (e.1 ∈ ks)) := by
  induction ks generalizing m with
  | nil =>
    simp only [List.foldl_nil, List.not_mem_nil, decide_false, Bool.not_false]
    exact (List.filter_eq_self.mpr (fun _ _ => rfl)).symm
  | cons k r ih =>
    simp only [List.foldl_cons]
    rw [ih (del k m)]
    simp only [del, List.filter_filter]
    refine List.filter_congr (fun e _ => ?_)
    by_cases h1 : e.1 = k <;> by_cases h2 : e.1 ∈ r <;> simp [h1, h2]

theorem filter_keys_filter (m : List (κ × α)) (hn : (keys m).Nodup) (p : κ × α → Bool) :
    m.filter (fun e => !decide (e.1 ∈ keys (m.filter p))) = m.filter (fun e => !p e) := by
  refine List.filter_congr (fun e he => ?_)
  congr 1
  by_cases hp : p e = true
  · have : e.1 ∈ keys (m.filter p) := List.mem_map.mpr ⟨e, List.mem_filter.mpr ⟨he, hp⟩, rfl⟩
    simp [this, hp]
  · have : e.1 ∉ keys (m.filter p) := by
      intro hk
      obtain ⟨e', he', hk'⟩ := List.mem_map.mp hk
      have hm := (List.mem_filter.mp he')
      have g1 : get e.1 m = some e'.2 := get_of_mem hn (by rw [← hk']; exact hm.1)
      have g2 : get e.1 m = some e.2 := get_of_mem hn he
      have : e' = e := by
        rw [g1] at g2; injection g2 with g2
        exact Prod.ext hk' g2
      rw [this] at hm; exact hp hm.2
    simp [this, hp]

end AList

section Shape
variable (parse : Bytes → Option Bundle)

def removeAll (ns : List Name) (fs : List (Name × Bytes)) : List (Name × Bytes) :=
  ns.foldl (fun fs n => del n fs) fs

theorem runSteps_append (s : State) (a b : List Step) :
    runSteps s (a ++ b) = runSteps (runSteps s a) b := by
  induction a generalizing s with
  | nil => rfl
  | cons x r ih => simp [runSteps, ih]

theorem runSteps_removes (s : State) (ns : List Name) :
    runSteps s (ns.map Step.removeFile) = { s with files := removeAll ns s.files } := by
  induction ns generalizing s with
  | nil => rfl
  | cons n r ih => simp [runSteps, applyStep, ih, removeAll]

theorem get_removeAll_of_not_mem (n : Name) (ns : List Name) (fs : List (Name × Bytes))
    (h : n ∉ ns) : get n (removeAll ns fs) = get n fs := by
  induction ns generalizing fs with
  | nil => rfl
  | cons m r ih =>
    simp only [List.mem_cons, not_or] at h
    simp only [removeAll, List.foldl_cons]
    have := ih (del m fs) h.2
    simp only [removeAll] at this
    rw [this, get_del_ne m n fs (fun e => h.1 e.symm)]

theorem get_removeAll_of_mem (n : Name) (ns : List Name) (fs : List (Name × Bytes))
    (h : n ∈ ns) : get n (removeAll ns fs) = none := by
  induction ns generalizing fs with
  | nil => simp at h
  | cons m r ih =>
    simp only [removeAll, List.foldl_cons]
    by_cases hr : n ∈ r
    · exact ih (del m fs) hr
    · have hm : n = m := by
        rcases List.mem_cons.mp h with h | h
        · exact h
        · exact absurd h hr
      subst hm
      have := get_removeAll_of_not_mem n r (del n fs) hr
      simp only [removeAll] at this
      rw [this, get_del_self]

def writtenFiles (s : State) (b : Bundle) : List (Name × Bytes) :=
  put (partOf b).name (overwrite b.bytes ((get (partOf b).name s.files).getD [])) s.files

theorem plan_push_new (s : State) (b : Bundle) (h : get b.id s.index = none) :
    plan parse s (.push b) = [.writeFile (partOf b).name b.bytes, .idxInsert b.id (newItem b)] := by
  simp only [plan, h]

theorem exec_push_new (s : State) (b : Bundle) (h : get b.id s.index = none) :
    exec parse s (.push b) = ⟨put b.id (newItem b) s.index, writtenFiles s b⟩ := by
  simp [exec, plan_push_new parse s b h, h, runSteps, applyStep, writtenFiles]

/-- The pushed fragment's offset and total are not stored yet (and record and bundle are fragments):
the push adds a part. -/
def pushCond (b : Bundle) (it : Item) : Bool :=
  b.frag.isSome && it.fragmented && !(it.parts.any (sameFrag b))

theorem plan_push_frag (s : State) (b : Bundle) (it : Item) (h : get b.id s.index = some it)
    (hc : pushCond b it = true) :
    plan parse s (.push b) =
      [.writeFile (partOf b).name b.bytes, .idxUpdate b.id { it with parts := it.parts ++ [partOf b] }] := by
  simp only [pushCond, Bool.and_eq_true, Bool.not_eq_true'] at hc
  simp only [plan, h, hc.1.1, hc.1.2, hc.2, Bool.and_self, if_true, Bool.false_eq_true, if_false]

theorem exec_push_frag (s : State) (b : Bundle) (it : Item) (h : get b.id s.index = some it)
    (hc : pushCond b it = true) :
    exec parse s (.push b) =
      ⟨put b.id { it with parts := it.parts ++ [partOf b] } s.index, writtenFiles s b⟩ := by
  simp [exec, plan_push_frag parse s b it h hc, h, runSteps, applyStep, writtenFiles]

theorem crash1_push (s : State) (b : Bundle) (st : Step)
    (hp : plan parse s (.push b) = [.writeFile (partOf b).name b.bytes, st]) :
    crash parse 1 s (.push b) = ⟨s.index, writtenFiles s b⟩ := by
  rw [crash, hp]
  rfl

/-- The pushed fragment's offset and total are already stored. -/
def pushKnown (b : Bundle) (it : Item) : Bool :=
  b.frag.isSome && it.fragmented && it.parts.any (sameFrag b)

/-- The stored fragment loads with a payload at least as long as the pushed one. -/
def keepsStored (s : State) (b : Bundle) : Bool :=
  match loadPart parse s (partOf b) with
  | some st => decide (b.payLen ≤ st.payLen)
  | none => false

/-- Neither a new nor a known fragment: the push is not that of a fragment onto a fragment record. -/
theorem push_ignored {b : Bundle} {it : Item} (hc : pushCond b it = false) (hk : pushKnown b it = false) :
    (b.frag.isSome && it.fragmented) = false := by
  unfold pushCond at hc
  unfold pushKnown at hk
  cases hF : (b.frag.isSome && it.fragmented) with
  | false => rfl
  | true =>
    rw [hF, Bool.true_and] at hc hk
    rw [hk] at hc
    cases hc

theorem plan_push_ignored (s : State) (b : Bundle) (it : Item) (h : get b.id s.index = some it)
    (hc : pushCond b it = false) (hk : pushKnown b it = false) : plan parse s (.push b) = [] := by
  simp only [plan, h, push_ignored hc hk, Bool.false_eq_true, if_false]

theorem plan_push_known (s : State) (b : Bundle) (it : Item) (h : get b.id s.index = some it)
    (hk : pushKnown b it = true) :
    plan parse s (.push b) =
      if keepsStored parse s b then [] else replaceSteps (partOf b).name b.bytes := by
  simp only [pushKnown, Bool.and_eq_true] at hk
  simp only [plan, h, hk.1.1, hk.1.2, hk.2, Bool.and_self, if_true]
  unfold keepsStored
  split <;> rename_i hl <;> simp [hl]

theorem pushCond_known_excl (b : Bundle) (it : Item) (hc : pushCond b it = true) :
    pushKnown b it = false := by
  simp only [pushCond, pushKnown, Bool.and_eq_true, Bool.not_eq_true'] at hc ⊢
  simp [hc.2]

/-- Files after `replaceBundle` wrote the temporary file / after it renamed it. -/
def tmpFiles (s : State) (n : Name) (d : Bytes) : List (Name × Bytes) := put (tmpOf n) d s.files
def replacedFiles (s : State) (n : Name) (d : Bytes) : List (Name × Bytes) :=
  put n d (del (tmpOf n) (tmpFiles s n d))

theorem run_replaceSteps (s : State) (n : Name) (d : Bytes) :
    runSteps s (replaceSteps n d) = ⟨s.index, replacedFiles s n d⟩ := by
  simp [replaceSteps, runSteps, applyStep, get_put_self, replacedFiles, tmpFiles]

theorem plan_replace_none (s : State) (b : Bundle) (h : get b.id s.index = none) :
    plan parse s (.replace b) = [] := by
  simp [plan, h]

theorem plan_replace_nopart (s : State) (b : Bundle) (it : Item) (h : get b.id s.index = some it)
    (hf : it.parts.find? (sameFrag b) = none) : plan parse s (.replace b) = [] := by
  simp [plan, h, hf]

theorem plan_replace_part (s : State) (b : Bundle) (it : Item) (p : Part)
    (h : get b.id s.index = some it) (hf : it.parts.find? (sameFrag b) = some p) :
    plan parse s (.replace b) = replaceSteps p.name b.bytes := by
  simp [plan, h, hf]

theorem exec_update_some (s : State) (id : Id) (pe : Bool) (ex : Nat) (pr : Props) (it : Item)
    (h : get id s.index = some it) :
    exec parse s (.update id pe ex pr) =
      ⟨put id { it with pending := pe, expires := ex, props := pr } s.index, s.files⟩ := by
  simp [exec, plan, h, runSteps, applyStep]

theorem plan_update_none (s : State) (id : Id) (pe : Bool) (ex : Nat) (pr : Props)
    (h : get id s.index = none) : plan parse s (.update id pe ex pr) = [] := by
  simp [plan, h]

theorem plan_delete_none (s : State) (id : Id) (h : get id s.index = none) :
    plan parse s (.delete id) = [] := by
  simp [plan, h]

/-- State after the index entry and the files `ns` were removed. -/
def deleted (s : State) (id : Id) (ns : List Name) : State := ⟨del id s.index, removeAll ns s.files⟩

theorem run_delete_take (s : State) (id : Id) (ps : List Part) (k : Nat) :
    runSteps s ((Step.idxDelete id :: ps.map (fun p => Step.removeFile p.name)).take (k + 1)) =
      deleted s id ((ps.take k).map (·.name)) := by
  have : (ps.map (fun p => Step.removeFile p.name)).take k =
      ((ps.take k).map (·.name)).map Step.removeFile := by
    simp [List.map_take, List.map_map, Function.comp_def]
  simp only [List.take_succ_cons, runSteps, applyStep, this, runSteps_removes, deleted]

theorem run_delete (s : State) (id : Id) (ps : List Part) :
    runSteps s (Step.idxDelete id :: ps.map (fun p => Step.removeFile p.name)) =
      deleted s id (ps.map (·.name)) := by
  have := run_delete_take s id ps ps.length
  rwa [List.take_of_length_le (by simp), List.take_length] at this

theorem crash_delete_some (s : State) (id : Id) (it : Item) (h : get id s.index = some it) (k : Nat) :
    crash parse (k + 1) s (.delete id) = deleted s id ((it.parts.take k).map (·.name)) := by
  simp only [crash, plan, h]
  exact run_delete_take s id it.parts k

theorem exec_delete_some (s : State) (id : Id) (it : Item) (h : get id s.index = some it) :
    exec parse s (.delete id) = deleted s id (it.parts.map (·.name)) := by
  simp only [exec, plan, h]
  exact run_delete s id it.parts

end Shape

section Inv
variable (parse : Bytes → Option Bundle)

/-- One index entry is consistent with the files. -/
structure ItemOk (s : State) (id : Id) (it : Item) : Prop where
  /-- a part's file name is derived from the item's id and, for fragments, the part's offset/total -/
  names : ∀ p ∈ it.parts, p.name = ⟨id, if it.fragmented then some (p.off, p.total) else none, false⟩
  /-- each (offset, total) once -/
  nodup : (it.parts.map (fun p => (p.off, p.total))).Nodup
  /-- an unfragmented item has exactly one part -/
  whole : it.fragmented = false → ∃ p, it.parts = [p]
  nonempty : it.parts ≠ []
  /-- the part of an unfragmented item has offset and total 0 -/
  whole0 : it.fragmented = false → ∀ p ∈ it.parts, p.off = 0 ∧ p.total = 0
  /-- fragments have a positive total length -/
  totals : it.fragmented = true → ∀ p ∈ it.parts, 0 < p.total
  /-- every part's file exists and parses to a bundle of this id with this part's offset/total -/
  readable : ∀ p ∈ it.parts, ∃ b, loadPart parse s p = some b ∧ b.id = id ∧ b.frag = p.name.frag

/-- The invariant every reachable state satisfies, *including* states left by a process kill:
the index is a map and every entry is readable. Unreferenced files are allowed. -/
def Inv' (s : State) : Prop :=
  (keys s.index).Nodup ∧ ∀ id it, get id s.index = some it → ItemOk parse s id it

/-- No unreferenced file. -/
def NoOrphans (s : State) : Prop :=
  ∀ n, (get n s.files).isSome → ∃ id it, get id s.index = some it ∧ ∃ p ∈ it.parts, p.name = n

/-- The invariant of states reached without a crash. -/
def Inv (s : State) : Prop := Inv' parse s ∧ NoOrphans s

theorem inv'_empty : Inv' parse State.empty := ⟨by simp [State.empty, keys], by simp [State.empty]⟩

theorem inv_empty : Inv parse State.empty := ⟨inv'_empty parse, by simp [NoOrphans, State.empty]⟩

theorem loadPart_congr {s s' : State} {p : Part} (h : get p.name s'.files = get p.name s.files) :
    loadPart parse s' p = loadPart parse s p := by
  simp [loadPart, h]

theorem absItem_congr {s s' : State} {it : Item}
    (h : ∀ p ∈ it.parts, get p.name s'.files = get p.name s.files) :
    absItem parse s' it = absItem parse s it := by
  simp only [absItem]
  congr 1
  exact List.map_congr_left (fun p hp => by rw [loadPart_congr parse (h p hp)])

/-- `ItemOk` reads the state only through the files of the item's own parts, and the item only
through `fragmented` and `parts`. -/
theorem ItemOk.congr {s s' : State} {id : Id} {it it' : Item} (h : ItemOk parse s id it)
    (hfr : it'.fragmented = it.fragmented) (hps : it'.parts = it.parts)
    (hf : ∀ p ∈ it.parts, get p.name s'.files = get p.name s.files) : ItemOk parse s' id it' where
  names := by rw [hfr, hps]; exact h.names
  nodup := by rw [hps]; exact h.nodup
  whole := by rw [hfr, hps]; exact h.whole
  nonempty := by rw [hps]; exact h.nonempty
  whole0 := by rw [hfr, hps]; exact h.whole0
  totals := by rw [hfr, hps]; exact h.totals
  readable := by
    rw [hps]
    intro p hp
    rw [loadPart_congr parse (hf p hp)]
    exact h.readable p hp

/-- Files that differ only on names of bundle `id0` do not matter to items of other ids. -/
theorem ItemOk.frame {s s' : State} {id id0 : Id} {it : Item} (h : ItemOk parse s id it)
    (hne : id ≠ id0) (hf : ∀ n : Name, n.id ≠ id0 → get n s'.files = get n s.files) :
    ItemOk parse s' id it ∧ absItem parse s' it = absItem parse s it := by
  have hp : ∀ p ∈ it.parts, get p.name s'.files = get p.name s.files := by
    intro p hp
    apply hf
    rw [h.names p hp]; exact hne
  exact ⟨h.congr parse rfl rfl hp, absItem_congr parse hp⟩

theorem get_abs (s : State) (id : Id) :
    get id (abs parse s) = (get id s.index).map (absItem parse s) := by
  simp only [abs]; exact get_map id s.index (absItem parse s)

theorem keys_abs (s : State) : keys (abs parse s) = keys s.index := by
  simp only [abs]; exact keys_map s.index (absItem parse s)

theorem files_frame {s : State} (h : Inv' parse s) (fs' : List (Name × Bytes))
    (hf : ∀ id it p, get id s.index = some it → p ∈ it.parts → get p.name fs' = get p.name s.files) :
    Inv' parse ⟨s.index, fs'⟩ ∧ abs parse ⟨s.index, fs'⟩ = abs parse s :=
  ⟨⟨h.1, fun id it hg => (h.2 id it hg).congr parse rfl rfl (hf id it · hg)⟩,
   List.map_congr_left fun e he => congrArg (Prod.mk e.1)
     (absItem_congr parse (s := s) (s' := ⟨s.index, fs'⟩) fun p hp => hf e.1 e.2 p (get_of_mem h.1 he) hp)⟩

theorem index_put {s : State} (h : Inv' parse s) (id : Id) (it : Item) (ok : ItemOk parse s id it) :
    Inv' parse ⟨put id it s.index, s.files⟩ ∧
      abs parse ⟨put id it s.index, s.files⟩ = put id (absItem parse s it) (abs parse s) := by
  refine ⟨⟨nodup_keys_put it h.1, fun id' it' hg => ?_⟩,
    map_put_congr id it s.index _ _ h.1 (fun e _ _ => rfl)⟩
  by_cases hid : id = id'
  · subst hid
    rw [get_put_self] at hg
    cases hg
    exact ok.congr parse rfl rfl (fun _ _ => rfl)
  · rw [get_put_ne id id' it s.index hid] at hg
    exact (h.2 id' it' hg).congr parse rfl rfl (fun _ _ => rfl)

theorem index_del {s : State} (h : Inv' parse s) (id : Id) :
    Inv' parse ⟨del id s.index, s.files⟩ ∧
      abs parse ⟨del id s.index, s.files⟩ = del id (abs parse s) := by
  refine ⟨⟨nodup_keys_del id h.1, fun id' it' hg => ?_⟩, map_del id s.index _⟩
  by_cases hid : id = id'
  · subst hid
    rw [get_del_self] at hg
    cases hg
  · rw [get_del_ne id id' s.index hid] at hg
    exact (h.2 id' it' hg).congr parse rfl rfl (fun _ _ => rfl)

theorem frag_eq (b : Bundle) : b.frag = if b.frag.isSome then some (bOff b, bTotal b) else none := by
  cases h : b.frag with
  | none => rfl
  | some x => simp [bOff, bTotal, h]

theorem key_zero_of_none {b : Bundle} (h : b.frag.isSome = false) : bOff b = 0 ∧ bTotal b = 0 := by
  cases hf : b.frag with
  | none => simp [bOff, bTotal, hf]
  | some x => simp [hf] at h

theorem name_iff_key {s : State} {it : Item} {b : Bundle} (ok : ItemOk parse s b.id it)
    (hflag : b.frag.isSome = it.fragmented) {p : Part} (hp : p ∈ it.parts) :
    p.name = (partOf b).name ↔ (p.off, p.total) = fragKey b := by
  rw [ok.names p hp]
  cases hf : it.fragmented with
  | true =>
    rw [hf] at hflag
    have hb : b.frag = some (bOff b, bTotal b) := by rw [frag_eq b, if_pos hflag]
    simp only [if_true, partOf, fragKey]
    constructor
    · intro e
      injection e with _ e _
      rw [hb] at e; injection e
    · intro e; rw [hb, e]
  | false =>
    rw [hf] at hflag
    have hb : b.frag = none := by
      cases hx : b.frag with
      | none => rfl
      | some x => simp [hx] at hflag
    obtain ⟨h0, h1⟩ := ok.whole0 hf p hp
    obtain ⟨k0, k1⟩ := key_zero_of_none hflag
    simp [partOf, fragKey, hb, h0, h1, k0, k1]

theorem ItemOk.id_of_name {s : State} {id : Id} {it : Item} (ok : ItemOk parse s id it) {p : Part}
    (hp : p ∈ it.parts) {b : Bundle} (e : p.name = (partOf b).name) : id = b.id := by
  have := congrArg Name.id ((ok.names p hp).symm.trans e)
  simpa [partOf] using this

theorem written_frame (s : State) (b : Bundle) (n : Name) (h : n ≠ (partOf b).name) :
    get n (writtenFiles s b) = get n s.files := by
  simp only [writtenFiles]
  exact get_put_ne _ _ _ _ (fun e => h e.symm)

theorem load_written {b : Bundle} (hwf : WF parse b) (s : State) (idx : List (Id × Item)) :
    loadPart parse ⟨idx, writtenFiles s b⟩ (partOf b) = some b := by
  simp only [loadPart, writtenFiles, get_put_self, Option.bind_some, overwrite]
  exact hwf.1 _

/-- The file `Push` writes is not referenced by the index at that moment. -/
def PushUnref (s : State) (b : Bundle) : Prop :=
  ∀ id it p, get id s.index = some it → p ∈ it.parts → p.name ≠ (partOf b).name

theorem pushUnref_new {s : State} (h : Inv' parse s) (b : Bundle) (hn : get b.id s.index = none) :
    PushUnref s b := by
  intro id it p hg hp e
  have hid := (h.2 id it hg).id_of_name parse hp e
  subst hid
  rw [hn] at hg
  cases hg

theorem pushUnref_frag {s : State} (h : Inv' parse s) (b : Bundle) (it0 : Item)
    (hs : get b.id s.index = some it0) (hc : pushCond b it0 = true) : PushUnref s b := by
  intro id it p hg hp e
  have hid := (h.2 id it hg).id_of_name parse hp e
  subst hid
  rw [hs] at hg
  cases hg
  simp only [pushCond, Bool.and_eq_true, Bool.not_eq_true', List.any_eq_false] at hc
  have hk := (name_iff_key parse (h.2 b.id it0 hs) (hc.1.1.trans hc.1.2.symm) hp).mp e
  exact hc.2 p hp (by simp [sameFrag, hk])

/-- After the part file was written (crash point `push:*:file-written`): nothing visible changed. -/
theorem push_written {s : State} (h : Inv' parse s) (b : Bundle) (hu : PushUnref s b) :
    Inv' parse ⟨s.index, writtenFiles s b⟩ ∧ abs parse ⟨s.index, writtenFiles s b⟩ = abs parse s :=
  files_frame parse h _ (fun id it p hg hp => written_frame s b p.name (hu id it p hg hp))

def pushedRecord (b : Bundle) : Record :=
  ⟨b.frag.isSome, [(fragKey b, content b)], false, b.expires, []⟩

theorem bTotal_pos {b : Bundle} (hwf : WF parse b) (h : b.frag.isSome = true) : 0 < bTotal b := by
  cases hf : b.frag with
  | none => simp [hf] at h
  | some x =>
    obtain ⟨o, t⟩ := x
    have := hwf.2 o t hf
    simpa [bTotal, hf] using this

theorem itemOk_new {b : Bundle} (hwf : WF parse b) (s : State) (idx : List (Id × Item)) :
    ItemOk parse ⟨idx, writtenFiles s b⟩ b.id (newItem b) where
  names := by
    intro p hp
    simp only [newItem, List.mem_singleton] at hp
    subst hp
    exact congrArg (fun f => Name.mk b.id f false) (frag_eq b)
  nodup := by simp [newItem]
  whole := fun _ => ⟨partOf b, rfl⟩
  nonempty := by simp [newItem]
  whole0 := by
    intro hf p hp
    simp only [newItem, List.mem_singleton] at hp hf
    subst hp
    exact key_zero_of_none hf
  totals := by
    intro hf p hp
    simp only [newItem, List.mem_singleton] at hp hf
    subst hp
    exact bTotal_pos parse hwf hf
  readable := by
    intro p hp
    simp only [newItem, List.mem_singleton] at hp
    subst hp
    exact ⟨b, load_written parse hwf s idx, rfl, rfl⟩

theorem push_new {s : State} (h : Inv' parse s) {b : Bundle} (hwf : WF parse b)
    (hn : get b.id s.index = none) :
    Inv' parse (exec parse s (.push b)) ∧
      abs parse (exec parse s (.push b)) = put b.id (pushedRecord b) (abs parse s) := by
  rw [exec_push_new parse s b hn]
  obtain ⟨h1, a1⟩ := push_written parse h b (pushUnref_new parse h b hn)
  obtain ⟨h2, a2⟩ := index_put parse h1 b.id (newItem b) (itemOk_new parse hwf s s.index)
  refine ⟨h2, ?_⟩
  rw [a2, a1]
  congr 1
  simp only [absItem, newItem, pushedRecord, List.map_cons, List.map_nil,
    load_written parse hwf s s.index, Option.map_some]
  rfl

theorem push_frag {s : State} (h : Inv' parse s) {b : Bundle} (hwf : WF parse b) (it : Item)
    (hs : get b.id s.index = some it) (hc : pushCond b it = true) :
    Inv' parse (exec parse s (.push b)) ∧
      abs parse (exec parse s (.push b)) =
        put b.id { absItem parse s it with
          parts := (absItem parse s it).parts ++ [(fragKey b, content b)] } (abs parse s) := by
  rw [exec_push_frag parse s b it hs hc]
  have hu := pushUnref_frag parse h b it hs hc
  obtain ⟨h1, a1⟩ := push_written parse h b hu
  have ok1 : ItemOk parse ⟨s.index, writtenFiles s b⟩ b.id it := h1.2 b.id it hs
  simp only [pushCond, Bool.and_eq_true, Bool.not_eq_true', List.any_eq_false] at hc
  have hfr : it.fragmented = true := hc.1.2
  have ok2 : ItemOk parse ⟨s.index, writtenFiles s b⟩ b.id
      { it with parts := it.parts ++ [partOf b] } :=
    { names := by
        intro p hp
        simp only [List.mem_append, List.mem_singleton] at hp
        rcases hp with hp | hp
        · exact ok1.names p hp
        · subst hp
          simp only [hfr, if_true, partOf]
          rw [frag_eq b, if_pos hc.1.1]
      nodup := by
        simp only [List.map_append, List.map_cons, List.map_nil]
        refine List.nodup_append.mpr ⟨ok1.nodup, by simp, ?_⟩
        intro a ha c hc'
        simp only [List.mem_singleton] at hc'
        subst hc'
        obtain ⟨p, hp, rfl⟩ := List.mem_map.mp ha
        intro e
        apply hc.2 p hp
        simp only [sameFrag, fragKey, partOf] at e ⊢
        rw [e]; exact beq_self_eq_true _
      whole := fun hf => by simp [hfr] at hf
      nonempty := by simp
      whole0 := fun hf => by simp [hfr] at hf
      totals := by
        intro _ p hp
        simp only [List.mem_append, List.mem_singleton] at hp
        rcases hp with hp | hp
        · exact ok1.totals hfr p hp
        · subst hp; exact bTotal_pos parse hwf hc.1.1
      readable := by
        intro p hp
        simp only [List.mem_append, List.mem_singleton] at hp
        rcases hp with hp | hp
        · exact ok1.readable p hp
        · subst hp
          exact ⟨b, load_written parse hwf s s.index, rfl, rfl⟩ }
  obtain ⟨h2, a2⟩ := index_put parse h1 b.id _ ok2
  refine ⟨h2, ?_⟩
  rw [a2, a1]
  congr 1
  have hold : absItem parse ⟨s.index, writtenFiles s b⟩ it = absItem parse s it :=
    absItem_congr parse (fun p hp => written_frame s b p.name (hu b.id it p hs hp))
  have hl := load_written parse hwf s s.index
  simp only [absItem] at hold ⊢
  simp only [List.map_append, List.map_cons, List.map_nil, hl, Option.map_some]
  injection hold with _ hparts
  rw [hparts]
  rfl

theorem update_some {s : State} (h : Inv' parse s) (id : Id) (pe : Bool) (ex : Nat) (pr : Props)
    (it : Item) (hs : get id s.index = some it) :
    Inv' parse (exec parse s (.update id pe ex pr)) ∧
      abs parse (exec parse s (.update id pe ex pr)) =
        put id { absItem parse s it with pending := pe, expires := ex, props := pr } (abs parse s) := by
  rw [exec_update_some parse s id pe ex pr it hs]
  exact index_put parse h id _ ((h.2 id it hs).congr parse rfl rfl (fun _ _ => rfl))

/-- The crash argument for `Delete`: once the index entry of `id` is gone, removing any files that
belong to `id` (all of its parts, or the first `k` of them when the process is killed) changes nothing
a reader sees, because no remaining entry refers to a file named after `id`. -/
theorem delete_frame {s : State} (h : Inv' parse s) (id : Id) (ns : List Name)
    (hns : ∀ n ∈ ns, n.id = id) :
    Inv' parse (deleted s id ns) ∧ abs parse (deleted s id ns) = del id (abs parse s) := by
  obtain ⟨h1, a1⟩ := index_del parse h id
  have := files_frame parse h1 (removeAll ns s.files) (by
    intro id' it' p hg hp
    apply get_removeAll_of_not_mem
    intro hmem
    have hid : id' ≠ id := by
      intro e; subst e
      simp only at hg
      rw [get_del_self] at hg; cases hg
    have hn := (h1.2 id' it' hg).names p hp
    have := hns _ hmem
    rw [hn] at this
    exact hid this)
  exact ⟨this.1, by rw [← a1]; exact this.2⟩

theorem part_names_id {s : State} {id : Id} {it : Item} (ok : ItemOk parse s id it) (ps : List Part)
    (hps : ∀ p ∈ ps, p ∈ it.parts) : ∀ n ∈ ps.map (·.name), n.id = id := by
  intro n hn
  obtain ⟨p, hp, rfl⟩ := List.mem_map.mp hn
  rw [ok.names p (hps p hp)]

theorem delete_some {s : State} (h : Inv' parse s) (id : Id) (it : Item)
    (hs : get id s.index = some it) :
    Inv' parse (exec parse s (.delete id)) ∧ abs parse (exec parse s (.delete id)) = del id (abs parse s) := by
  rw [exec_delete_some parse s id it hs]
  exact delete_frame parse h id _ (part_names_id parse (h.2 id it hs) it.parts (fun _ hp => hp))

theorem del_abs_of_none {s : State} (id : Id) (hs : get id s.index = none) :
    del id (abs parse s) = abs parse s := by
  have : id ∉ keys (abs parse s) := by rw [keys_abs]; exact (get_none_iff id s.index).mp hs
  simp only [del]
  apply List.filter_eq_self.mpr
  intro e he
  simp only [Bool.not_eq_true', decide_eq_false_iff_not]
  intro e'; exact this (e' ▸ List.mem_map.mpr ⟨e, he, rfl⟩)

/-! ### Replacing a part file (`replaceBundle`) -/

theorem tmp_frame (s : State) (n : Name) (d : Bytes) (m : Name) (hm : m.tmp = false) :
    get m (tmpFiles s n d) = get m s.files := by
  simp only [tmpFiles]
  exact get_put_ne _ _ _ _ (fun e => by rw [← e] at hm; simp [tmpOf] at hm)

theorem replaced_frame (s : State) (n : Name) (d : Bytes) (m : Name) (hm : m.tmp = false) (hne : m ≠ n) :
    get m (replacedFiles s n d) = get m s.files := by
  have h1 : tmpOf n ≠ m := fun e => by rw [← e] at hm; simp [tmpOf] at hm
  simp only [replacedFiles]
  rw [get_put_ne _ _ _ _ (fun e => hne e.symm), get_del_ne _ _ _ h1, tmp_frame s n d m hm]

theorem part_not_tmp {s : State} {id : Id} {it : Item} (ok : ItemOk parse s id it) {p : Part}
    (hp : p ∈ it.parts) : p.name.tmp = false := by rw [ok.names p hp]

/-- After the temporary file was written (crash point `replace:tmp-written`): nothing visible changed. -/
theorem tmp_written {s : State} (h : Inv' parse s) (n : Name) (d : Bytes) :
    Inv' parse ⟨s.index, tmpFiles s n d⟩ ∧ abs parse ⟨s.index, tmpFiles s n d⟩ = abs parse s :=
  files_frame parse h _ (fun id it p hg hp => tmp_frame s n d p.name (part_not_tmp parse (h.2 id it hg) hp))

theorem replace_frame {s : State} (h : Inv' parse s) (it : Item) (b : Bundle) (hwf : WF parse b)
    (hg : get b.id s.index = some it) (hflag : b.frag.isSome = it.fragmented)
    (fs' : List (Name × Bytes))
    (hfs : ∀ m : Name, m.tmp = false → m ≠ (partOf b).name → get m fs' = get m s.files)
    (hnew : get (partOf b).name fs' = some b.bytes) :
    Inv' parse ⟨s.index, fs'⟩ ∧
      abs parse ⟨s.index, fs'⟩ =
        put b.id { absItem parse s it with
          parts := setPart (fragKey b) (content b) (absItem parse s it).parts } (abs parse s) := by
  have hload : ∀ p : Part, p.name = (partOf b).name → loadPart parse ⟨s.index, fs'⟩ p = some b := by
    intro p hp
    simp only [loadPart, hp, hnew, Option.bind_some]
    simpa using hwf.1 []
  have hother : ∀ id' it' p, get id' s.index = some it' → p ∈ it'.parts → p.name ≠ (partOf b).name →
      loadPart parse ⟨s.index, fs'⟩ p = loadPart parse s p := by
    intro id' it' p hg' hp hne
    exact loadPart_congr parse (hfs p.name (part_not_tmp parse (h.2 id' it' hg') hp) hne)
  refine ⟨⟨h.1, ?_⟩, ?_⟩
  · intro id' it' hg'
    have ok := h.2 id' it' hg'
    refine ⟨ok.names, ok.nodup, ok.whole, ok.nonempty, ok.whole0, ok.totals, ?_⟩
    intro p hp
    by_cases hn : p.name = (partOf b).name
    · refine ⟨b, hload p hn, (ok.id_of_name parse hp hn).symm, ?_⟩
      rw [hn]; rfl
    · obtain ⟨b', hb'⟩ := ok.readable p hp
      exact ⟨b', by rw [hother id' it' p hg' hp hn]; exact hb'.1, hb'.2⟩
  · have ok := h.2 b.id it hg
    simp only [abs]
    have hidx : s.index.map (fun e => (e.1, absItem parse ⟨s.index, fs'⟩ e.2)) =
        (put b.id it s.index).map (fun e => (e.1, absItem parse ⟨s.index, fs'⟩ e.2)) := by
      rw [put_same hg]
    rw [hidx, map_put_congr b.id it s.index (absItem parse ⟨s.index, fs'⟩) (absItem parse s) h.1]
    · congr 1
      simp only [absItem, setPart, List.map_map]
      congr 1
      refine List.map_congr_left (fun p hp => ?_)
      simp only [Function.comp]
      by_cases hk : (p.off, p.total) = fragKey b
      · rw [if_pos hk, hload p ((name_iff_key parse ok hflag hp).mpr hk), hk]; rfl
      · rw [if_neg hk, hother b.id it p hg hp (fun e => hk ((name_iff_key parse ok hflag hp).mp e))]
    · intro e he hne
      have hg' : get e.1 s.index = some e.2 := get_of_mem h.1 he
      refine absItem_congr parse (fun p hp => ?_)
      apply hfs p.name (part_not_tmp parse (h.2 e.1 e.2 hg') hp)
      exact fun hn => hne ((h.2 e.1 e.2 hg').id_of_name parse hp hn)

theorem replaced_ok {s : State} (h : Inv' parse s) (it : Item) (b : Bundle) (hwf : WF parse b)
    (hg : get b.id s.index = some it) (hflag : b.frag.isSome = it.fragmented) :
    Inv' parse ⟨s.index, replacedFiles s (partOf b).name b.bytes⟩ ∧
      abs parse ⟨s.index, replacedFiles s (partOf b).name b.bytes⟩ =
        put b.id { absItem parse s it with
          parts := setPart (fragKey b) (content b) (absItem parse s it).parts } (abs parse s) :=
  replace_frame parse h it b hwf hg hflag _
    (fun m hm hne => replaced_frame s _ _ m hm hne) (get_put_self _ _ _)

theorem absItem_hasKey (s : State) (it : Item) (b : Bundle) :
    hasKey (fragKey b) (absItem parse s it).parts = it.parts.any (sameFrag b) := by
  simp only [hasKey, absItem, List.any_map]
  rfl

/-- The Spec's "the pushed fragment is longer than what reads back" is the code's comparison after
`compPart.Load()`. -/
theorem replaces_abs {s : State} {it : Item} {b : Bundle} (ok : ItemOk parse s b.id it)
    (hflag : b.frag.isSome = it.fragmented) (hany : it.parts.any (sameFrag b) = true) :
    replaces (((absItem parse s it).parts.find? (fun p => p.1 == fragKey b)).bind (·.2)) b =
      !keepsStored parse s b := by
  cases hf : (absItem parse s it).parts.find? (fun p => p.1 == fragKey b) with
  | none =>
    exfalso
    rw [List.find?_eq_none] at hf
    obtain ⟨p, hp, hs⟩ := List.any_eq_true.mp hany
    exact hf _ (List.mem_map.mpr ⟨p, hp, rfl⟩) (by simpa [sameFrag] using hs)
  | some x =>
    have hx := List.mem_of_find?_eq_some hf
    have hpred := List.find?_some hf
    simp only [absItem] at hx
    obtain ⟨p, hp, rfl⟩ := List.mem_map.mp hx
    have hk : (p.off, p.total) = fragKey b := by simpa using hpred
    have hl : loadPart parse s p = loadPart parse s (partOf b) := by
      rw [loadPart, loadPart, (name_iff_key parse ok hflag hp).mpr hk]
    simp only [Option.bind_some, hl, keepsStored]
    cases loadPart parse s (partOf b) with
    | none => rfl
    | some st =>
      simp only [Option.map_some, replaces]
      by_cases hle : b.payLen ≤ st.payLen
      · simp [hle, Nat.not_lt.mpr hle]
      · simp [hle, Nat.lt_of_not_le hle]

/-- A part with `b`'s offset and total sits in a record of `b`'s kind. This is what `0 < t` in `WF`
and the fields `whole0` / `totals` of `ItemOk` are for: an unfragmented bundle has the key `(0, 0)`,
which no fragment has. -/
theorem flag_of_key {s : State} {it : Item} {b : Bundle} (ok : ItemOk parse s b.id it)
    (hwf : WF parse b) {p : Part} (hp : p ∈ it.parts) (hk : (p.off, p.total) = fragKey b) :
    b.frag.isSome = it.fragmented := by
  have ht : p.total = bTotal b := congrArg Prod.snd hk
  cases hf : it.fragmented with
  | true =>
    have := ok.totals hf p hp
    cases hb : b.frag.isSome with
    | true => rfl
    | false => have := (key_zero_of_none hb).2; omega
  | false =>
    have := (ok.whole0 hf p hp).2
    cases hb : b.frag.isSome with
    | false => rfl
    | true => have := bTotal_pos parse hwf hb; omega

/-- Pushed / replacing bundles are parseable by the parser in use (and fragments have a positive
total length). -/
def OpWF : Op → Prop
  | .push b => WF parse b
  | .replace b => WF parse b
  | _ => True

def CmdWF : Cmd → Prop
  | .op o => OpWF parse o
  | _ => True

theorem push_cases (b : Bundle) (it : Item) :
    pushCond b it = true ∨ pushKnown b it = true ∨ (pushCond b it = false ∧ pushKnown b it = false) := by
  simp only [pushCond, pushKnown]
  cases b.frag.isSome <;> cases it.fragmented <;> cases it.parts.any (sameFrag b) <;> simp

theorem known_flag {b : Bundle} {it : Item} (hk : pushKnown b it = true) :
    b.frag.isSome = it.fragmented ∧ it.parts.any (sameFrag b) = true ∧ b.frag.isSome = true := by
  simp only [pushKnown, Bool.and_eq_true] at hk
  exact ⟨by rw [hk.1.1, hk.1.2], hk.2, hk.1.1⟩

theorem find_sameFrag {it : Item} {b : Bundle} {p : Part} (hf : it.parts.find? (sameFrag b) = some p) :
    p ∈ it.parts ∧ (p.off, p.total) = fragKey b :=
  ⟨List.mem_of_find?_eq_some hf, by simpa [sameFrag] using List.find?_some hf⟩

/-- The shapes a plan can have in a consistent state, each with the facts the proofs about plans use:
nothing; a part file written, then a new index entry or one more part in the entry; a part file of the
entry replaced through the temporary file; the entry rewritten with the same parts; the entry deleted,
then its files. -/
inductive Shape (s : State) : List Step → Prop
  | none : Shape s []
  | insert (b : Bundle) : get b.id s.index = none →
      Shape s [.writeFile (partOf b).name b.bytes, .idxInsert b.id (newItem b)]
  | append (b : Bundle) (it : Item) : get b.id s.index = some it → pushCond b it = true →
      Shape s [.writeFile (partOf b).name b.bytes, .idxUpdate b.id { it with parts := it.parts ++ [partOf b] }]
  | replace (id : Id) (it : Item) (p : Part) (d : Bytes) : get id s.index = some it → p ∈ it.parts →
      Shape s (replaceSteps p.name d)
  | update (id : Id) (it it' : Item) : get id s.index = some it → it'.parts = it.parts →
      Shape s [.idxUpdate id it']
  | delete (id : Id) (it : Item) : get id s.index = some it →
      Shape s (.idxDelete id :: it.parts.map (fun p => .removeFile p.name))

theorem plan_shape {s : State} (h : Inv' parse s) (op : Op) : Shape s (plan parse s op) := by
  cases op with
  | push b =>
    cases hg : get b.id s.index with
    | none => rw [plan_push_new parse s b hg]; exact .insert b hg
    | some it =>
      rcases push_cases b it with hc | hk | ⟨hc, hk⟩
      · rw [plan_push_frag parse s b it hg hc]; exact .append b it hg hc
      · rw [plan_push_known parse s b it hg hk]
        cases keepsStored parse s b with
        | true => exact .none
        | false =>
          obtain ⟨hflag, hany, _⟩ := known_flag hk
          obtain ⟨p, hp, hs⟩ := List.any_eq_true.mp hany
          have hkey : (p.off, p.total) = fragKey b := by simpa [sameFrag] using hs
          rw [if_neg Bool.false_ne_true, ← (name_iff_key parse (h.2 b.id it hg) hflag hp).mpr hkey]
          exact .replace b.id it p _ hg hp
      · rw [plan_push_ignored parse s b it hg hc hk]; exact .none
  | update id pe ex pr =>
    cases hg : get id s.index with
    | none => rw [plan_update_none parse s id pe ex pr hg]; exact .none
    | some it => simp only [plan, hg]; exact .update id it _ hg rfl
  | delete id =>
    cases hg : get id s.index with
    | none => rw [plan_delete_none parse s id hg]; exact .none
    | some it => simp only [plan, hg]; exact .delete id it hg
  | replace b =>
    cases hg : get b.id s.index with
    | none => rw [plan_replace_none parse s b hg]; exact .none
    | some it =>
      cases hf : it.parts.find? (sameFrag b) with
      | none => rw [plan_replace_nopart parse s b it hg hf]; exact .none
      | some p =>
        rw [plan_replace_part parse s b it p hg hf]
        exact .replace b.id it p _ hg (find_sameFrag hf).1

theorem exec_refines {s : State} (h : Inv' parse s) (op : Op) (hw : OpWF parse op) :
    Inv' parse (exec parse s op) ∧ abs parse (exec parse s op) = specStep (abs parse s) (.op op) := by
  cases op with
  | push b =>
    cases hg : get b.id s.index with
    | none =>
      obtain ⟨h1, a1⟩ := push_new parse h hw hg
      refine ⟨h1, ?_⟩
      rw [a1]
      simp only [specStep, get_abs, hg, Option.map_none]
      rfl
    | some it =>
      have hga : get b.id (abs parse s) = some (absItem parse s it) := by simp [get_abs, hg]
      simp only [specStep, hga, absItem_hasKey]
      rcases push_cases b it with hc | hk | ⟨hc, hk⟩
      · obtain ⟨h1, a1⟩ := push_frag parse h hw it hg hc
        refine ⟨h1, ?_⟩
        rw [a1]
        simp only [pushCond, Bool.and_eq_true, Bool.not_eq_true'] at hc
        have hcond : (b.frag.isSome && (absItem parse s it).fragmented) = true := by
          show (b.frag.isSome && it.fragmented) = true
          rw [hc.1.1, hc.1.2]; rfl
        rw [if_pos hcond, hc.2]; rfl
      · obtain ⟨hflag, hany, hfr⟩ := known_flag hk
        have hcond : (b.frag.isSome && (absItem parse s it).fragmented) = true := by
          show (b.frag.isSome && it.fragmented) = true
          rw [← hflag, hfr]; rfl
        rw [if_pos hcond, hany, if_pos rfl, replaces_abs parse (h.2 b.id it hg) hflag hany]
        simp only [exec, plan_push_known parse s b it hg hk]
        cases hks : keepsStored parse s b with
        | true => exact ⟨h, rfl⟩
        | false =>
          show Inv' parse (runSteps s (replaceSteps _ _)) ∧
            abs parse (runSteps s (replaceSteps _ _)) = put _ _ _
          rw [run_replaceSteps]
          exact replaced_ok parse h it b hw hg hflag
      · simp only [exec, plan_push_ignored parse s b it hg hc hk, runSteps]
        refine ⟨h, ?_⟩
        show abs parse s = if (b.frag.isSome && it.fragmented) = true then _ else _
        rw [push_ignored hc hk, if_neg Bool.false_ne_true]
  | update id pe ex pr =>
    cases hg : get id s.index with
    | none =>
      simp only [exec, plan_update_none parse s id pe ex pr hg, runSteps]
      exact ⟨h, by simp [specStep, get_abs, hg]⟩
    | some it =>
      obtain ⟨h1, a1⟩ := update_some parse h id pe ex pr it hg
      exact ⟨h1, by rw [a1]; simp [specStep, get_abs, hg]⟩
  | delete id =>
    cases hg : get id s.index with
    | none =>
      simp only [exec, plan_delete_none parse s id hg, runSteps]
      exact ⟨h, by simp only [specStep]; rw [del_abs_of_none parse id hg]⟩
    | some it =>
      obtain ⟨h1, a1⟩ := delete_some parse h id it hg
      exact ⟨h1, by rw [a1]; rfl⟩
  | replace b =>
    cases hg : get b.id s.index with
    | none =>
      simp only [exec, plan_replace_none parse s b hg, runSteps]
      exact ⟨h, by simp [specStep, get_abs, hg]⟩
    | some it =>
      have hga : get b.id (abs parse s) = some (absItem parse s it) := by simp [get_abs, hg]
      simp only [specStep, hga, absItem_hasKey]
      cases hf : it.parts.find? (sameFrag b) with
      | none =>
        have hany : it.parts.any (sameFrag b) = false := List.any_eq_false.mpr (List.find?_eq_none.mp hf)
        simp only [exec, plan_replace_nopart parse s b it hg hf, runSteps, hany]
        exact ⟨h, rfl⟩
      | some p =>
        obtain ⟨hp, hkey⟩ := find_sameFrag hf
        have ok := h.2 b.id it hg
        have hflag := flag_of_key parse ok hw hp hkey
        have hname := (name_iff_key parse ok hflag hp).mpr hkey
        have hany : it.parts.any (sameFrag b) = true :=
          List.any_eq_true.mpr ⟨p, hp, by simpa [sameFrag] using hkey⟩
        simp only [exec, plan_replace_part parse s b it p hg hf, run_replaceSteps, hany, if_true, hname]
        exact replaced_ok parse h it b hw hg hflag

theorem crash_replaceSteps (s : State) (n : Name) (d : Bytes) (op : Op)
    (hp : plan parse s op = replaceSteps n d) :
    crash parse 1 s op = ⟨s.index, tmpFiles s n d⟩ := by
  simp [crash, hp, replaceSteps, runSteps, applyStep, tmpFiles]

theorem crash_two {s : State} (h : Inv' parse s) (a b : Step)
    (h1 : Inv' parse (applyStep s a) ∧ abs parse (applyStep s a) = abs parse s)
    (h2 : Inv' parse (runSteps s [a, b])) (k : Nat) :
    Inv' parse (runSteps s ([a, b].take k)) ∧
      (abs parse (runSteps s ([a, b].take k)) = abs parse s ∨
        abs parse (runSteps s ([a, b].take k)) = abs parse (runSteps s [a, b])) := by
  match k with
  | 0 => exact ⟨h, Or.inl rfl⟩
  | 1 => exact ⟨h1.1, Or.inl h1.2⟩
  | k + 2 =>
    rw [List.take_of_length_le (Nat.le_add_left 2 k)]
    exact ⟨h2, Or.inr rfl⟩

theorem crash_cases {s : State} (h : Inv' parse s) (op : Op) (hw : OpWF parse op) (k : Nat) :
    Inv' parse (crash parse k s op) ∧
      (abs parse (crash parse k s op) = abs parse s ∨
        abs parse (crash parse k s op) = abs parse (exec parse s op)) := by
  have hex := (exec_refines parse h op hw).1
  have sh := plan_shape parse h op
  unfold crash
  unfold exec at hex ⊢
  generalize plan parse s op = pl at sh hex ⊢
  cases sh with
  | none => rw [List.take_nil]; exact ⟨h, Or.inl rfl⟩
  | insert b hg =>
    exact crash_two parse h (.writeFile _ _) _ (push_written parse h b (pushUnref_new parse h b hg)) hex k
  | append b it hg hc =>
    exact crash_two parse h (.writeFile _ _) _
      (push_written parse h b (pushUnref_frag parse h b it hg hc)) hex k
  | replace id it p d hg hp =>
    exact crash_two parse h (.writeTmp _ _) (.renameTmp _) (tmp_written parse h p.name d) hex k
  | update id it it' hg _ =>
    match k with
    | 0 => exact ⟨h, Or.inl rfl⟩
    | k + 1 =>
      rw [List.take_of_length_le (Nat.le_add_left 1 k)]
      exact ⟨hex, Or.inr rfl⟩
  | delete id it hg =>
    match k with
    | 0 => exact ⟨h, Or.inl rfl⟩
    | k + 1 =>
      rw [run_delete_take, run_delete]
      have ok := h.2 id it hg
      have hk := delete_frame parse h id _
        (part_names_id parse ok (it.parts.take k) (fun _ hp => List.mem_of_mem_take hp))
      have hf := delete_frame parse h id _ (part_names_id parse ok it.parts (fun _ hp => hp))
      exact ⟨hk.1, Or.inr (hk.2.trans hf.2.symm)⟩

end Inv

section Inv
variable (parse : Bytes → Option Bundle)

theorem deleteMany {s : State} (h : Inv' parse s) (ids : List Id) :
    Inv' parse (ids.foldl (fun s id => exec parse s (.delete id)) s) ∧
      abs parse (ids.foldl (fun s id => exec parse s (.delete id)) s) =
        ids.foldl (fun m id => del id m) (abs parse s) := by
  induction ids generalizing s with
  | nil => exact ⟨h, rfl⟩
  | cons id r ih =>
    obtain ⟨h1, a1⟩ := exec_refines parse h (.delete id) trivial
    obtain ⟨h2, a2⟩ := ih h1
    refine ⟨h2, ?_⟩
    simp only [List.foldl_cons]
    rw [a2, a1]; rfl

theorem expiredIds_abs (s : State) (now : Nat) :
    expiredIds s now = keys ((abs parse s).filter (fun e => decide (e.2.expires < now))) := by
  simp only [expiredIds, abs, keys, List.filter_map, List.map_map]
  rfl

theorem sweep_refines {s : State} (h : Inv' parse s) (now : Nat) :
    Inv' parse (sweep parse s now) ∧ abs parse (sweep parse s now) = specStep (abs parse s) (.sweep now) := by
  obtain ⟨h1, a1⟩ := deleteMany parse h (expiredIds s now)
  refine ⟨h1, ?_⟩
  simp only [sweep, a1, foldl_del_eq_filter, specStep]
  rw [expiredIds_abs parse s now]
  exact filter_keys_filter (abs parse s) (by rw [keys_abs]; exact h.1) _

theorem step_refines {s : State} (h : Inv' parse s) (c : Cmd) (hw : CmdWF parse c) :
    Inv' parse (step parse s c) ∧ abs parse (step parse s c) = specStep (abs parse s) c := by
  cases c with
  | op o => exact exec_refines parse h o hw
  | sweep now => exact sweep_refines parse h now
  | reopen => exact ⟨h, rfl⟩

theorem run_refines {s : State} (h : Inv' parse s) (cs : List Cmd) (hw : ∀ c ∈ cs, CmdWF parse c) :
    Inv' parse (run parse s cs) ∧ abs parse (run parse s cs) = specRun (abs parse s) cs := by
  induction cs generalizing s with
  | nil => exact ⟨h, rfl⟩
  | cons c r ih =>
    obtain ⟨h1, a1⟩ := step_refines parse h c (hw c (by simp))
    obtain ⟨h2, a2⟩ := ih h1 (fun c hc => hw c (List.mem_cons_of_mem _ hc))
    refine ⟨h2, ?_⟩
    simp only [run, specRun, List.foldl_cons] at a2 ⊢
    rw [a2, a1]

theorem names_nodup {s : State} {id : Id} {it : Item} (ok : ItemOk parse s id it) :
    (it.parts.map (·.name)).Nodup := by
  cases hf : it.fragmented with
  | false =>
    obtain ⟨p, hp⟩ := ok.whole hf
    simp [hp]
  | true =>
    have hnd := ok.nodup
    simp only [List.Nodup, List.pairwise_map] at hnd ⊢
    refine hnd.imp_of_mem ?_
    intro a b ha hb hne e
    rw [ok.names a ha, ok.names b hb] at e
    simp only [hf, if_true] at e
    injection e with _ e
    injection e with e
    exact hne e

theorem stepsOk_removes (idx : List (Id × Item)) (ns : List Name) (fs : List (Name × Bytes))
    (hn : ns.Nodup) (hex : ∀ n ∈ ns, (get n fs).isSome) :
    stepsOk ⟨idx, fs⟩ (ns.map Step.removeFile) = true := by
  induction ns generalizing fs with
  | nil => rfl
  | cons n r ih =>
    simp only [List.nodup_cons] at hn
    simp only [List.map_cons, stepsOk, stepOk, applyStep, Bool.and_eq_true]
    refine ⟨hex n (by simp), ih _ hn.2 ?_⟩
    intro m hm
    have : n ≠ m := fun e => hn.1 (e ▸ hm)
    rw [get_del_ne n m fs this]
    exact hex m (List.mem_cons_of_mem _ hm)

theorem file_exists {s : State} {id : Id} {it : Item} (ok : ItemOk parse s id it) :
    ∀ n ∈ it.parts.map (·.name), (get n s.files).isSome := by
  intro n hn
  obtain ⟨p, hp, rfl⟩ := List.mem_map.mp hn
  obtain ⟨b, hb, _⟩ := ok.readable p hp
  simp only [loadPart] at hb
  cases hg : get p.name s.files with
  | none => simp [hg] at hb
  | some x => rfl

theorem noOrphans_replaced {s : State} (ho : NoOrphans s) (id : Id) (it : Item)
    (hg : get id s.index = some it) (p : Part) (hp : p ∈ it.parts) (d : Bytes) :
    NoOrphans ⟨s.index, replacedFiles s p.name d⟩ := by
  intro m hm
  by_cases hmn : m = p.name
  · exact ⟨id, it, hg, p, hp, hmn.symm⟩
  · by_cases hmt : m = tmpOf p.name
    · subst hmt
      simp only [replacedFiles] at hm
      rw [get_put_ne _ _ _ _ (fun e => hmn e.symm), get_del_self] at hm
      cases hm
    · simp only [replacedFiles, tmpFiles] at hm
      rw [get_put_ne _ _ _ _ (fun e => hmn e.symm), get_del_ne _ _ _ (fun e => hmt e.symm),
        get_put_ne _ _ _ _ (fun e => hmt e.symm)] at hm
      exact ho m hm

theorem noOrphans_put {s : State} (ho : NoOrphans s) (id : Id) (it' : Item) (fs : List (Name × Bytes))
    (hps : ∀ it, get id s.index = some it → ∀ p ∈ it.parts, p ∈ it'.parts)
    (hfs : ∀ n, (get n fs).isSome → (get n s.files).isSome ∨ ∃ p ∈ it'.parts, p.name = n) :
    NoOrphans ⟨put id it' s.index, fs⟩ := by
  intro n hn
  rcases hfs n hn with hn | ⟨p, hp, hpn⟩
  · obtain ⟨id', it, hgi, p, hp, hpn⟩ := ho n hn
    by_cases hid : id = id'
    · subst hid
      exact ⟨id, it', get_put_self _ _ _, p, hps it hgi p hp, hpn⟩
    · exact ⟨id', it, (get_put_ne _ _ _ _ hid).trans hgi, p, hp, hpn⟩
  · exact ⟨id, it', get_put_self _ _ _, p, hp, hpn⟩

theorem written_orphan (s : State) (b : Bundle) (ps : List Part) (n : Name)
    (hn : (get n (writtenFiles s b)).isSome) :
    (get n s.files).isSome ∨ ∃ p ∈ ps ++ [partOf b], p.name = n := by
  by_cases hnn : n = (partOf b).name
  · exact Or.inr ⟨partOf b, by simp, hnn.symm⟩
  · rw [written_frame s b n hnn] at hn
    exact Or.inl hn

theorem noOrphans_exec {s : State} (h : Inv' parse s) (ho : NoOrphans s) (op : Op) :
    NoOrphans (exec parse s op) := by
  have sh := plan_shape parse h op
  unfold exec
  generalize plan parse s op = pl at sh
  cases sh with
  | none => exact ho
  | insert b hg =>
    have e : runSteps s [.writeFile (partOf b).name b.bytes, .idxInsert b.id (newItem b)] =
        ⟨put b.id (newItem b) s.index, writtenFiles s b⟩ := by
      simp [runSteps, applyStep, hg, writtenFiles]
    rw [e]
    exact noOrphans_put ho b.id _ _ (fun it hi => by rw [hg] at hi; cases hi) (written_orphan s b [])
  | append b it hg hc =>
    have e : runSteps s [.writeFile (partOf b).name b.bytes,
        .idxUpdate b.id { it with parts := it.parts ++ [partOf b] }] =
        ⟨put b.id { it with parts := it.parts ++ [partOf b] } s.index, writtenFiles s b⟩ := by
      simp [runSteps, applyStep, hg, writtenFiles]
    rw [e]
    exact noOrphans_put ho b.id _ _
      (fun it0 hi p hp => by rw [hg] at hi; cases hi; exact List.mem_append_left _ hp)
      (written_orphan s b it.parts)
  | replace id it p d hg hp =>
    rw [run_replaceSteps]
    exact noOrphans_replaced ho id it hg p hp d
  | update id it it' hg hps =>
    have e : runSteps s [.idxUpdate id it'] = ⟨put id it' s.index, s.files⟩ := by
      simp [runSteps, applyStep, hg]
    rw [e]
    exact noOrphans_put ho id it' s.files
      (fun it0 hi p hp => by rw [hg] at hi; cases hi; rw [hps]; exact hp) (fun n hn => Or.inl hn)
  | delete id it0 hg =>
    rw [run_delete]
    intro n hn
    simp only [deleted] at hn
    by_cases hmem : n ∈ it0.parts.map (·.name)
    · rw [get_removeAll_of_mem n _ _ hmem] at hn; cases hn
    · rw [get_removeAll_of_not_mem n _ _ hmem] at hn
      obtain ⟨id', it, hgi, p, hp, hpn⟩ := ho n hn
      have hid : id ≠ id' := by
        intro e; subst e
        rw [hg] at hgi; injection hgi with hgi; subst hgi
        exact hmem (List.mem_map.mpr ⟨p, hp, hpn⟩)
      exact ⟨id', it, by simp only [deleted]; rw [get_del_ne _ _ _ hid]; exact hgi, p, hp, hpn⟩

theorem inv_exec {s : State} (h : Inv parse s) (op : Op) (hw : OpWF parse op) : Inv parse (exec parse s op) :=
  ⟨(exec_refines parse h.1 op hw).1, noOrphans_exec parse h.1 h.2 op⟩

theorem inv_step {s : State} (h : Inv parse s) (c : Cmd) (hw : CmdWF parse c) : Inv parse (step parse s c) := by
  cases c with
  | op o => exact inv_exec parse h o hw
  | sweep now =>
    simp only [step, sweep]
    generalize expiredIds s now = ids
    induction ids generalizing s with
    | nil => exact h
    | cons id r ih => exact ih (inv_exec parse h (.delete id) trivial)
  | reopen => exact h

theorem inv_run {s : State} (h : Inv parse s) (cs : List Cmd) (hw : ∀ c ∈ cs, CmdWF parse c) :
    Inv parse (run parse s cs) := by
  induction cs generalizing s with
  | nil => exact h
  | cons c r ih =>
    exact ih (inv_step parse h c (hw c (by simp))) (fun c hc => hw c (List.mem_cons_of_mem _ hc))

end Inv

end Dtn7.Store.Lemmas
