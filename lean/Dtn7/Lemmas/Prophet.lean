/-
Lemmas about the PRoPHET model that do not depend on the number type: every property of the
tables follows from a handful of facts about the three update formulas (`Laws`); the forwarding
decision. The two instances (exact rationals, binary64) are in `Lemmas/ProphetRat.lean` and
`Lemmas/ProphetF64.lean`.
-/
import Dtn7.Model.Prophet

namespace Dtn7.Lemmas.Prophet
open Dtn7.Prophet

variable {κ : Type} [DecidableEq κ] {α : Type}

/-- What the invariants need to know about the arithmetic: `Dom` is "is a probability" (for
binary64 additionally: is a double), `le` the order. -/
structure Laws (o : Ops α) (le : α → α → Prop) (Dom : α → Prop) : Prop where
  le_refl : ∀ a, le a a
  le_trans : ∀ a b c, le a b → le b c → le a c
  dom_zero : Dom o.zero
  enc : ∀ c p, Dom c → Dom p → Dom (encounterVal o c p) ∧ le p (encounterVal o c p)
  age : ∀ g p, Dom g → Dom p → Dom (ageVal o g p) ∧ le (ageVal o g p) p
  trans : ∀ b p a c, Dom b → Dom p → Dom a → Dom c →
    Dom (transVal o b p a c) ∧ le p (transVal o b p a c)

def MapDom (Dom : α → Prop) (m : List (κ × α)) : Prop := ∀ kv ∈ m, Dom kv.2

def StDom (Dom : α → Prop) (st : St κ α) : Prop :=
  MapDom Dom st.own ∧ ∀ pv ∈ st.peers, MapDom Dom pv.2

def CfgDom (Dom : α → Prop) (cfg : Cfg α) : Prop := Dom cfg.pInit ∧ Dom cfg.beta ∧ Dom cfg.gamma

def EvDom (Dom : α → Prop) : Ev κ α → Prop
  | .receive _ _ vec => MapDom Dom vec
  | _ => True

theorem get_dom {Dom : α → Prop} {z : α} (hz : Dom z) (m : List (κ × α)) (hm : MapDom Dom m) (k : κ) :
    Dom (mget z m k) := by
  induction m with
  | nil => exact hz
  | cons kv t ih =>
    obtain ⟨k', v⟩ := kv
    simp only [mget]
    split
    · exact hm (k', v) (List.mem_cons_self ..)
    · exact ih fun x hx => hm x (List.mem_cons_of_mem _ hx)

theorem set_dom {Dom : α → Prop} (m : List (κ × α)) (hm : MapDom Dom m) (k : κ) (v : α) (hv : Dom v) :
    MapDom Dom (mset m k v) := by
  induction m with
  | nil => intro kv hkv; simp only [mset, List.mem_singleton] at hkv; subst hkv; exact hv
  | cons kv t ih =>
    obtain ⟨k', v'⟩ := kv
    simp only [mset]
    split
    · intro x hx
      rcases List.mem_cons.1 hx with rfl | hx
      · exact hv
      · exact hm x (List.mem_cons_of_mem _ hx)
    · intro x hx
      rcases List.mem_cons.1 hx with rfl | hx
      · exact hm _ (List.mem_cons_self ..)
      · exact ih (fun y hy => hm y (List.mem_cons_of_mem _ hy)) x hx

theorem get_set_eq (z : α) (m : List (κ × α)) (k : κ) (v : α) : mget z (mset m k v) k = v := by
  induction m with
  | nil => simp [mset, mget]
  | cons kv t ih =>
    obtain ⟨k', v'⟩ := kv
    simp only [mset]
    split
    · simp [mget]
    · next h => simp [mget, h, ih]

theorem get_set_ne (z : α) (m : List (κ × α)) (k k' : κ) (v : α) (h : k ≠ k') :
    mget z (mset m k v) k' = mget z m k' := by
  induction m with
  | nil => simp [mset, mget, h]
  | cons kv t ih =>
    obtain ⟨k'', v'⟩ := kv
    simp only [mset]
    split
    · next h2 => subst h2; simp [mget, h]
    · simp only [mget, ih]

theorem lookupVec_mem (ps : List (κ × List (κ × α))) (k : κ) (vec : List (κ × α))
    (h : lookupVec ps k = some vec) : ∃ k', (k', vec) ∈ ps := by
  induction ps with
  | nil => simp [lookupVec] at h
  | cons kv t ih =>
    obtain ⟨k', v⟩ := kv
    simp only [lookupVec] at h
    split at h
    · injection h with h; subst h; exact ⟨k', List.mem_cons_self ..⟩
    · obtain ⟨k'', hk⟩ := ih h; exact ⟨k'', List.mem_cons_of_mem _ hk⟩

theorem setVec_eq_mset (ps : List (κ × List (κ × α))) (k : κ) (v : List (κ × α)) :
    setVec ps k v = mset ps k v := by
  induction ps with
  | nil => rfl
  | cons kv t ih => simp only [setVec, mset, ih]

theorem setVec_dom {Dom : α → Prop} (ps : List (κ × List (κ × α)))
    (hp : ∀ pv ∈ ps, MapDom Dom pv.2) (k : κ) (vec : List (κ × α)) (hv : MapDom Dom vec) :
    ∀ pv ∈ setVec ps k vec, MapDom Dom pv.2 := by
  rw [setVec_eq_mset]
  exact set_dom (Dom := MapDom Dom) ps hp k vec hv

section inv
variable {o : Ops α} {le : α → α → Prop} {Dom : α → Prop}

theorem encounter_dom (L : Laws o le Dom) (cfg : Cfg α) (hc : CfgDom Dom cfg) (st : St κ α)
    (hs : StDom Dom st) (peer : κ) : StDom Dom (encounter o cfg st peer) :=
  ⟨set_dom _ hs.1 _ _ (L.enc _ _ hc.1 (get_dom L.dom_zero _ hs.1 _)).1, hs.2⟩

omit [DecidableEq κ] in
theorem ageAll_dom (L : Laws o le Dom) (cfg : Cfg α) (hc : CfgDom Dom cfg) (st : St κ α)
    (hs : StDom Dom st) : StDom Dom (ageAll (κ := κ) o cfg st) := by
  refine ⟨?_, hs.2⟩
  intro kv hkv
  simp only [ageAll, List.mem_map] at hkv
  obtain ⟨x, hx, rfl⟩ := hkv
  exact (L.age _ _ hc.2.2 (hs.1 x hx)).1

theorem transStep_dom (L : Laws o le Dom) (cfg : Cfg α) (hc : CfgDom Dom cfg) (peer : κ)
    (own : List (κ × α)) (ho : MapDom Dom own) (e : κ × α) (he : Dom e.2) :
    MapDom Dom (transStep o cfg peer own e) :=
  set_dom _ ho _ _ (L.trans _ _ _ _ hc.2.1 (get_dom L.dom_zero _ ho _) (get_dom L.dom_zero _ ho _) he).1

theorem transFold_dom (L : Laws o le Dom) (cfg : Cfg α) (hc : CfgDom Dom cfg) (peer : κ)
    (vec : List (κ × α)) (hv : MapDom Dom vec) :
    ∀ own : List (κ × α), MapDom Dom own → MapDom Dom (vec.foldl (transStep o cfg peer) own) := by
  induction vec with
  | nil => intro own ho; exact ho
  | cons e t ih =>
    intro own ho
    exact ih (fun x hx => hv x (List.mem_cons_of_mem _ hx)) _
      (transStep_dom L cfg hc peer own ho e (hv e (List.mem_cons_self ..)))

theorem transitivity_dom (L : Laws o le Dom) (cfg : Cfg α) (hc : CfgDom Dom cfg) (st : St κ α)
    (hs : StDom Dom st) (peer : κ) : StDom Dom (transitivity o cfg st peer) := by
  unfold transitivity
  split
  · exact hs
  · next vec hl =>
    obtain ⟨k', hk⟩ := lookupVec_mem _ _ _ hl
    exact ⟨transFold_dom L cfg hc peer vec (hs.2 _ hk) _ hs.1, hs.2⟩

theorem receiveVec_dom (L : Laws o le Dom) (cfg : Cfg α) (hc : CfgDom Dom cfg) (st : St κ α)
    (hs : StDom Dom st) (toMe : Bool) (peer : κ) (vec : List (κ × α)) (hv : MapDom Dom vec) :
    StDom Dom (receiveVec o cfg st toMe peer vec) := by
  unfold receiveVec
  split
  · have h' : StDom Dom ({ st with peers := setVec st.peers peer vec } : St κ α) :=
      ⟨hs.1, setVec_dom _ hs.2 _ _ hv⟩
    exact transitivity_dom L cfg hc _ h' peer
  · exact hs

theorem step_dom (L : Laws o le Dom) (cfg : Cfg α) (hc : CfgDom Dom cfg) (st : St κ α)
    (hs : StDom Dom st) (ev : Ev κ α) (he : EvDom Dom ev) : StDom Dom (step o cfg st ev) := by
  cases ev with
  | encounter p => exact encounter_dom L cfg hc st hs p
  | age => exact ageAll_dom L cfg hc st hs
  | receive toMe p vec => exact receiveVec_dom L cfg hc st hs toMe p vec he

theorem run_dom (L : Laws o le Dom) (cfg : Cfg α) (hc : CfgDom Dom cfg) (evs : List (Ev κ α))
    (he : ∀ ev ∈ evs, EvDom Dom ev) : ∀ st : St κ α, StDom Dom st → StDom Dom (run o cfg st evs) := by
  induction evs with
  | nil => intro st hs; exact hs
  | cons ev t ih =>
    intro st hs
    exact ih (fun x hx => he x (List.mem_cons_of_mem _ hx)) _
      (step_dom L cfg hc st hs ev (he ev (List.mem_cons_self ..)))

theorem encounter_le (L : Laws o le Dom) (cfg : Cfg α) (hc : CfgDom Dom cfg) (st : St κ α)
    (hs : StDom Dom st) (peer k : κ) :
    le (mget o.zero st.own k) (mget o.zero (encounter o cfg st peer).own k) := by
  simp only [encounter]
  by_cases h : peer = k
  · subst h
    rw [get_set_eq]
    exact (L.enc _ _ hc.1 (get_dom L.dom_zero _ hs.1 _)).2
  · rw [get_set_ne _ _ _ _ _ h]
    exact L.le_refl _

theorem ageAll_le (L : Laws o le Dom) (cfg : Cfg α) (hc : CfgDom Dom cfg) (st : St κ α)
    (hs : StDom Dom st) (k : κ) :
    le (mget o.zero (ageAll o cfg st).own k) (mget o.zero st.own k) := by
  obtain ⟨own, peers⟩ := st
  have ho : MapDom Dom own := hs.1
  simp only [ageAll]
  clear hs
  induction own with
  | nil => exact L.le_refl _
  | cons kv t ih =>
    obtain ⟨k', v⟩ := kv
    simp only [List.map_cons, mget]
    split
    · exact (L.age _ _ hc.2.2 (ho (k', v) (List.mem_cons_self ..))).2
    · exact ih fun x hx => ho x (List.mem_cons_of_mem _ hx)

theorem transStep_le (L : Laws o le Dom) (cfg : Cfg α) (hc : CfgDom Dom cfg) (peer : κ)
    (own : List (κ × α)) (ho : MapDom Dom own) (e : κ × α) (he : Dom e.2) (k : κ) :
    le (mget o.zero own k) (mget o.zero (transStep o cfg peer own e) k) := by
  simp only [transStep]
  by_cases h : e.1 = k
  · subst h
    rw [get_set_eq]
    exact (L.trans _ _ _ _ hc.2.1 (get_dom L.dom_zero _ ho _) (get_dom L.dom_zero _ ho _) he).2
  · rw [get_set_ne _ _ _ _ _ h]
    exact L.le_refl _

theorem transFold_le (L : Laws o le Dom) (cfg : Cfg α) (hc : CfgDom Dom cfg) (peer : κ)
    (vec : List (κ × α)) (hv : MapDom Dom vec) (k : κ) :
    ∀ own : List (κ × α), MapDom Dom own →
      le (mget o.zero own k) (mget o.zero (vec.foldl (transStep o cfg peer) own) k) := by
  induction vec with
  | nil => intro own _; exact L.le_refl _
  | cons e t ih =>
    intro own ho
    have he := hv e (List.mem_cons_self ..)
    exact L.le_trans _ _ _ (transStep_le L cfg hc peer own ho e he k)
      (ih (fun x hx => hv x (List.mem_cons_of_mem _ hx)) _ (transStep_dom L cfg hc peer own ho e he))

theorem receiveVec_le (L : Laws o le Dom) (cfg : Cfg α) (hc : CfgDom Dom cfg) (st : St κ α)
    (hs : StDom Dom st) (toMe : Bool) (peer : κ) (vec : List (κ × α)) (hv : MapDom Dom vec) (k : κ) :
    le (mget o.zero st.own k) (mget o.zero (receiveVec o cfg st toMe peer vec).own k) := by
  unfold receiveVec
  split
  · unfold transitivity
    split
    · exact L.le_refl _
    · next vec' hl =>
      obtain ⟨k', hk⟩ := lookupVec_mem _ _ _ hl
      exact transFold_le L cfg hc peer vec' (setVec_dom _ hs.2 _ _ hv _ hk) k _ hs.1
  · exact L.le_refl _

end inv

theorem chooseLoop_mem (o : Ops α) (st : St κ α) (dest : κ) (conn : List κ) :
    ∀ (chosen sent : List κ) (p : κ), p ∈ (chooseLoop o st dest conn chosen sent).1 →
      p ∈ chosen ∨ (p ∈ conn ∧ o.lt (mget o.zero st.own dest) (peerPred o st p dest) = true ∧ p ∉ sent) := by
  induction conn with
  | nil => intro chosen sent p h; exact Or.inl h
  | cons cs rest ih =>
    intro chosen sent p h
    simp only [chooseLoop] at h
    split at h
    · next hlt =>
      split at h
      · rcases ih _ _ _ h with h | ⟨h1, h2, h3⟩
        · exact Or.inl h
        · exact Or.inr ⟨List.mem_cons_of_mem _ h1, h2, h3⟩
      · next hns =>
        rcases ih _ _ _ h with h | ⟨h1, h2, h3⟩
        · rcases List.mem_append.1 h with h | h
          · exact Or.inl h
          · simp only [List.mem_singleton] at h
            subst h
            exact Or.inr ⟨List.mem_cons_self .., hlt, hns⟩
        · exact Or.inr ⟨List.mem_cons_of_mem _ h1, h2, fun hp => h3 (List.mem_append_left _ hp)⟩
    · rcases ih _ _ _ h with h | ⟨h1, h2, h3⟩
      · exact Or.inl h
      · exact Or.inr ⟨List.mem_cons_of_mem _ h1, h2, h3⟩

theorem senderForBundle_mem (o : Ops α) (st : St κ α) (isMeta : Bool) (dest : κ) (conn sent : List κ)
    (p : κ) (h : p ∈ (senderForBundle o st isMeta dest conn sent).1) :
    isMeta = false ∧ p ∈ conn ∧
      o.lt (mget o.zero st.own dest) (peerPred o st p dest) = true ∧ p ∉ sent := by
  unfold senderForBundle at h
  split at h
  · simp at h
  · next hm =>
    rcases chooseLoop_mem o st dest conn [] sent p h with h | h
    · simp at h
    · exact ⟨by simpa using hm, h⟩

theorem forwardTargets_mem (o : Ops α) (st : St κ α) (isMeta : Bool) (dest : κ) (conn sent : List κ)
    (p : κ) (h : p ∈ forwardTargets o st isMeta dest conn sent) :
    p = dest ∨ (isMeta = false ∧ p ∈ conn ∧
      o.lt (mget o.zero st.own dest) (peerPred o st p dest) = true ∧ p ∉ sent) := by
  simp only [forwardTargets] at h
  split at h
  · exact Or.inr (senderForBundle_mem o st isMeta dest conn sent p h)
  · simp only [List.mem_filter, decide_eq_true_eq] at h
    exact Or.inl h.2

end Dtn7.Lemmas.Prophet
