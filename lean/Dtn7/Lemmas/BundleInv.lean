import Dtn7.Model.Bundle
import Dtn7.Model.BundleSpec
import Dtn7.Lemmas.Eid
import Dtn7.Lemmas.CborExtra
import Dtn7.Lemmas.BundleValid
import Dtn7.Lemmas.BundleCodec

/-!
Inversion: whatever the parser accepts is `Encodable` — every number fits, every endpoint structure is
in the parser's normal form, typed values sit under registered codes — and its canonical re-encoding
is never longer than the bytes it was read from (so the re-encoded block values stay within the
reader's 2 GiB limit).
-/
namespace Dtn7.Bundle.Lemmas
open Dtn7.Cbor Dtn7.Cbor.Lemmas Dtn7.Eid Dtn7.Eid.Lemmas Dtn7.Bundle

theorem encUInt_length (n : Nat) : (encUInt n).length = headLen n := encHead_length _ _
theorem encArray_length (n : Nat) : (encArray n).length = headLen n := encHead_length _ _

theorem encEidRaw_length (e : Eid) :
    (encEidRaw e).length = match e with
      | .none => 3
      | .dtn node demux => 2 + headLen (sspOf node demux).length + (sspOf node demux).length
      | .ipn n s => 3 + headLen n + headLen s := by
  cases e <;>
    simp only [encEidRaw, encText, List.length_append, encUInt_length, encArray_length, encHead_length,
      headLen_small 2 (by decide), headLen_small schemeDtn (by decide), headLen_small schemeIpn (by decide),
      headLen_small 0 (by decide)] <;> omega

theorem decEid_inv {bs : Bytes} {e : Eid} {r : Bytes} (h : decEid bs = .ok (e, r)) :
    Eid.Enc e ∧ (encEidRaw e).length + r.length ≤ bs.length := by
  unfold decEid at h
  obtain ⟨l, r1, h1, h⟩ := bindP_eq_ok.mp h
  obtain ⟨hl, h⟩ := guard_eq_ok.mp h
  cases Decidable.not_not.mp hl
  obtain ⟨sc, r2, h2, h⟩ := bindP_eq_ok.mp h
  obtain ⟨_, hlen1, _⟩ := decExpect_ok h1
  obtain ⟨_, hlen2, _⟩ := decExpect_ok h2
  have hp2 := headLen_pos sc
  rw [headLen_small 2 (by decide)] at hlen1
  by_cases hdtn : sc = schemeDtn
  · rw [if_pos hdtn, decDtn] at h
    cases hd : decHead r2 with
    | error e' => rw [hd] at h; cases h
    | ok x =>
      obtain ⟨m, n, r3⟩ := x
      rw [hd] at h
      dsimp only at h
      have hlen3 := (decHead_ok hd).2.2.1
      have hp3 := headLen_pos n
      by_cases hm : m = majUInt
      · rw [if_pos hm] at h; cases h
        refine ⟨⟨trivial, trivial⟩, ?_⟩
        simp only [encEidRaw_length]
        omega
      rw [if_neg hm] at h
      by_cases ht : m = majText
      case neg => rw [if_neg ht] at h; cases h
      rw [if_pos ht] at h
      obtain ⟨ssp, r4, h4, h⟩ := bindP_eq_ok.mp h
      obtain ⟨hsl, hmax, hcat⟩ := readRaw_ok h4
      cases hps : parseSsp ssp with
      | none => rw [hps] at h; cases h
      | some nd =>
        obtain ⟨node, demux⟩ := nd
        rw [hps] at h; cases h
        obtain ⟨heq, hne, hall, hnl⟩ := parseSsp_some hps
        refine ⟨⟨⟨hne, hall, hnl⟩, ?_⟩, ?_⟩
        · show (sspOf node demux).length ≤ maxInt32
          rw [← heq]; omega
        · have : r3.length = ssp.length + r.length := by rw [hcat, List.length_append]
          simp only [encEidRaw_length, ← heq, hsl]
          omega
  rw [if_neg hdtn] at h
  by_cases hipn : sc = schemeIpn
  · rw [if_pos hipn, decIpn] at h
    obtain ⟨l', r3, h3, h⟩ := bindP_eq_ok.mp h
    obtain ⟨hl', h⟩ := guard_eq_ok.mp h
    cases Decidable.not_not.mp hl'
    obtain ⟨nn, r4, h4, h⟩ := bindP_eq_ok.mp h
    obtain ⟨ss, r5, h5, h⟩ := bindP_eq_ok.mp h
    cases h
    obtain ⟨_, hlen3, _⟩ := decExpect_ok h3
    obtain ⟨hn, hlen4, _⟩ := decExpect_ok h4
    obtain ⟨hs, hlen5, _⟩ := decExpect_ok h5
    refine ⟨⟨trivial, hn, hs⟩, ?_⟩
    rw [headLen_small 2 (by decide)] at hlen3
    simp only [encEidRaw_length]
    omega
  · rw [if_neg hipn] at h; cases h

def PairsEnc (m : EidMap) : Prop := ∀ p ∈ m, Eid.Enc p.1 ∧ U64 p.2

theorem mapInsert_keys (m : EidMap) (k : Eid) (v : Nat) :
    (mapInsert m k v).map (·.1) = if k ∈ m.map (·.1) then m.map (·.1) else m.map (·.1) ++ [k] := by
  induction m with
  | nil => simp [mapInsert]
  | cons p ps ih =>
    obtain ⟨k', v'⟩ := p
    rw [mapInsert]
    by_cases hk : k' = k
    · subst hk; simp
    · have hk' : ¬ k = k' := fun h => hk h.symm
      rw [if_neg hk, List.map_cons, ih]
      by_cases hm : k ∈ ps.map (·.1) <;> simp [hm, hk']

theorem mapInsert_inv (encV : Nat → Bytes) (m : EidMap) (k : Eid) (v : Nat) (hm : PairsEnc m)
    (hnd : (m.map (·.1)).Nodup) (hk : Eid.Enc k) (hv : U64 v) :
    PairsEnc (mapInsert m k v) ∧ ((mapInsert m k v).map (·.1)).Nodup ∧
    (mapInsert m k v).length ≤ m.length + 1 ∧
    (encPairs encV (mapInsert m k v)).length ≤
      (encPairs encV m).length + (encEidRaw k).length + (encV v).length := by
  have hkeys : ((mapInsert m k v).map (·.1)).Nodup := by
    rw [mapInsert_keys]
    split
    · exact hnd
    · rename_i hmem
      exact List.nodup_append.mpr ⟨hnd, by simp, fun a ha b hb => by
        rw [List.mem_singleton] at hb; subst hb; exact fun e => hmem (e ▸ ha)⟩
  refine ⟨?_, hkeys, ?_⟩
  · clear hkeys hnd
    induction m with
    | nil =>
      intro p hp
      rw [mapInsert, List.mem_singleton] at hp
      subst hp; exact ⟨hk, hv⟩
    | cons p ps ih =>
      obtain ⟨k', v'⟩ := p
      have hps : PairsEnc ps := fun q hq => hm q (List.mem_cons_of_mem _ hq)
      intro q hq
      rw [mapInsert] at hq
      split at hq <;> rcases List.mem_cons.mp hq with rfl | hq
      · exact ⟨hk, hv⟩
      · exact hps q hq
      · exact hm _ (List.mem_cons_self ..)
      · exact ih hps q hq
  · clear hkeys hnd hm
    induction m with
    | nil => simp [mapInsert, encPairs]
    | cons p ps ih =>
      obtain ⟨k', v'⟩ := p
      rw [mapInsert]
      split <;> (simp only [encPairs, List.length_cons, List.length_append]; omega)

theorem decPairs_inv (encV : Nat → Bytes) (decV : Bytes → Except Err (Nat × Bytes))
    (hV : ∀ bs v r, decV bs = .ok (v, r) → v < 2 ^ 64 ∧ (encV v).length + r.length ≤ bs.length)
    (n : Nat) (acc : EidMap) (bs : Bytes) (m : EidMap) (r : Bytes)
    (h : decPairs decV n acc bs = .ok (m, r)) (hacc : PairsEnc acc) (hnd : (acc.map (·.1)).Nodup) :
    PairsEnc m ∧ (m.map (·.1)).Nodup ∧ m.length ≤ acc.length + n ∧
    (encPairs encV m).length + r.length ≤ (encPairs encV acc).length + bs.length := by
  induction n generalizing acc bs with
  | zero =>
    simp only [decPairs, Except.ok.injEq, Prod.mk.injEq] at h
    obtain ⟨rfl, rfl⟩ := h
    exact ⟨hacc, hnd, by omega, by omega⟩
  | succ n ih =>
    simp only [decPairs] at h
    obtain ⟨k, r1, h1, h⟩ := bindP_eq_ok.mp h
    obtain ⟨v, r2, h2, h⟩ := bindP_eq_ok.mp h
    obtain ⟨hk, hklen⟩ := decEid_inv h1
    obtain ⟨hv, hvlen⟩ := hV _ _ _ h2
    obtain ⟨i1, i2, i3, i4⟩ := mapInsert_inv encV acc k v hacc hnd hk hv
    obtain ⟨j1, j2, j3, j4⟩ := ih _ _ h i1 i2
    exact ⟨j1, j2, by omega, by omega⟩

theorem decUInt_inv {bs : Bytes} {v : Nat} {r : Bytes} (h : decUInt bs = .ok (v, r)) :
    v < 2 ^ 64 ∧ (encUInt v).length + r.length ≤ bs.length := by
  rw [encUInt_length]; exact ⟨(decExpect_ok h).1, (decExpect_ok h).2.1⟩

theorem decFloatBits_inv {bs : Bytes} {v : Nat} {r : Bytes} (h : decFloatBits bs = .ok (v, r)) :
    v < 2 ^ 64 ∧ (encFloatBits v).length + r.length ≤ bs.length := by
  unfold encFloatBits; rw [encHead_length]; exact ⟨(decExpect_ok h).1, (decExpect_ok h).2.1⟩

theorem decMap_inv (encV : Nat → Bytes) (decV : Bytes → Except Err (Nat × Bytes))
    (hV : ∀ bs v r, decV bs = .ok (v, r) → v < 2 ^ 64 ∧ (encV v).length + r.length ≤ bs.length)
    {bs r1 r : Bytes} {n : Nat} {m : EidMap} (h1 : decExpect majMap bs = .ok (n, r1))
    (h2 : decPairs decV n [] r1 = .ok (m, r)) :
    EidMap.Enc m ∧ (encHead majMap m.length).length + (encPairs encV m).length + r.length ≤ bs.length := by
  obtain ⟨hn, hl1, _⟩ := decExpect_ok h1
  obtain ⟨p1, p2, p3, p4⟩ := decPairs_inv encV decV hV n [] r1 m r h2 (fun p hp => nomatch hp) List.nodup_nil
  rw [List.length_nil, Nat.zero_add] at p3
  rw [encPairs, List.length_nil, Nat.zero_add] at p4
  have hmono := headLen_mono p3
  rw [encHead_length]
  exact ⟨⟨p1, p2, by unfold U64; omega⟩, by omega⟩

theorem decHopField_inv {bs : Bytes} {v : Nat} {r : Bytes} (h : decHopField bs = .ok (v, r)) :
    v ≤ 255 ∧ (encUInt v).length + r.length ≤ bs.length := by
  unfold decHopField at h
  obtain ⟨x, r1, h1, h⟩ := bindP_eq_ok.mp h
  obtain ⟨hx, h⟩ := guard_eq_ok.mp h
  cases h
  exact ⟨by omega, (decUInt_inv h1).2⟩

/-- **What `ReadBlock` yields is encodable under the code it was read for, and its canonical form
is no longer than the data it was read from.** -/
theorem decValue_inv {cfg : Cfg} {bt : Nat} {data : Bytes} {v : BlockValue}
    (h : decValue cfg bt data = .ok v) (hbt : bt < 2 ^ 64) :
    BlockValue.Enc cfg v ∧ v.typeCode = bt ∧ (encValueInner v).length ≤ data.length := by
  cases hreg : cfg.registered bt
  · rw [decValue_unreg hreg] at h; cases h
    exact ⟨⟨hreg, hbt⟩, rfl, Nat.le_refl _⟩
  rcases registered_cases hreg with rfl | rfl | rfl | rfl | rfl | rfl | rfl | rfl
  · rw [decValue_payload] at h; cases h
    exact ⟨trivial, rfl, Nat.le_refl _⟩
  · rw [decValue_prevNode] at h
    obtain ⟨e, r, h1, h⟩ := bindP_eq_ok.mp h
    cases h
    obtain ⟨he, hl⟩ := decEid_inv h1
    exact ⟨he, rfl, by simp only [encValueInner]; omega⟩
  · rw [decValue_age] at h
    obtain ⟨n, r, h1, h⟩ := bindP_eq_ok.mp h
    cases h
    obtain ⟨hn, hl⟩ := decUInt_inv h1
    exact ⟨hn, rfl, by simp only [encValueInner]; omega⟩
  · rw [decValue_hop] at h
    obtain ⟨l, r, h1, h⟩ := bindP_eq_ok.mp h
    obtain ⟨hl2, h⟩ := guard_eq_ok.mp h
    cases Decidable.not_not.mp hl2
    obtain ⟨lim, r2, h2, h⟩ := bindP_eq_ok.mp h
    obtain ⟨cnt, r3, h3, h⟩ := bindP_eq_ok.mp h
    cases h
    obtain ⟨_, hl1, _⟩ := decExpect_ok h1
    obtain ⟨hlim, hl2⟩ := decHopField_inv h2
    obtain ⟨hcnt, hl3⟩ := decHopField_inv h3
    refine ⟨⟨hlim, hcnt⟩, rfl, ?_⟩
    simp only [encValueInner, List.length_append, encArray_length] at hl2 hl3 ⊢
    omega
  · rw [decValue_spray hreg] at h
    obtain ⟨n, r, h1, h⟩ := bindP_eq_ok.mp h
    cases h
    obtain ⟨hn, hl⟩ := decUInt_inv h1
    exact ⟨⟨hreg, hn⟩, rfl, by simp only [encValueInner]; omega⟩
  · rw [decValue_dtlsr hreg] at h
    obtain ⟨l, r, h1, h⟩ := bindP_eq_ok.mp h
    obtain ⟨hl3, h⟩ := guard_eq_ok.mp h
    cases Decidable.not_not.mp hl3
    obtain ⟨id, r2, h2, h⟩ := bindP_eq_ok.mp h
    obtain ⟨ts, r3, h3, h⟩ := bindP_eq_ok.mp h
    obtain ⟨n, r4, h4, h⟩ := bindP_eq_ok.mp h
    obtain ⟨peers, r5, h5, h⟩ := bindP_eq_ok.mp h
    cases h
    obtain ⟨_, hl1, _⟩ := decExpect_ok h1
    obtain ⟨hid, hl2⟩ := decEid_inv h2
    obtain ⟨hts, hl3⟩ := decUInt_inv h3
    obtain ⟨hpeers, hl4⟩ := decMap_inv encUInt decUInt (fun _ _ _ hh => decUInt_inv hh) h4 h5
    refine ⟨⟨hreg, hid, hts, hpeers⟩, rfl, ?_⟩
    simp only [encValueInner, List.length_append, encArray_length] at hl2 hl3 hl4 ⊢
    omega
  · rw [decValue_prophet hreg] at h
    obtain ⟨n, r4, h4, h⟩ := bindP_eq_ok.mp h
    obtain ⟨m, r5, h5, h⟩ := bindP_eq_ok.mp h
    cases h
    obtain ⟨hm, hl4⟩ := decMap_inv encFloatBits decFloatBits (fun _ _ _ hh => decFloatBits_inv hh) h4 h5
    refine ⟨⟨hreg, hm⟩, rfl, ?_⟩
    simp only [encValueInner, List.length_append] at hl4 ⊢
    omega
  · rw [decValue_signature hreg] at h
    obtain ⟨l, r, h1, h⟩ := bindP_eq_ok.mp h
    obtain ⟨hl2, h⟩ := guard_eq_ok.mp h
    cases Decidable.not_not.mp hl2
    obtain ⟨pk, r2, h2, h⟩ := bindP_eq_ok.mp h
    obtain ⟨sg, r3, h3, h⟩ := bindP_eq_ok.mp h
    cases h
    obtain ⟨_, hl1, _⟩ := decExpect_ok h1
    obtain ⟨hpk, hl2, _⟩ := decBytes_ok h2
    obtain ⟨hsg, hl3, _⟩ := decBytes_ok h3
    refine ⟨⟨hreg, hpk, hsg⟩, rfl, ?_⟩
    simp only [encValueInner, List.length_append, encArray_length] at hl2 hl3 ⊢
    omega

theorem decTimestamp_inv {bs : Bytes} {ts : Nat × Nat} {r : Bytes} (h : decTimestamp bs = .ok (ts, r)) :
    ts.1 < 2 ^ 64 ∧ ts.2 < 2 ^ 64 := by
  unfold decTimestamp at h
  obtain ⟨l, r1, _, h⟩ := bindP_eq_ok.mp h
  obtain ⟨_, h⟩ := guard_eq_ok.mp h
  obtain ⟨t, r2, h2, h⟩ := bindP_eq_ok.mp h
  obtain ⟨s, r3, h3, h⟩ := bindP_eq_ok.mp h
  cases h
  exact ⟨(decUInt_inv h2).1, (decUInt_inv h3).1⟩

theorem decPrimaryFields_inv {bs : Bytes} {bl : Nat} {p : Primary} {r : Bytes}
    (h : decPrimaryFields true bs = .ok ((bl, p), r)) : Primary.Enc p := by
  unfold decPrimaryFields at h
  obtain ⟨bl', r1, _, h⟩ := bindP_eq_ok.mp h
  obtain ⟨_, h⟩ := guard_eq_ok.mp h
  obtain ⟨ver, r2, _, h⟩ := bindP_eq_ok.mp h
  obtain ⟨_, h⟩ := guard_eq_ok.mp h
  obtain ⟨flags, r3, h3, h⟩ := bindP_eq_ok.mp h
  obtain ⟨ct, r4, h4, h⟩ := bindP_eq_ok.mp h
  obtain ⟨hstrict, h⟩ := guard_eq_ok.mp h
  obtain ⟨dst, r5, h5, h⟩ := bindP_eq_ok.mp h
  obtain ⟨src, r6, h6, h⟩ := bindP_eq_ok.mp h
  obtain ⟨rpt, r7, h7, h⟩ := bindP_eq_ok.mp h
  obtain ⟨ts, r8, h8, h⟩ := bindP_eq_ok.mp h
  obtain ⟨lt, r9, h9, h⟩ := bindP_eq_ok.mp h
  obtain ⟨ft, r10, h10, h⟩ := bindP_eq_ok.mp h
  cases h
  simp only [Bool.true_and, Bool.or_eq_true, Bool.not_eq_true', bne_iff_ne, ne_eq, not_or,
    Bool.not_eq_false, Decidable.not_not] at hstrict
  obtain ⟨⟨hck, hfr⟩, _⟩ := hstrict
  obtain ⟨htt, hts⟩ := decTimestamp_inv h8
  have hft : ft.1 < 2 ^ 64 ∧ ft.2 < 2 ^ 64 ∧ (has flags bIsFragment = false → ft.1 = 0 ∧ ft.2 = 0) := by
    by_cases hbl : bl = 10 ∨ bl = 11
    · rw [if_pos hbl] at h10
      obtain ⟨off, r11, h11, h10⟩ := bindP_eq_ok.mp h10
      obtain ⟨tot, r12, h12, h10⟩ := bindP_eq_ok.mp h10
      cases h10
      refine ⟨(decUInt_inv h11).1, (decUInt_inv h12).1, fun hnf => ?_⟩
      rw [hnf] at hfr
      simp [hbl] at hfr
    · rw [if_neg hbl] at h10; cases h10
      exact ⟨by decide, by decide, fun _ => ⟨rfl, rfl⟩⟩
  exact ⟨rfl, (decUInt_inv h3).1, by simpa [crcKnown] using hck, (decEid_inv h5).1, (decEid_inv h6).1,
    (decEid_inv h7).1, htt, hts, (decUInt_inv h9).1, hft.1, hft.2.1, hft.2.2⟩

theorem decPrimary_inv {bs : Bytes} {p : Primary} {r : Bytes} (h : decPrimary true bs = .ok (p, r)) :
    Primary.Enc p := by
  unfold decPrimary at h
  obtain ⟨⟨bl, p'⟩, r1, h1, h⟩ := bindP_eq_ok.mp h
  have hp' := decPrimaryFields_inv h1
  by_cases hbl : bl = 9 ∨ bl = 11
  · rw [if_pos hbl] at h
    cases hc : crcValue p'.crcT (consumed bs r1) with
    | error e => rw [hc] at h; cases h
    | ok cc =>
      rw [hc] at h
      obtain ⟨cv, r2, _, h⟩ := bindP_eq_ok.mp h
      by_cases heq : cc = cv
      · rw [if_pos heq] at h; cases h; exact hp'
      · rw [if_neg heq] at h; cases h
  · rw [if_neg hbl] at h; cases h; exact hp'

theorem rawHead_block {maj : Nat} {bs : Bytes} {k : Nat → Bytes → CanonRes} {c : Canonical} {r : Bytes}
    (h : rawHead maj bs k = .block c r) :
    ∃ n r1, decExpect maj bs = .ok (n, r1) ∧ r1.length < bs.length ∧ k n r1 = .block c r := by
  unfold rawHead at h
  split at h
  · rename_i n r1 he
    have := (decExpect_ok he).2.1
    have := headLen_pos n
    exact ⟨n, r1, he, by omega, h⟩
  · simp at h
  · simp at h

/-- The block read is encodable (given the checks that `cfg.strict` switches on), and reading it consumed at least
one byte. -/
theorem decCanonFields_block {cfg : Cfg} {bl : Nat} {r0 : Bytes} {k : Canonical → Bytes → CanonRes}
    {c : Canonical} {r : Bytes} (h : decCanonFields cfg bl r0 k = .block c r) :
    ∃ c' r1, (cfg.strict = true → Canonical.Enc cfg c') ∧ r1.length < r0.length ∧ k c' r1 = .block c r := by
  unfold decCanonFields at h
  obtain ⟨bt, r1, h1, l1, h⟩ := rawHead_block h
  obtain ⟨num, r2, h2, l2, h⟩ := rawHead_block h
  obtain ⟨flags, r3, h3, l3, h⟩ := rawHead_block h
  obtain ⟨ct, r4, h4, l4, h⟩ := rawHead_block h
  split at h
  · simp at h
  rename_i hstrict
  split at h
  · simp at h
  rename_i data r5 hd
  split at h
  · simp at h
  rename_i v hv
  obtain ⟨hvenc, _, hvlen⟩ := decValue_inv hv (decExpect_ok h1).1
  obtain ⟨hdl, hl, _⟩ := decBytes_ok hd
  rw [encBytes, List.length_append, encHead_length] at hl
  have := headLen_pos data.length
  refine ⟨⟨num, flags, ct, v⟩, r5, fun hs => ?_, by omega, h⟩
  simp only [hs, Bool.true_and, Bool.or_eq_true, Bool.not_eq_true', not_or, Bool.not_eq_false] at hstrict
  unfold Canonical.Enc U64
  exact ⟨(decExpect_ok h2).1, (decExpect_ok h3).1, by simpa [crcKnown] using hstrict.1, hvenc,
    by simp only; omega⟩

theorem decCanon_block {cfg : Cfg} {bs : Bytes} {c : Canonical} {r : Bytes}
    (h : decCanon cfg bs = .block c r) : (cfg.strict = true → Canonical.Enc cfg c) ∧ r.length < bs.length := by
  unfold decCanon at h
  obtain ⟨bl, r0, _, l0, h⟩ := rawHead_block h
  split at h
  · simp at h
  obtain ⟨c', r1, hc', l1, h⟩ := decCanonFields_block h
  split at h
  · split at h
    · simp at h
    · obtain ⟨n, r2, _, l2, h⟩ := rawHead_block h
      split at h
      · simp at h
      · rename_i cv r' hr
        split at h
        · simp only [CanonRes.block.injEq] at h
          obtain ⟨_, _, hcat⟩ := readRaw_ok hr
          have : r2.length = cv.length + r'.length := by rw [hcat, List.length_append]
          rw [← h.1, ← h.2]; exact ⟨hc', by omega⟩
        · simp at h
  · simp only [CanonRes.block.injEq] at h
    rw [← h.1, ← h.2]; exact ⟨hc', by omega⟩

theorem decBlocks_inv {cfg : Cfg} (hs : cfg.strict = true) (fuel : Nat) (bs : Bytes)
    (cs : List Canonical) (r : Bytes) (h : decBlocks cfg fuel bs = .ok (cs, r)) :
    ∀ c ∈ cs, Canonical.Enc cfg c := by
  induction fuel generalizing bs cs r with
  | zero => simp [decBlocks] at h
  | succ f ih =>
    simp only [decBlocks] at h
    split at h
    · simp only [Except.ok.injEq, Prod.mk.injEq] at h
      rw [← h.1]; simp
    · simp at h
    · rename_i c r1 hc
      split at h
      · simp at h
      · rename_i cs' r' hcs
        simp only [Except.ok.injEq, Prod.mk.injEq] at h
        rw [← h.1]
        intro d hd
        rcases List.mem_cons.mp hd with rfl | hd
        · exact (decCanon_block hc).1 hs
        · exact ih r1 cs' r' hcs d hd

theorem wrapErr_ok {α : Type} {x : Except Err α} {a : α} (h : wrapErr x = .ok a) : x = .ok a := by
  cases x with
  | error e => simp [wrapErr] at h
  | ok b => simpa [wrapErr] using h

theorem parseRaw_inv {cfg : Cfg} (hs : cfg.strict = true) {bs : Bytes} {b : Bundle} {r : Bytes}
    (h : parseRaw cfg bs = .ok (b, r)) : Encodable cfg b := by
  cases bs with
  | nil => cases h
  | cons b0 rest =>
    rw [parseRaw] at h
    obtain ⟨_, h⟩ := guard_eq_ok.mp h
    obtain ⟨p, r1, h1, h⟩ := bindP_eq_ok.mp h
    obtain ⟨cs, r2, h2, h⟩ := bindP_eq_ok.mp h
    cases h
    rw [hs] at h1
    exact ⟨decPrimary_inv (wrapErr_ok h1), decBlocks_inv hs _ _ _ _ h2⟩

end Dtn7.Bundle.Lemmas
