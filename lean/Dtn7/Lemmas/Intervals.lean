import Dtn7.Model.Store

/-!
The sweep of `prepareReassembly` over (offset, length) pairs: it ends at `e` exactly when the
intervals, sorted by offset, cover everything from the start index up to `e` and none reaches beyond.
Used for the store's completeness test (C08) and for reassembly (C10); `sweepEnd` itself is defined
with the store model.
-/
namespace Dtn7.Intervals
open Dtn7.Store (sweepEnd)

def CoveredBy (l : List (Nat × Nat)) (x : Nat) : Prop := ∃ iv ∈ l, iv.1 ≤ x ∧ x < iv.1 + iv.2

theorem sweepEnd_sound (l : List (Nat × Nat)) (last e : Nat) (h : sweepEnd true last l = some e) :
    last ≤ e ∧ (∀ x, last ≤ x → x < e → CoveredBy l x) ∧ ∀ iv ∈ l, iv.1 + iv.2 ≤ e := by
  induction l generalizing last with
  | nil =>
    simp only [sweepEnd] at h; injection h with h; subst h
    exact ⟨Nat.le_refl _, fun x h1 h2 => absurd h2 (Nat.not_lt.mpr h1), by simp⟩
  | cons iv r ih =>
    obtain ⟨o, len⟩ := iv
    simp only [sweepEnd, if_true] at h
    by_cases hlt : last < o
    · simp [hlt] at h
    · simp only [hlt, if_false] at h
      obtain ⟨h1, h2, h3⟩ := ih _ h
      refine ⟨by omega, ?_, ?_⟩
      · intro x hx1 hx2
        by_cases hx : x < o + len
        · exact ⟨(o, len), by simp, by simp only; omega, hx⟩
        · obtain ⟨iv, hiv, hc⟩ := h2 x (by omega) hx2
          exact ⟨iv, List.mem_cons_of_mem _ hiv, hc⟩
      · intro iv hiv
        rcases List.mem_cons.mp hiv with hiv | hiv
        · subst hiv; simp only; omega
        · exact h3 iv hiv

theorem sweepEnd_complete (l : List (Nat × Nat)) (last T : Nat)
    (hs : l.Pairwise (fun a b => a.1 ≤ b.1))
    (hc : ∀ x, last ≤ x → x < T → CoveredBy l x) (he : ∀ iv ∈ l, iv.1 + iv.2 ≤ T) (hl : last ≤ T) :
    sweepEnd true last l = some T := by
  induction l generalizing last with
  | nil =>
    simp only [sweepEnd]
    by_cases h : last < T
    · obtain ⟨iv, hiv, _⟩ := hc last (Nat.le_refl _) h
      simp at hiv
    · congr 1; omega
  | cons iv r ih =>
    obtain ⟨o, len⟩ := iv
    simp only [List.pairwise_cons] at hs
    have hend := he (o, len) (by simp)
    simp only at hend
    have hnlt : ¬ last < o := by
      intro hlt
      by_cases h : last < T
      · obtain ⟨iv, hiv, h1, _⟩ := hc last (Nat.le_refl _) h
        rcases List.mem_cons.mp hiv with hiv | hiv
        · subst hiv; omega
        · have := hs.1 iv hiv; omega
      · omega
    simp only [sweepEnd, hnlt, if_false, if_true]
    refine ih _ hs.2 ?_ (fun iv hiv => he iv (List.mem_cons_of_mem _ hiv)) (by omega)
    intro x hx1 hx2
    obtain ⟨iv, hiv, h1, h2⟩ := hc x (by omega) hx2
    rcases List.mem_cons.mp hiv with hiv | hiv
    · subst hiv; simp only at h2; omega
    · exact ⟨iv, hiv, h1, h2⟩

end Dtn7.Intervals
