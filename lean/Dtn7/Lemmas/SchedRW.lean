/-
The RW-mutex interleaving semantics of `Dtn7.Model.SchedRW`: a statically disciplined program (`wlEnd`) keeps,
along every schedule, the invariant that a writer excludes every other holder, and that excludes a race.
-/
import Dtn7.Model.SchedRW

namespace Dtn7.Lemmas.SchedRW
open Dtn7.SchedRW

variable {L : Type} [DecidableEq L]

/-- The invariant carried along every schedule: each thread's remaining steps obey the lock
discipline from the mode it holds, and a writer excludes every other holder. -/
def Inv (ℓ : L) (s : State L) : Prop :=
  (∀ (i : Nat) (th : Thread L), s[i]? = some th → (wlEnd ℓ th.held th.rest).isSome = true) ∧
  (∀ (i j : Nat) (thi thj : Thread L), i ≠ j → s[i]? = some thi → s[j]? = some thj →
    thi.held = Mode.W → thj.held = Mode.none)

/-- What the lock discipline says about the first step: the rest is disciplined from the mode after it, an
acquire starts from no lock, a write to `ℓ` needs W, any access to `ℓ` needs some lock. -/
theorem wlEnd_cons (ℓ : L) (h : Mode) (st : Step L) (rest : List (Step L))
    (hw : (wlEnd ℓ h (st :: rest)).isSome = true) :
    (wlEnd ℓ (modeAfter h st) rest).isSome = true ∧ ((st = .acqR ∨ st = .acqW) → h = .none) ∧
      (isWriteOf ℓ st = true → h = .W) ∧ (isAccessOf ℓ st = true → h ≠ .none) := by
  cases st <;> simp only [wlEnd] at hw
  case acqR | acqW =>
    by_cases hn : h = .none
    · rw [if_pos hn] at hw; exact ⟨hw, fun _ => hn, fun hc => absurd hc Bool.false_ne_true, fun hc => absurd hc Bool.false_ne_true⟩
    · rw [if_neg hn] at hw; cases hw
  case rel =>
    by_cases hn : h = .none
    · rw [if_pos hn] at hw; cases hw
    · rw [if_neg hn] at hw; exact ⟨hw, fun hc => by cases hc <;> contradiction, fun hc => absurd hc Bool.false_ne_true, fun hc => absurd hc Bool.false_ne_true⟩
  case read l =>
    by_cases hc : l = ℓ ∧ h = .none
    · rw [if_pos hc] at hw; cases hw
    · rw [if_neg hc] at hw
      exact ⟨hw, fun hc => by cases hc <;> contradiction, fun hc => absurd hc Bool.false_ne_true,
        fun ha hn => hc ⟨by simpa [isAccessOf] using ha, hn⟩⟩
  case write l =>
    by_cases hc : l = ℓ ∧ h ≠ .W
    · rw [if_pos hc] at hw; cases hw
    · rw [if_neg hc] at hw
      have hl : isAccessOf ℓ (Step.write l) = true → l = ℓ := fun ha => by simpa [isAccessOf] using ha
      exact ⟨hw, fun hc => by cases hc <;> contradiction,
        fun ha => Classical.byContradiction fun hne => hc ⟨hl ha, hne⟩,
        fun ha hn => hc ⟨hl ha, by rw [hn]; decide⟩⟩
theorem wl_acq_none (ℓ : L) (h : Mode) (st : Step L) (rest : List (Step L))
    (hw : (wlEnd ℓ h (st :: rest)).isSome = true) (ha : st = .acqR ∨ st = .acqW) : h = .none :=
  (wlEnd_cons ℓ h st rest hw).2.1 ha

theorem inv_init (ℓ : L) (progs : List (List (Step L)))
    (hp : ∀ p ∈ progs, (wlEnd ℓ .none p).isSome = true) : Inv ℓ (init progs) := by
  constructor
  · intro i th hi
    simp only [init, List.getElem?_map, Option.map_eq_some_iff] at hi
    obtain ⟨p, hp', rfl⟩ := hi
    exact hp p (List.mem_of_getElem? hp')
  · intro i j thi thj _ _ hj _
    simp only [init, List.getElem?_map, Option.map_eq_some_iff] at hj
    obtain ⟨p, _, rfl⟩ := hj
    rfl

theorem inv_step (ℓ : L) (s s' : State L) (i : Nat) (hs : stepAt s i = some s') (hinv : Inv ℓ s) :
    Inv ℓ s' := by
  unfold stepAt at hs
  split at hs
  next h st rest hi =>
    split at hs
    next hen =>
      injection hs with hs
      subst hs
      obtain ⟨hwl, hex⟩ := hinv
      -- `List.getElem?_set` tests `i < s.length`; the `split`s below resolve that test from this fact
      have hilt : i < s.length := by
        rcases Nat.lt_or_ge i s.length with h | h
        · exact h
        · simp [List.getElem?_eq_none h] at hi
      have hwi := hwl i _ hi
      constructor
      · intro k th hk
        rw [List.getElem?_set] at hk
        split at hk
        next hik =>
          injection hk with hk
          subst hk
          exact (wlEnd_cons ℓ h st rest hwi).1
        next hik => exact hwl k th hk
      · intro a b tha thb hab ha hb hW
        rw [List.getElem?_set] at ha hb
        split at ha
        next hia =>
          -- a = i : thread i now holds W, so it just acquired it or held it before
          subst hia
          injection ha with ha
          subst ha
          have hbi : ¬ i = b := hab
          simp only [hbi, if_false] at hb
          simp only at hW
          cases st with
          | acqW =>
            simp only [enabledStep, List.all_eq_true, beq_iff_eq] at hen
            exact hen thb (List.mem_of_getElem? hb)
          | acqR | rel => simp [modeAfter] at hW
          | read l | write l => exact hex i b _ thb hab hi hb (by simpa [modeAfter] using hW)
        next hia =>
          split at hb
          next hib =>
            -- b = i : somebody else holds W while thread i moves
            subst hib
            injection hb with hb
            subst hb
            have hnone : h = .none := hex a i tha _ hab ha hi hW
            simp only
            cases st with
            | acqW =>
              simp only [enabledStep, List.all_eq_true, beq_iff_eq] at hen
              have := hen tha (List.mem_of_getElem? ha)
              rw [hW] at this
              cases this
            | acqR =>
              simp only [enabledStep, List.all_eq_true, bne_iff_ne] at hen
              exact absurd hW (hen tha (List.mem_of_getElem? ha))
            | rel => rfl
            | read l | write l => simpa [modeAfter] using hnone
          next hib => exact hex a b tha thb hab ha hb hW
    next => simp at hs
  next => simp at hs

theorem inv_exec (ℓ : L) (σ : List Nat) : ∀ (s s' : State L), exec s σ = some s' → Inv ℓ s → Inv ℓ s' := by
  induction σ with
  | nil => intro s s' h hi; simp only [exec] at h; injection h with h; exact h ▸ hi
  | cons i σ ih =>
    intro s s' h hi
    simp only [exec] at h
    cases hst : stepAt s i with
    | none => simp [hst] at h
    | some s1 =>
      simp only [hst, Option.bind_some] at h
      exact ih s1 s' h (inv_step ℓ s s1 i hst hi)

theorem inv_not_racy (ℓ : L) (s : State L) (hinv : Inv ℓ s) : ¬ Racy ℓ s := by
  rintro ⟨i, j, a, b, hij, ha, hb, hwa, hab⟩
  obtain ⟨hwl, hex⟩ := hinv
  simp only [next, Option.bind_eq_some_iff] at ha hb
  obtain ⟨thi, hi, hai⟩ := ha
  obtain ⟨thj, hj, hbj⟩ := hb
  have hwi := hwl i thi hi
  have hwj := hwl j thj hj
  obtain ⟨hi', ri⟩ := thi
  obtain ⟨hj', rj⟩ := thj
  cases ri with
  | nil => simp at hai
  | cons a' ri =>
    cases rj with
    | nil => simp at hbj
    | cons b' rj =>
      simp only [List.head?_cons, Option.some.injEq] at hai hbj
      subst hai hbj
      -- the writer holds W, so the other thread holds nothing, but its access needs the mutex as well
      have hW : hi' = .W := (wlEnd_cons ℓ hi' a' ri hwi).2.2.1 hwa
      exact (wlEnd_cons ℓ hj' b' rj hwj).2.2.2 hab (hex i j _ _ hij hi hj hW)

/-- **Protected ⇒ race free.** If every thread's program obeys the lock discipline for location ℓ
(every write to ℓ under the W lock, every read of ℓ under the R or W lock), then in no state
reachable by any feasible schedule a write to ℓ and another access to ℓ by a different thread are
both about to happen. -/
theorem protected_imp_race_free (ℓ : L) (progs : List (List (Step L)))
    (hp : ∀ p ∈ progs, (wlEnd ℓ .none p).isSome = true) (σ : List Nat) (s' : State L)
    (h : exec (init progs) σ = some s') : ¬ Racy ℓ s' :=
  inv_not_racy ℓ s' (inv_exec ℓ σ _ _ h (inv_init ℓ progs hp))

/-! ### From method shapes to programs -/

theorem wlEnd_append (ℓ : L) (p q : List (Step L)) : ∀ h,
    wlEnd ℓ h (p ++ q) = (wlEnd ℓ h p).bind (wlEnd ℓ · q) := by
  induction p with
  | nil => intro h; rfl
  | cons st p ih =>
    intro h
    cases st <;> simp only [List.cons_append, wlEnd] <;> split <;> simp [ih]

theorem wlEnd_accesses (ℓ : L) (h : Mode) (accs as' : List (Step L))
    (hall : accs.all (fun a => isAccess a && (wlEnd ℓ h [a]).isSome) = true)
    (hsub : ∀ a ∈ as', a ∈ accs) : wlEnd ℓ h as' = some h := by
  induction as' with
  | nil => rfl
  | cons a as' ih =>
    have ha := hsub a (List.mem_cons_self ..)
    have hrest := ih fun x hx => hsub x (List.mem_cons_of_mem _ hx)
    rw [List.all_eq_true] at hall
    have := hall a ha
    simp only [Bool.and_eq_true] at this
    obtain ⟨hacc, hok⟩ := this
    cases a with
    | read l | write l =>
      simp only [wlEnd] at hok ⊢
      split
      · next hc => simp [hc] at hok
      · exact hrest
    | _ => simp [isAccess] at hacc

theorem path_wlEnd (ℓ : L) (items : List (Item L)) (p : List (Step L)) (hp : Path items p) :
    ∀ h h', shapeEnd ℓ h items = some h' → wlEnd ℓ h p = some h' := by
  induction hp with
  | nil => intro h h' hs; simpa [shapeEnd, wlEnd] using hs
  | @op s is p _ ih =>
    intro h h' hs
    simp only [shapeEnd] at hs
    split at hs
    · simp at hs
    · cases h1 : wlEnd ℓ h [s] with
      | none => simp [h1] at hs
      | some h1' =>
        simp only [h1, Option.bind_some] at hs
        have := wlEnd_append ℓ [s] p h
        simp only [List.singleton_append] at this
        rw [this, h1]
        exact ih h1' h' hs
  | @any accs as' is p hsub _ ih =>
    intro h h' hs
    simp only [shapeEnd] at hs
    split at hs
    · next hall =>
      rw [wlEnd_append, wlEnd_accesses ℓ h accs as' hall hsub]
      exact ih h h' hs
    · simp at hs

/-- Any sequence of calls of balanced, disciplined methods is a disciplined program. -/
theorem progOf_wlEnd (ℓ : L) (methods : List (List (Item L)))
    (hm : ∀ m ∈ methods, shapeEnd ℓ .none m = some .none) (p : List (Step L))
    (hp : ProgOf methods p) : wlEnd ℓ .none p = some .none := by
  induction hp with
  | nil => rfl
  | call hmem hpath _ ih =>
    rw [wlEnd_append, path_wlEnd ℓ _ _ hpath .none .none (hm _ hmem)]
    exact ih

/-- Race freedom for threads that run arbitrary sequences of calls of the given methods. -/
theorem methods_race_free (ℓ : L) (methods : List (List (Item L)))
    (hm : ∀ m ∈ methods, shapeEnd ℓ .none m = some .none)
    (progs : List (List (Step L))) (hp : ∀ p ∈ progs, ProgOf methods p)
    (σ : List Nat) (s' : State L) (h : exec (init progs) σ = some s') : ¬ Racy ℓ s' :=
  protected_imp_race_free ℓ progs
    (fun p hpm => by rw [progOf_wlEnd ℓ methods hm p (hp p hpm)]; rfl) σ s' h

end Dtn7.Lemmas.SchedRW
