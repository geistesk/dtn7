/-
Lemmas about the fragmentation model (`Dtn7.Model.Fragment`): the loop invariant (offsets tile the
payload, every fragment is the slice the code cuts), the size bound, and the clause-by-clause
equivalence of the executable failure classifier with the Spec.
-/
import Dtn7.Model.Fragment
import Dtn7.Lemmas.Cbor

namespace Dtn7.Frag.Lemmas
open Dtn7.Cbor Dtn7.Cbor.Lemmas

theorem sumActual_le_sumPriced (bs : List Blk) (h : ∀ b ∈ bs, b.actual ≤ b.priced) :
    sumActual bs ≤ sumPriced bs := by
  induction bs with
  | nil => simp [sumActual, sumPriced]
  | cons b bs ih =>
    have h1 := h b (by simp)
    have h2 := ih (fun c hc => h c (by simp [hc]))
    simp only [sumActual, sumPriced, List.map_cons, List.sum_cons] at *
    omega

theorem repBlocks_sub (bs : List Blk) : ∀ b ∈ repBlocks bs, b ∈ bs := by
  intro b hb; exact (List.mem_filter.mp hb).1

theorem loop_ok_succ {c : Cfg} {x : In} {first others fuel i : Nat} {fs : List Frag}
    (h : loop c x first others (fuel + 1) i = .ok fs) :
    (¬ i < x.payload.length ∧ fs = []) ∨
    (i < x.payload.length ∧ overheadAt c x first others i < x.mtu ∧ fragValid x i = true ∧
      ∃ fs', loop c x first others fuel (i + (x.mtu - overheadAt c x first others i)) = .ok fs' ∧
        fs = ⟨base c x + i, tot c x, (x.payload.drop i).take (x.mtu - overheadAt c x first others i),
              carried x i⟩ :: fs') := by
  unfold loop at h
  split at h
  · rename_i hi
    simp only at h
    split at h
    · cases h
    · rename_i hov
      split at h
      · cases h
      · rename_i hval
        split at h
        · cases h
        · rename_i fs' hrec
          cases h
          exact Or.inr ⟨hi, Nat.lt_of_not_le hov, by simpa using hval, fs', hrec, rfl⟩
  · rename_i hi
    cases h
    exact Or.inl ⟨hi, rfl⟩

theorem loop_mem (c : Cfg) (x : In) (first others : Nat) :
    ∀ fuel i fs, loop c x first others fuel i = .ok fs → ∀ f ∈ fs,
      ∃ j, i ≤ j ∧ j < x.payload.length ∧ overheadAt c x first others j < x.mtu ∧ fragValid x j = true ∧
        f = ⟨base c x + j, tot c x,
             (x.payload.drop j).take (x.mtu - overheadAt c x first others j), carried x j⟩ := by
  intro fuel
  induction fuel with
  | zero => intro i fs h f hf; cases h; cases hf
  | succ fuel ih =>
    intro i fs h f hf
    rcases loop_ok_succ h with ⟨_, rfl⟩ | ⟨hi, hov, hval, fs', hrec, rfl⟩
    · cases hf
    · rcases List.mem_cons.mp hf with rfl | hf'
      · exact ⟨i, Nat.le_refl _, hi, hov, hval, rfl⟩
      · obtain ⟨j, hj, rest⟩ := ih _ _ hrec f hf'
        exact ⟨j, Nat.le_trans (Nat.le_add_right _ _) hj, rest⟩

theorem partitions_nil (s e : Nat) : partitions s e [] = (s == e) := rfl

theorem partitions_cons (s e o l : Nat) (r : List (Nat × Nat)) :
    partitions s e ((o, l) :: r) = (o == s && partitions (s + l) e r) := rfl

theorem loop_partition (c : Cfg) (x : In) (first others : Nat) :
    ∀ fuel i fs, loop c x first others fuel i = .ok fs → x.payload.length ≤ i + fuel →
      partitions (base c x + min i x.payload.length) (base c x + x.payload.length)
        (fs.map fun f => (f.off, f.data.length)) = true := by
  have done : ∀ i, ¬ i < x.payload.length →
      partitions (base c x + min i x.payload.length) (base c x + x.payload.length) [] = true := by
    intro i hi
    rw [partitions_nil, Nat.min_eq_right (Nat.le_of_not_lt hi)]
    exact beq_self_eq_true _
  intro fuel
  induction fuel with
  | zero => intro i fs h hl; cases h; exact done i (by omega)
  | succ fuel ih =>
    intro i fs h hl
    rcases loop_ok_succ h with ⟨hi, rfl⟩ | ⟨hi, hov, _, fs', hrec, rfl⟩
    · exact done i hi
    · have hrec' := ih _ _ hrec (by omega)
      generalize x.mtu - overheadAt c x first others i = cap at *
      rw [List.map_cons, partitions_cons, List.length_take, List.length_drop,
        Nat.min_eq_left (Nat.le_of_lt hi)]
      have e : base c x + i + min cap (x.payload.length - i) =
          base c x + min (i + cap) x.payload.length := by omega
      rw [e, hrec', beq_self_eq_true]
      rfl

theorem loop_head (c : Cfg) (x : In) (first others fuel : Nat) (f : Frag) (fs : List Frag)
    (h : loop c x first others fuel 0 = .ok (f :: fs)) : f.off = base c x ∧ f.carried = x.blocks := by
  cases fuel with
  | zero => cases h
  | succ fuel =>
    rcases loop_ok_succ h with ⟨_, h0⟩ | ⟨_, _, _, fs', _, h1⟩
    · cases h0
    · cases h1
      exact ⟨rfl, rfl⟩

theorem fragment_frags_inv {c : Cfg} {x : In} {fs : List Frag} (h : fragment c x = .frags fs) :
    loop c x (extLen x).1 (extLen x).2 x.payload.length 0 = .ok fs ∧ (c.precheck = true → fs ≠ []) := by
  unfold fragment at h
  split at h; · cases h
  split at h; · cases h
  split at h; · cases h
  rename_i fs' hl
  rw [hl]
  cases hc : c.precheck <;> simp only [hc, if_true, Bool.false_eq_true, if_false] at h <;>
    split at h <;> cases h
  · exact ⟨rfl, fun h => nomatch h⟩
  · rename_i hne
    exact ⟨rfl, fun _ e => hne (e ▸ rfl)⟩

theorem fragment_frags (c : Cfg) (x : In) (fs : List Frag) (h : fragment c x = .frags fs) :
    loop c x (extLen x).1 (extLen x).2 x.payload.length 0 = .ok fs :=
  (fragment_frags_inv h).1

theorem take_length_self {α} (l : List α) (n : Nat) : l.take n = l.take (l.take n).length := by
  rw [List.take_eq_take_iff, List.length_take]; omega

/-- What the estimate reserves for extension blocks and the empty payload block at index `j` covers
what the blocks carried there and the payload block really take, provided no block is longer than
it is priced. -/
theorem carried_le_ext (x : In) (j : Nat)
    (hblk : ∀ b ∈ x.blocks, b.actual ≤ b.priced) (hpl : x.pl.actual0 ≤ x.pl.priced) :
    sumActual (carried x j) + x.pl.actual0 + (headLen x.mtu - 1) ≤
      if j = 0 then (extLen x).1 else (extLen x).2 := by
  unfold carried extLen
  by_cases hj : j = 0
  · have := sumActual_le_sumPriced _ hblk
    simp only [hj, if_true]
    omega
  · have := sumActual_le_sumPriced _ (fun b hb => hblk b (repBlocks_sub _ b hb))
    simp only [hj, if_false]
    omega

/-- The arithmetic of the size bound: `P` primary block, `S` carried blocks, `A` the empty payload
block, `E` what the estimate reserved for `S` and `A`, `H`/`hn` the byte-string heads priced and
needed, `n` the chunk. -/
theorem size_arith {mtu P S A E H hn n : Nat} (hE : S + A + (H - 1) ≤ E) (hH : 1 ≤ H) (hh : hn ≤ H)
    (hov : 2 + P + E < mtu) (hnle : n ≤ mtu - (2 + P + E)) : 2 + P + S + (A + hn + n - 1) ≤ mtu := by
  omega

theorem fragSize_le (c : Cfg) (x : In) (j : Nat)
    (hblk : ∀ b ∈ x.blocks, b.actual ≤ b.priced) (hpl : x.pl.actual0 ≤ x.pl.priced)
    (hov : overheadAt c x (extLen x).1 (extLen x).2 j < x.mtu) :
    fragSize x ⟨base c x + j, tot c x,
      (x.payload.drop j).take (x.mtu - overheadAt c x (extLen x).1 (extLen x).2 j), carried x j⟩ ≤ x.mtu := by
  have hn : ((x.payload.drop j).take (x.mtu - overheadAt c x (extLen x).1 (extLen x).2 j)).length ≤
      x.mtu - overheadAt c x (extLen x).1 (extLen x).2 j := List.length_take_le _ _
  exact size_arith (carried_le_ext x j hblk hpl) (headLen_pos x.mtu)
    (headLen_mono (Nat.le_trans hn (Nat.sub_le _ _))) hov hn

/-! ### With the fits-test in front (the repair of D1) -/

theorem fragment_self_fits (c : Cfg) (hpre : c.precheck = true) (x : In) (h : fragment c x = .self) :
    x.size ≤ x.mtu := by
  unfold fragment at h
  split at h; · cases h
  split at h
  · rename_i hfit; simpa [hpre] using hfit
  · split at h
    · cases h
    · split at h <;> cases h

theorem fragment_of_fits (c : Cfg) (hpre : c.precheck = true) (x : In) (hm : x.mustNotFragment = false)
    (hfit : x.size ≤ x.mtu) : fragment c x = .self := by
  simp [fragment, hm, hpre, hfit]

/-- The Spec's clauses for the model's fragments written as observations (`Frag.obs`); only the
non-emptiness rests on the fits-test. -/
theorem fragmentsOk_of_frags (c : Cfg) (hpre : c.precheck = true) (x : In) (fs : List Frag)
    (hblk : ∀ b ∈ x.blocks, b.actual ≤ b.priced) (hpl : x.pl.actual0 ≤ x.pl.priced)
    (hty : (x.blocks.map (·.type)).Nodup) (h : fragment c x = .frags fs) :
    FragmentsOk x (base c x) (tot c x) (fs.map (Frag.obs x)) := by
  obtain ⟨hloop, hne⟩ := fragment_frags_inv h
  have hmem := loop_mem c x _ _ _ _ _ hloop
  have hsub : ∀ j, ((carried x j).map (·.type)).Sublist (x.blocks.map (·.type)) := by
    intro j
    unfold carried
    split
    · exact List.Sublist.refl _
    · exact List.Sublist.map _ List.filter_sublist
  refine ⟨?_, ?_, ?_, ?_, ?_, ?_, ?_, ?_, ?_, ?_, ?_⟩
  · intro e
    exact hne hpre (List.map_eq_nil_iff.mp e)
  · intro o ho
    obtain ⟨f, hf, rfl⟩ := List.mem_map.mp ho
    obtain ⟨j, _, _, hov, _, rfl⟩ := hmem f hf
    exact fragSize_le c x j hblk hpl hov
  · intro o ho
    obtain ⟨f, _, rfl⟩ := List.mem_map.mp ho
    rfl
  · intro o ho
    obtain ⟨f, _, rfl⟩ := List.mem_map.mp ho
    rfl
  · intro o ho
    obtain ⟨f, _, rfl⟩ := List.mem_map.mp ho
    rfl
  · intro o ho
    obtain ⟨f, hf, rfl⟩ := List.mem_map.mp ho
    obtain ⟨j, _, _, _, _, rfl⟩ := hmem f hf
    rfl
  · have := loop_partition c x _ _ _ _ _ hloop (by omega)
    simpa [List.map_map, Function.comp_def, Frag.obs] using this
  · intro o ho
    cases fs with
    | nil => simp at ho
    | cons f fs =>
      simp only [List.map_cons, List.head?_cons, Option.some.injEq] at ho
      subst ho
      have := (loop_head _ _ _ _ _ _ _ hloop).2
      simp [Frag.obs, this]
  · intro o ho b hb hr
    obtain ⟨f, hf, rfl⟩ := List.mem_map.mp ho
    obtain ⟨j, _, _, _, _, rfl⟩ := hmem f hf
    simp only [Frag.obs, List.mem_map]
    refine ⟨b, ?_, rfl⟩
    unfold carried
    split
    · exact hb
    · exact List.mem_filter.mpr ⟨hb, hr⟩
  · intro o ho
    obtain ⟨f, hf, rfl⟩ := List.mem_map.mp ho
    obtain ⟨j, _, _, _, _, rfl⟩ := hmem f hf
    exact ⟨rfl, List.Nodup.sublist (hsub j) hty, fun t ht => (hsub j).subset ht⟩
  · intro o ho
    obtain ⟨f, hf, rfl⟩ := List.mem_map.mp ho
    obtain ⟨j, _, _, _, _, rfl⟩ := hmem f hf
    refine ⟨rfl, ?_⟩
    simp only [Frag.obs, slice, Nat.add_sub_cancel_left]
    exact take_length_self _ _


theorem okFirst_iff (x : In) (fs : List Obs) :
    okFirst x fs = true ↔ ∀ f, fs.head? = some f → f.types = x.blocks.map (·.type) := by
  cases fs with
  | nil => simp [okFirst]
  | cons f fs => simp [okFirst]

theorem okRepl_iff (x : In) (fs : List Obs) :
    okRepl x fs = true ↔ ∀ f ∈ fs, ∀ b ∈ x.blocks, b.rep = true → b.type ∈ f.types := by
  simp only [okRepl, List.all_eq_true, Bool.or_eq_true, Bool.not_eq_true', List.contains_eq_mem,
    decide_eq_true_eq]
  constructor
  · intro h f hf b hb hr
    rcases h f hf b hb with h | h
    · rw [hr] at h; cases h
    · exact h
  · intro h f hf b hb
    cases hr : b.rep with
    | false => exact Or.inl rfl
    | true => exact Or.inr (h f hf b hb hr)

theorem okCopies_iff (x : In) (fs : List Obs) : okCopies x fs = true ↔
    ∀ f ∈ fs, f.blocksOk = true ∧ f.types.Nodup ∧ ∀ t ∈ f.types, t ∈ x.blocks.map (·.type) := by
  simp only [okCopies, List.all_eq_true, Bool.and_eq_true, decide_eq_true_eq, List.contains_eq_mem]
  constructor
  · intro h f hf
    obtain ⟨⟨a, b⟩, c⟩ := h f hf
    exact ⟨a, b, c⟩
  · intro h f hf
    obtain ⟨a, b, c⟩ := h f hf
    exact ⟨⟨a, b⟩, c⟩

theorem okSlices_iff (x : In) (start : Nat) (fs : List Obs) : okSlices x start fs = true ↔
    ∀ f ∈ fs, f.len = f.data.length ∧ f.data = slice x.payload (f.off - start) f.len := by
  simp [okSlices, List.all_eq_true]

theorem okSize_iff (x : In) (fs : List Obs) : okSize x fs = true ↔ ∀ f ∈ fs, f.size ≤ x.mtu := by
  simp [okSize, List.all_eq_true]

theorem okValid_iff (fs : List Obs) : okValid fs = true ↔ ∀ f ∈ fs, f.valid = true := by
  simp [okValid, List.all_eq_true]

theorem okFlag_iff (x : In) (fs : List Obs) :
    okFlag x fs = true ↔ ∀ f ∈ fs, f.flags = x.flags ||| flagIsFragment := by
  simp [okFlag, List.all_eq_true]

theorem okIdent_iff (fs : List Obs) : okIdent fs = true ↔ ∀ f ∈ fs, f.identOk = true := by
  simp [okIdent, List.all_eq_true]

theorem okTotal_iff (total : Nat) (fs : List Obs) : okTotal total fs = true ↔ ∀ f ∈ fs, f.total = total := by
  simp [okTotal, List.all_eq_true]

theorem ite_some_none (c : Prop) [Decidable c] (s : String) (r : Option String) :
    (if c then some s else r) = none ↔ ¬ c ∧ r = none := by
  by_cases h : c <;> simp [h]

theorem fragmentsFail_none_iff (x : In) (start total : Nat) (fs : List Obs) :
    fragmentsFail x start total fs = none ↔ FragmentsOk x start total fs := by
  have hemp : ¬ (fs.isEmpty = true) ↔ fs ≠ [] := by cases fs <;> simp
  unfold fragmentsFail
  simp only [ite_some_none, Bool.not_eq_true', Bool.not_eq_false, hemp, okFirst_iff, okRepl_iff, okCopies_iff, okSlices_iff,
    okSize_iff, okValid_iff, okFlag_iff, okIdent_iff, okTotal_iff, and_true]
  constructor
  · rintro ⟨n, s, va, fl, id, t, p, fi, r, cp, sl⟩
    exact ⟨n, s, va, fl, id, t, p, fi, r, cp, sl⟩
  · rintro ⟨n, s, va, fl, id, t, p, fi, r, cp, sl⟩
    exact ⟨n, s, va, fl, id, t, p, fi, r, cp, sl⟩

end Dtn7.Frag.Lemmas
