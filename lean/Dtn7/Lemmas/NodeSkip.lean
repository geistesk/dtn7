/-
The loop of `Core.SendBundle` / `IdKeeper.updateUnless` (/repo 43cf7bc) in the node model: `idkSkip`
reaches a sequence number whose bundle ID is not in the store, for EVERY store and EVERY IdKeeper
state, within `store.length + 1` rounds (a counting argument: every round passes an ID that is in the
store, and the IDs passed are pairwise different). Then `SendBundle` itself once the number is assigned
(`sendBundle_assigned`, `sendBundle_fresh`), for both ways to a free ID: a new (source, time) pair, or the loop —
C05's submission step. Last, the stored record in the middle of a `forward` (`pending_while_sending`).
-/
import Dtn7.Lemmas.NodeEvents
import Dtn7.Lemmas.CountP

namespace Dtn7.Node

/-- Number of store entries of (source, time) whose sequence number is at least `q`. -/
def seqsFrom (s : Store) (src : Eid) (ts q : Nat) : Nat :=
  s.countP (fun kv => kv.1.src == src && kv.1.ts == ts && decide (q ≤ kv.1.seq))

theorem seqsFrom_def (s : Store) (src : Eid) (ts q : Nat) :
    seqsFrom s src ts q = s.countP (fun kv => kv.1.src == src && kv.1.ts == ts && decide (q ≤ kv.1.seq)) := rfl

theorem seqsFrom_le_length (s : Store) (src : Eid) (ts q : Nat) : seqsFrom s src ts q ≤ s.length :=
  List.countP_le_length

theorem Store.mem_of_get_isSome : ∀ {s : Store} {k : Key}, (s.get k).isSome = true → ∃ it, (k, it) ∈ s
  | [], _, h => by simp [Store.get] at h
  | (k', it') :: s, k, h => by
    unfold Store.get at h
    by_cases hk : k' = k
    · subst hk; exact ⟨it', List.mem_cons_self⟩
    · simp only [hk, if_false] at h
      rcases Store.mem_of_get_isSome h with ⟨it, hm⟩
      exact ⟨it, List.mem_cons_of_mem _ hm⟩

private def pFrom (src : Eid) (ts q : Nat) (kv : Key × Item) : Bool :=
  kv.1.src == src && kv.1.ts == ts && decide (q ≤ kv.1.seq)

private theorem pFrom_succ {src : Eid} {ts q : Nat} {kv : Key × Item} (h : pFrom src ts (q + 1) kv = true) :
    pFrom src ts q kv = true := by
  unfold pFrom at h ⊢
  simp only [Bool.and_eq_true, decide_eq_true_eq] at h ⊢
  exact ⟨h.1, by omega⟩

private theorem countP_succ_lt_of_mem (s : Store) (k : Key) (it : Item) (h : (k, it) ∈ s) :
    s.countP (pFrom k.src k.ts (k.seq + 1)) < s.countP (pFrom k.src k.ts k.seq) :=
  List.countP_lt_of_mem (fun _ => pFrom_succ) h (by simp [pFrom]) (by simp [pFrom])

theorem seqsFrom_succ_lt (s : Store) (k : Key) (h : (s.get k).isSome = true) :
    seqsFrom s k.src k.ts (k.seq + 1) < seqsFrom s k.src k.ts k.seq := by
  rcases Store.mem_of_get_isSome h with ⟨it, hm⟩
  exact countP_succ_lt_of_mem s k it hm

theorem idkUpdate_known (b : Bundle) (n : Node) (v : Nat) (h : lookupNat n.idk (b.src, b.ts) = some v) :
    idkUpdate b n = ({ b with seq := v + 1 }, n.setIdk (setNat n.idk (b.src, b.ts) (v + 1))) := by
  unfold idkUpdate
  simp only [h]

/-- What `idkSkip` returns. -/
structure SkipRes (b : Bundle) (n : Node) (r : Bundle × Node) : Prop where
  /-- only the sequence number of the bundle changes, and it does not decrease -/
  bundle : ∃ q, r.1 = { b with seq := q } ∧ b.seq ≤ q
  /-- only the IdKeeper changes, and it knows the number handed out -/
  node : ∃ x, r.2 = n.setIdk x ∧ lookupNat x (b.src, b.ts) = some r.1.seq
  /-- the ID is free -/
  free : n.store.get r.1.key = none

/-- **The loop reaches a free ID.** -/
theorem idkSkip_spec : ∀ (fuel : Nat) (b : Bundle) (n : Node),
    lookupNat n.idk (b.src, b.ts) = some b.seq → seqsFrom n.store b.src b.ts b.seq < fuel →
    SkipRes b n (idkSkip fuel b n)
  | 0, _, _, _, hf => absurd hf (Nat.not_lt_zero _)
  | fuel + 1, b, n, hl, hf => by
    unfold idkSkip
    by_cases hk : (n.store.get b.key).isSome = true
    · simp only [hk, if_true]
      rw [idkUpdate_known b n b.seq hl]
      have hlt := seqsFrom_succ_lt n.store b.key hk
      have ih := idkSkip_spec fuel { b with seq := b.seq + 1 } (n.setIdk (setNat n.idk (b.src, b.ts) (b.seq + 1)))
        (by simp only [setIdk_idk, lookupNat_setNat, if_true]) (by
          simp only [setIdk_store]
          have : seqsFrom n.store b.src b.ts (b.seq + 1) < seqsFrom n.store b.src b.ts b.seq := hlt
          omega)
      rcases ih with ⟨⟨q, hq, hle⟩, ⟨x, hx, hlx⟩, hfree⟩
      refine ⟨⟨q, ?_, ?_⟩, ⟨x, ?_, ?_⟩, ?_⟩
      · rw [hq]
      · simp only at hle; omega
      · rw [hx]; rfl
      · exact hlx
      · simpa using hfree
    · rw [if_neg hk]
      refine ⟨⟨b.seq, by cases b; rfl, Nat.le_refl _⟩, ⟨n.idk, rfl, hl⟩, ?_⟩
      cases hg : n.store.get b.key with
      | none => rfl
      | some it => simp [hg] at hk

/-- **`SendBundle` files a bundle under an ID that is not in the store** — for every store, every
IdKeeper state (in particular the empty one after a restart) and every bundle, when the code skips the
stored numbers (`skipStored`, /repo 43cf7bc). Only the sequence number of the bundle changes. -/
theorem assignSeq_free (b : Bundle) (n : Node) (hskip : n.cfg.skipStored = true) :
    (∃ q, (assignSeq b n).1 = { b with seq := q }) ∧
    (∃ x, (assignSeq b n).2 = n.setIdk x) ∧
    n.store.get (assignSeq b n).1.key = none := by
  unfold assignSeq
  simp only [hskip, if_true]
  -- the first `update`
  have h1 : ∃ v, idkUpdate b n = ({ b with seq := v }, n.setIdk (setNat n.idk (b.src, b.ts) v)) := by
    unfold idkUpdate
    cases lookupNat n.idk (b.src, b.ts) with
    | none => exact ⟨0, rfl⟩
    | some v => exact ⟨v + 1, rfl⟩
  rcases h1 with ⟨v, hv⟩
  rw [hv]
  have hs := idkSkip_spec (n.store.length + 1) { b with seq := v } (n.setIdk (setNat n.idk (b.src, b.ts) v))
    (by simp only [setIdk_idk, lookupNat_setNat, if_true]) (by
      simp only [setIdk_store]
      have := seqsFrom_le_length n.store b.src b.ts v
      omega)
  rcases hs with ⟨⟨q, hq, _⟩, ⟨x, hx, _⟩, hfree⟩
  refine ⟨⟨q, by rw [hq]⟩, ⟨x, by rw [hx]; rfl⟩, by simpa using hfree⟩

/-- `transmit` of a bundle that keeps its number: `Sync` with DispatchPending (the item stays, with these
constraints), then deletion of a bundle that is not the node's own, else `dispatching`. -/
theorem transmit_cases (env : Env) (d : Desc) (b : Bundle) (n : Node) (it : Item)
    (hg : n.store.get d.key = some it)
    (hidk : n.cfg.seqFirst = true ∨ (lookupNat n.idk (b.src, b.ts) = none ∧ b.seq = 0)) :
    ∃ m : Node, m.cfg = n.cfg ∧
      (∃ it', m.store.get d.key = some it' ∧ it'.cons = { d.cons with dp := true }) ∧
      (transmit env d b n = (bundleDeletion { d with bndl := some b, cons := { d.cons with dp := true } } m, []) ∨
       transmit env d b n = dispatching env { d with bndl := some b, cons := { d.cons with dp := true } } m) := by
  rcases seqStep' n.cfg.seqFirst b n hidk with ⟨x, hx, _⟩
  have hne : ({ d.cons with dp := true } : Cons).isEmpty = false := by simp [Cons.isEmpty]
  refine ⟨sync { d with bndl := some b, cons := { d.cons with dp := true } } (n.setIdk x), (sync_env _ _).cfg,
    ⟨_, sync_update { d with bndl := some b, cons := { d.cons with dp := true } } (n.setIdk x) it hg hne, rfl⟩, ?_⟩
  unfold transmit
  simp only [hx]
  split
  · exact Or.inl rfl
  · exact Or.inr rfl

/-- `SendBundle` once the number is assigned: descriptor, `Sync`, `NotifyNewBundle`, `transmit`. -/
theorem sendBundle_assigned (env : Env) (b : Bundle) (n : Node) (b' : Bundle) (m : Node)
    (hpre : (if n.cfg.seqFirst = true then assignSeq b n else (b, n)) = (b', m)) :
    sendBundle env b n =
      transmit env { newDesc m b'.key with bndl := some b' } b'
        (notifyNew ({ newDesc m b'.key with bndl := some b' } : Desc).key b'
          (sync { newDesc m b'.key with bndl := some b' } m)) := by
  unfold sendBundle newDescFromBundle
  simp only [hpre]

/-- `SendBundle` once the number is assigned (bundle `b'`, IdKeeper `x`) and the ID is free: `Push` creates the
item, then `NotifyNewBundle` and `transmit`. -/
theorem sendBundle_fresh (env : Env) (b : Bundle) (n : Node) (b' : Bundle) (x : List ((Eid × Nat) × Nat))
    (hpre : (if n.cfg.seqFirst = true then assignSeq b n else (b, n)) = (b', n.setIdk x))
    (hfree : n.store.get b'.key = none) :
    sendBundle env b n =
      transmit env ⟨b'.key, none, Cons.empty, some b'⟩ b' (notifyNew b'.key b' (push b' (n.setIdk x))) := by
  have hnd : newDesc (n.setIdk x) b'.key = ⟨b'.key, none, Cons.empty, none⟩ := by
    unfold newDesc; simp only [setIdk_store, hfree]
  rw [sendBundle_assigned env b n b' _ hpre, hnd, sync_push _ _ b' hfree rfl]

/-- The state `transmit` starts from in `sendBundle_fresh`. -/
theorem fresh_start (b' : Bundle) (m : Node) (hfree : m.store.get b'.key = none) :
    SameEnv m (notifyNew b'.key b' (push b' m)) ∧ (notifyNew b'.key b' (push b' m)).idk = m.idk ∧
    ∃ it, (notifyNew b'.key b' (push b' m)).store.get b'.key = some it ∧ it.bundle = b' ∧
      it.expires = calcExpires m.cfg m.now b' := by
  have hnn := notifyNew_rt b'.key b' (push b' m)
  rcases hnn.item _ (push_get_absent b' m hfree) with ⟨it, g, hb, he, _⟩
  refine ⟨(push_only b' m).env.trans hnn.only.env, ?_, it, g, hb, he⟩
  rw [notifyNew_idk]; unfold push Node.setItem; cases m.store.get b'.key <;> rfl

/-- The two ways to a free ID: a new (source, time) pair with number 0 … -/
theorem preSend_of_fresh (b : Bundle) (n : Node) (hidk : lookupNat n.idk (b.src, b.ts) = none ∧ b.seq = 0)
    (hfresh : n.store.get b.key = none) :
    ∃ x, (if n.cfg.seqFirst = true then assignSeq b n else (b, n)) = (b, n.setIdk x) ∧
      (n.cfg.seqFirst = true ∨ (lookupNat x (b.src, b.ts) = none ∧ b.seq = 0)) := by
  rcases seqStep n.cfg.seqFirst b n hidk hfresh with ⟨x, hx, hx0, _⟩
  refine ⟨x, hx, ?_⟩
  cases hsf : n.cfg.seqFirst
  · right; rw [hx0 hsf]; exact hidk
  · left; rfl

/-- … or the skip loop of the code as it is. -/
theorem preSend_of_cur (b : Bundle) (n : Node) (hseq : n.cfg.seqFirst = true) (hskip : n.cfg.skipStored = true) :
    ∃ x, (if n.cfg.seqFirst = true then assignSeq b n else (b, n)) = ((assignSeq b n).1, n.setIdk x) := by
  rcases assignSeq_free b n hskip with ⟨_, ⟨x, hx⟩, _⟩
  exact ⟨x, by rw [if_pos hseq]; exact Prod.ext rfl hx⟩

/-- A submission filed under a free ID (`sendBundle_fresh`) is handed successfully to a convergence layer or held
in the store, marked for retry, with the expiry of its lifetime. -/
theorem sendBundle_kept_fresh (env : Env) (b : Bundle) (n : Node) (b' : Bundle) (x : List ((Eid × Nat) × Nat))
    (hpre : (if n.cfg.seqFirst = true then assignSeq b n else (b, n)) = (b', n.setIdk x))
    (hfree : n.store.get b'.key = none)
    (hidk : n.cfg.seqFirst = true ∨ (lookupNat x (b'.src, b'.ts) = none ∧ b'.seq = 0))
    (hfix : n.cfg.holdFix = true) (hsrc : hasEndpoint n.cfg b'.src = true) (hf : forwardable n.now b')
    (hdst : hasEndpoint n.cfg b'.dst = false) :
    OkSent (sendBundle env b n).2 b' ∨ Holds (sendBundle env b n).1 b' (calcExpires n.cfg n.now b') := by
  rw [sendBundle_fresh env b n b' x hpre hfree]
  rcases fresh_start b' (n.setIdk x) hfree with ⟨henv, hidk2, it, g, hb, he⟩
  have hcfg : (notifyNew b'.key b' (push b' (n.setIdk x))).cfg = n.cfg := henv.cfg
  have := transmit_kept env ⟨b'.key, none, Cons.empty, some b'⟩ b' _ it (by rw [hcfg]; exact hfix) g
    (by rw [hcfg, hidk2]; exact hidk) rfl rfl (by rw [hcfg]; exact hsrc) (by rw [henv.now]; exact hf)
    (by rw [hcfg]; exact hdst)
  exact this.imp id fun h => Holds.of_kept h hb he

theorem sendBundle_kept (env : Env) (b : Bundle) (n : Node) (hfix : n.cfg.holdFix = true)
    (hfresh : n.store.get b.key = none)
    (hidk : lookupNat n.idk (b.src, b.ts) = none ∧ b.seq = 0)
    (hsrc : hasEndpoint n.cfg b.src = true) (hf : forwardable n.now b) (hdst : hasEndpoint n.cfg b.dst = false) :
    OkSent (sendBundle env b n).2 b ∨ Holds (sendBundle env b n).1 b (calcExpires n.cfg n.now b) := by
  rcases preSend_of_fresh b n hidk hfresh with ⟨x, hx, hi⟩
  exact sendBundle_kept_fresh env b n b x hx hfresh hi hfix hsrc hf hdst

/-- **A submission is never lost, whatever the node's state** (the code /repo has — `seqFirst`, `skipStored`,
`holdFix`: sequence number first, stored numbers skipped, refused dispatching holds the bundle): the submitted bundle — with the number the
node assigned — was either handed successfully to a convergence layer, or it is in the store under its own
ID, marked for retry, with the expiry of its lifetime. No hypothesis on the store or the IdKeeper: it
covers the state after a restart, clock-less sources and any earlier submissions of the same content. -/
theorem sendBundle_kept_any (env : Env) (b : Bundle) (n : Node) (hfix : n.cfg.holdFix = true)
    (hseq : n.cfg.seqFirst = true) (hskip : n.cfg.skipStored = true)
    (hsrc : hasEndpoint n.cfg b.src = true) (hf : forwardable n.now b) (hdst : hasEndpoint n.cfg b.dst = false) :
    OkSent (sendBundle env b n).2 (assignSeq b n).1 ∨
      Holds (sendBundle env b n).1 (assignSeq b n).1 (calcExpires n.cfg n.now (assignSeq b n).1) := by
  rcases assignSeq_free b n hskip with ⟨⟨q, hq⟩, _, hfree⟩
  rcases preSend_of_cur b n hseq hskip with ⟨x, hx⟩
  exact sendBundle_kept_fresh env b n _ x hx hfree (Or.inl hseq) hfix (by rw [hq]; exact hsrc) (by rw [hq]; exact hf)
    (by rw [hq]; exact hdst)

/-- A submission only touches the item of the ID `b'` it is filed under, keeps the store well-formed, leaves there
a bundle like `b'` or the one that was there, and all its outputs are transmissions of `b'`. -/
theorem sendBundle_touch (env : Env) (b : Bundle) (n : Node) (b' : Bundle) (x : List ((Eid × Nat) × Nat))
    (hpre : (if n.cfg.seqFirst = true then assignSeq b n else (b, n)) = (b', n.setIdk x))
    (hidk : n.cfg.seqFirst = true ∨ (lookupNat x (b'.src, b'.ts) = none ∧ b'.seq = 0)) :
    (WF n → WF (sendBundle env b n).1) ∧ OnlyKey b'.key n (sendBundle env b n).1 ∧
    BStep b' b'.key n (sendBundle env b n).1 ∧ ∀ o ∈ (sendBundle env b n).2, ∃ p ok, o = Output.sent p b' ok := by
  rw [sendBundle_assigned env b n b' _ hpre]
  have h := accept_step env b' { newDesc (n.setIdk x) b'.key with bndl := some b' } (n.setIdk x) (newDesc_key _ _)
    rfl hidk
  have o0 : OnlyKey b'.key n (n.setIdk x) := ⟨⟨rfl, rfl, rfl, rfl⟩, fun _ _ => rfl, fun _ _ => rfl⟩
  exact ⟨fun w => h.1.wf (wf_idk w x), o0.trans h.1.only, (setIdk_bstep b' b'.key n x).trans h.2.1, h.2.2⟩

theorem sendBundle_only_any (env : Env) (b : Bundle) (n : Node) (w : WF n)
    (hseq : n.cfg.seqFirst = true) (hskip : n.cfg.skipStored = true) :
    WF (sendBundle env b n).1 ∧ OnlyKey (assignSeq b n).1.key n (sendBundle env b n).1 ∧
    ∀ o ∈ (sendBundle env b n).2, ∃ p ok, o = Output.sent p (assignSeq b n).1 ok := by
  rcases preSend_of_cur b n hseq hskip with ⟨x, hx⟩
  have h := sendBundle_touch env b n _ x hx (Or.inl hseq)
  exact ⟨h.1 w, h.2.1, h.2.2.2⟩

/-! ## The persistent record while the transmissions of one `forward` are in progress -/

/-- The state at the moment the transmissions of one `forward` start: after the first `Sync`
(`ForwardPending` set, `DispatchPending` cleared) and the choice of the senders. -/
def forwardMid (env : Env) (d : Desc) (b : Bundle) (n : Node) : Node :=
  (selectSenders env { d with cons := { d.cons with fp := true, dp := false } } b
    (sync { d with cons := { d.cons with fp := true, dp := false } } n)).2.2.2

/-- The descriptor the per-peer goroutines work with. -/
def forwardMidDesc (env : Env) (d : Desc) (b : Bundle) (n : Node) : Desc :=
  (selectSenders env { d with cons := { d.cons with fp := true, dp := false } } b
    (sync { d with cons := { d.cons with fp := true, dp := false } } n)).2.2.1

/-- Up to the middle of a `forward` — first `Sync`, choice of the senders, some of the per-peer transmissions —
only the item of the descriptor's key was touched. -/
theorem sendAll_forwardMid_kstep (env : Env) (d : Desc) (b : Bundle) (n : Node)
    (hbk : ∀ b', d.bndl = some b' → b'.key = d.key) (ps : List Peer) :
    KStep d.key n (sendAll env (forwardMidDesc env d b n) b ps (forwardMid env d b n)).1 := by
  have k1 : KStep d.key n (sync (fwdDesc d) n) := sync_kstep (fwdDesc d) n hbk
  have k2 : KStep d.key _ (forwardMid env d b n) := (selectSenders_rt env (fwdDesc d) b (sync (fwdDesc d) n)).kstep
  have k3 := (sendAll_rt env (forwardMidDesc env d b n) b ps (forwardMid env d b n)).kstep
  rw [show (forwardMidDesc env d b n).key = d.key from (selectSenders_desc env (fwdDesc d) b _).1] at k3
  exact (k1.trans k2).trans k3

/-- **Marked for retry while a transmission is in progress**: when `forward` starts to transmit a stored
bundle (not held for reassembly), the stored record is marked pending — and it stays so whichever of the
per-peer goroutines (`Send`; on failure `ReportFailure`) have run so far, in whatever order: `ps` is an
arbitrary list of peers. A process that dies inside a `Send` finds the bundle pending at its next start. -/
theorem pending_while_sending (env : Env) (d : Desc) (b : Bundle) (n : Node) (it : Item)
    (hg : n.store.get d.key = some it) (hrp : d.cons.rp = false) (ps : List Peer) :
    ∃ it', (sendAll env (forwardMidDesc env d b n) b ps (forwardMid env d b n)).1.store.get d.key = some it' ∧
      it'.pending = true ∧ it'.bundle = it.bundle ∧ it'.expires = it.expires := by
  have hpr : (fwdDesc d).cons.pendingRule = true := by simp [fwdDesc, Cons.pendingRule, hrp]
  have h1 := sync_update (fwdDesc d) n it hg (fwdDesc_nonempty d)
  rcases (selectSenders_rt env (fwdDesc d) b (sync (fwdDesc d) n)).item _ h1 with ⟨it2, g2, b2, e2, _, _, p2, _⟩
  have h3 := sendAll_rt env (forwardMidDesc env d b n) b ps (forwardMid env d b n)
  rw [show (forwardMidDesc env d b n).key = d.key from (selectSenders_desc env (fwdDesc d) b _).1] at h3
  rcases h3.item _ g2 with ⟨it3, g3, b3, e3, _, _, p3, _⟩
  exact ⟨it3, g3, p3 (p2 hpr), b3.trans b2, e3.trans e2⟩

end Dtn7.Node
