/-
What `forward` / `dispatching` do to the item they work on and to everything else.
-/
import Dtn7.Lemmas.Node

namespace Dtn7.Node

/-! ## Provenance: which bundle an item holds -/

/-- `b'` is `b` as far as routing identity goes (tag, ID, previous node, destination); `forward` may
rewrite the spray block of the in-memory copy. -/
def Like (b b' : Bundle) : Prop := b'.tag = b.tag ∧ b'.key = b.key ∧ b'.prev = b.prev ∧ b'.dst = b.dst

theorem Like.refl (b : Bundle) : Like b b := ⟨rfl, rfl, rfl, rfl⟩
theorem Like.trans {a b c : Bundle} (h1 : Like a b) (h2 : Like b c) : Like a c :=
  ⟨h2.1.trans h1.1, h2.2.1.trans h1.2.1, h2.2.2.1.trans h1.2.2.1, h2.2.2.2.trans h1.2.2.2⟩

/-- The item under `k` afterwards holds (a bundle like) the one it held before, or (one like) the bundle
`b` that the step may push. -/
structure BStep (b : Bundle) (k : Key) (n n' : Node) : Prop where
  bundle : ∀ it', n'.store.get k = some it' →
    (∃ it, n.store.get k = some it ∧ Like it.bundle it'.bundle) ∨ Like b it'.bundle

theorem BStep.refl (b : Bundle) (k : Key) (n : Node) : BStep b k n n :=
  ⟨fun it' h => Or.inl ⟨it', h, Like.refl _⟩⟩

theorem BStep.trans {b : Bundle} {k : Key} {x y z : Node} (h1 : BStep b k x y) (h2 : BStep b k y z) :
    BStep b k x z := by
  refine ⟨fun it' h => ?_⟩
  rcases h2.bundle it' h with ⟨it1, g1, l1⟩ | hp
  · rcases h1.bundle it1 g1 with ⟨it0, g0, l0⟩ | hp0
    · exact Or.inl ⟨it0, g0, l0.trans l1⟩
    · exact Or.inr (hp0.trans l1)
  · exact Or.inr hp

theorem RtStep.bstep {b : Bundle} {k : Key} {n n' : Node} (h : RtStep k n n') : BStep b k n n' := by
  refine ⟨fun it' hg => ?_⟩
  cases h0 : n.store.get k with
  | none => rw [h.absent h0] at hg; cases hg
  | some it0 =>
    rcases h.item it0 h0 with ⟨it1, g1, b1, _⟩
    rw [hg] at g1
    cases g1
    exact Or.inl ⟨it0, rfl, by rw [b1]; exact Like.refl _⟩

theorem sync_bstep (b : Bundle) (d : Desc) (n : Node) (hb : ∀ b0, d.bndl = some b0 → Like b b0 ∧ b0.key = d.key) :
    BStep b d.key n (sync d n) := by
  refine ⟨fun it' hg => ?_⟩
  rw [sync_get d n (fun _ b0 h => (hb b0 h).2), if_pos rfl] at hg
  unfold syncItem at hg
  cases h : n.store.get d.key with
  | none =>
    rw [h] at hg
    cases hd : d.bndl with
    | none => rw [hd] at hg; cases hg
    | some b0 => rw [hd] at hg; cases hg; exact Or.inr (hb b0 hd).1
  | some it =>
    rw [h] at hg
    dsimp only at hg
    split at hg
    · cases hg
    · cases hg; exact Or.inl ⟨it, rfl, Like.refl _⟩

/-! ## The footprint of `processing.go` on the store -/

/-- Only the item of key `k` (and the algorithms' bookkeeping for `k`) may differ, the store stays
well-formed, the IdKeeper is not touched, and the item under `k` afterwards holds a bundle like the one
before or like `b`, the one that may be pushed. -/
structure Step (b : Bundle) (k : Key) (n n' : Node) : Prop extends KStep k n n', BStep b k n n'

theorem Step.refl (b : Bundle) (k : Key) (n : Node) : Step b k n n := ⟨KStep.refl k n, BStep.refl b k n⟩

theorem Step.trans {b : Bundle} {k : Key} {x y z : Node} (h1 : Step b k x y) (h2 : Step b k y z) : Step b k x z :=
  ⟨h1.toKStep.trans h2.toKStep, h1.toBStep.trans h2.toBStep⟩

theorem RtStep.step {b : Bundle} {k : Key} {n n' : Node} (h : RtStep k n n') : Step b k n n' := ⟨h.kstep, h.bstep⟩

/-- The descriptor's in-memory bundle, if there is one, is (like) `b` and is filed under the descriptor's key. -/
def Carries (d : Desc) (b : Bundle) : Prop := ∀ b0, d.bndl = some b0 → Like b b0 ∧ b0.key = d.key

theorem Carries.of_eq {d : Desc} {b : Bundle} (hd : d.bndl = some b) (hk : b.key = d.key) : Carries d b := by
  intro b0 h
  rw [hd] at h
  cases h
  exact ⟨Like.refl _, hk⟩

theorem Carries.of_none {d : Desc} (b : Bundle) (hd : d.bndl = none) : Carries d b := by
  intro b0 h
  rw [hd] at h
  cases h

theorem sync_step {b : Bundle} {d : Desc} (hb : Carries d b) (n : Node) : Step b d.key n (sync d n) :=
  ⟨sync_kstep d n fun b0 h => (hb b0 h).2, sync_bstep b d n hb⟩

theorem bundleDeletion_step {b : Bundle} {d : Desc} (hb : Carries d b) (n : Node) :
    Step b d.key n (bundleDeletion d n) :=
  sync_step (d := { d with cons := d.cons.purge }) hb n

theorem bundleContraindicated_step {b : Bundle} {d : Desc} (hb : Carries d b) (n : Node) :
    Step b d.key n (bundleContraindicated d n) :=
  sync_step (d := { d with cons := { d.cons with ci := true } }) hb n

theorem localDelivery_step {b : Bundle} {d : Desc} (hb : Carries d b) (n : Node) :
    Step b d.key n (localDelivery d n) :=
  (sync_step (d := { d with cons := { d.cons with le := true } }) hb n).trans
    (sync_step (d := { d with cons := ({ d.cons with le := true } : Cons).purge }) hb _)

/-! ## sendAll: outputs -/

theorem sendAll_outs (env : Env) (d : Desc) (b : Bundle) : ∀ (ps : List Peer) (n : Node) (o : Output),
    o ∈ (sendAll env d b ps n).2.1 → ∃ p ok, p ∈ ps ∧ o = Output.sent p b ok
  | [], n, o, h => by simp [sendAll] at h
  | q :: ps, n, o, h => by
    simp only [sendAll] at h
    rcases List.mem_cons.mp h with h | h
    · exact ⟨q, _, List.mem_cons_self, h⟩
    · rcases sendAll_outs env d b ps _ o h with ⟨p, ok, hp, ho⟩
      exact ⟨p, ok, List.mem_cons_of_mem _ hp, ho⟩

theorem sendAll_all (env : Env) (d : Desc) (b : Bundle) : ∀ (ps : List Peer) (n : Node) (p : Peer),
    p ∈ ps → ∃ ok, Output.sent p b ok ∈ (sendAll env d b ps n).2.1
  | [], n, p, h => by simp at h
  | q :: ps, n, p, h => by
    simp only [sendAll]
    rcases List.mem_cons.mp h with h | h
    · subst h
      exact ⟨_, List.mem_cons_self⟩
    · rcases sendAll_all env d b ps _ p h with ⟨ok, hok⟩
      exact ⟨ok, List.mem_cons_of_mem _ hok⟩

theorem sendAll_sent (env : Env) (d : Desc) (b : Bundle) : ∀ (ps : List Peer) (n : Node),
    (sendAll env d b ps n).2.2 = true → ∃ p, Output.sent p b true ∈ (sendAll env d b ps n).2.1
  | [], n, h => by simp [sendAll] at h
  | q :: ps, n, h => by
    simp only [sendAll] at h ⊢
    by_cases hq : env.sendOk q.addr b.tag (attemptNo n q.addr b.tag b.seq) = true
    · exact ⟨q, by rw [hq]; exact List.mem_cons_self⟩
    · have hq' : env.sendOk q.addr b.tag (attemptNo n q.addr b.tag b.seq) = false := eq_false_of_ne_true hq
      rw [hq'] at h ⊢
      simp only [Bool.false_or] at h
      rcases sendAll_sent env d b ps _ h with ⟨p, hp⟩
      exact ⟨p, List.mem_cons_of_mem _ hp⟩

/-! ## What `forward` asks of the bundle and what it leaves in the store -/

/-- Nothing in `forward` refuses the bundle at time `now`. -/
def forwardable (now : Nat) (b : Bundle) : Prop :=
  hopExceeded b = false ∧ lifetimeExceeded now b = false ∧ ageExpired b = false

/-- The item is still there, marked for retry, with the same bundle and expiry. -/
def Kept (it : Item) (o : Option Item) : Prop :=
  ∃ it', o = some it' ∧ it'.pending = true ∧ it'.bundle = it.bundle ∧ it'.expires = it.expires ∧
    it'.cons.pendingRule = true ∧ it'.cons.le = false

/-- A copy of the bundle with this tag and this ID was handed to a CLA successfully. -/
def OkSent (outs : List Output) (b0 : Bundle) : Prop :=
  ∃ p b, Output.sent p b true ∈ outs ∧ b.tag = b0.tag ∧ b.key = b0.key

/-- The descriptor `forward` works with: `ForwardPending` set, `DispatchPending` cleared. -/
def fwdDesc (d : Desc) : Desc := { d with cons := { d.cons with fp := true, dp := false } }

@[simp] theorem fwdDesc_key (d : Desc) : (fwdDesc d).key = d.key := rfl
theorem fwdDesc_nonempty (d : Desc) : (fwdDesc d).cons.isEmpty = false := by simp [fwdDesc, Cons.isEmpty]

theorem forward_sends (env : Env) (d : Desc) (b : Bundle) (n : Node) (h : forwardable n.now b) :
    forward env d b n = forwardSend env b (selectSenders env (fwdDesc d) b (sync (fwdDesc d) n)) := by
  unfold forward
  simp only [(sync_env _ n).now, h.1, h.2.1, h.2.2, Bool.false_eq_true, if_false, fwdDesc]

theorem forward_refused (env : Env) (d : Desc) (b : Bundle) (n : Node) (h : ¬ forwardable n.now b) :
    forward env d b n = (bundleDeletion (fwdDesc d) (sync (fwdDesc d) n), []) := by
  unfold forward
  simp only [(sync_env _ n).now, fwdDesc]
  split
  · rfl
  · split
    · rfl
    · split
      · rfl
      · rename_i h1 h2 h3
        exact absurd ⟨by simpa using h1, by simpa using h2, by simpa using h3⟩ h

/-! ## selectSenders / forwardSend / forward -/

theorem selectSenders_picks (env : Env) (d : Desc) (b : Bundle) (n : Node) :
    Picks env d b n (selectSenders env d b n) := by
  unfold selectSenders
  dsimp only
  split
  · exact sendersFor_picks env d b n
  · exact ⟨Or.inl rfl, RtStep.refl _ _, fun p hp => (List.mem_filter.mp hp).1⟩

theorem selectSenders_desc (env : Env) (d : Desc) (b : Bundle) (n : Node) :
    (selectSenders env d b n).2.2.1.key = d.key ∧ (selectSenders env d b n).2.2.1.cons = d.cons ∧
    (selectSenders env d b n).2.2.1.receiver = d.receiver :=
  (selectSenders_picks env d b n).keep

theorem selectSenders_bndl (env : Env) (d : Desc) (b : Bundle) (n : Node) :
    (selectSenders env d b n).2.2.1.bndl = d.bndl ∨
    ∃ c, (selectSenders env d b n).2.2.1.bndl = some { b with bsCopies := some c } :=
  (selectSenders_picks env d b n).bndl

theorem selectSenders_rt (env : Env) (d : Desc) (b : Bundle) (n : Node) :
    RtStep d.key n (selectSenders env d b n).2.2.2 :=
  (selectSenders_picks env d b n).rt

/-- The bundle handed to the CLAs carries the tag (and everything but the binary-spray block) of `b`. -/
theorem selectSenders_tag (env : Env) (d : Desc) (b : Bundle) (n : Node) (hd : d.bndl = some b) :
    ((selectSenders env d b n).2.2.1.bndl.getD b).tag = b.tag ∧
    ((selectSenders env d b n).2.2.1.bndl.getD b).key = b.key ∧
    ((selectSenders env d b n).2.2.1.bndl.getD b).prev = b.prev ∧
    ((selectSenders env d b n).2.2.1.bndl.getD b).dst = b.dst := by
  rcases selectSenders_bndl env d b n with h | ⟨c, h⟩
  · rw [h, hd]; exact ⟨rfl, rfl, rfl, rfl⟩
  · rw [h]; exact ⟨rfl, rfl, rfl, rfl⟩

/-- After the transmissions the bundle is deleted (a `Send` succeeded and the algorithm asked for it) or marked
contraindicated. -/
theorem forwardSend_fst (env : Env) (b : Bundle) (r : List Peer × Bool × Desc × Node) :
    ((sendAll env r.2.2.1 b r.1 r.2.2.2).2.2 = true ∧
      (forwardSend env b r).1 = bundleDeletion r.2.2.1 (sendAll env r.2.2.1 b r.1 r.2.2.2).1) ∨
    (forwardSend env b r).1 = bundleContraindicated r.2.2.1 (sendAll env r.2.2.1 b r.1 r.2.2.2).1 := by
  unfold forwardSend
  dsimp only
  split
  · rename_i h
    exact Or.inl ⟨(Bool.and_eq_true _ _ ▸ h).1, rfl⟩
  · exact Or.inr rfl

theorem forwardSend_step (env : Env) (b : Bundle) (r : List Peer × Bool × Desc × Node) (hb : Carries r.2.2.1 b) :
    Step b r.2.2.1.key r.2.2.2 (forwardSend env b r).1 := by
  refine (sendAll_rt env r.2.2.1 b r.1 r.2.2.2).step.trans ?_
  rcases forwardSend_fst env b r with ⟨_, h⟩ | h <;> rw [h]
  · exact bundleDeletion_step hb _
  · exact bundleContraindicated_step hb _

theorem forwardSend_snd (env : Env) (b : Bundle) (r : List Peer × Bool × Desc × Node) :
    (forwardSend env b r).2 = (sendAll env r.2.2.1 b r.1 r.2.2.2).2.1 := by
  unfold forwardSend
  dsimp only
  split <;> rfl

theorem forwardSend_outs (env : Env) (b : Bundle) (r : List Peer × Bool × Desc × Node) :
    ∀ o ∈ (forwardSend env b r).2, ∃ p ok, p ∈ r.1 ∧ o = Output.sent p b ok := by
  rw [forwardSend_snd]
  exact sendAll_outs env _ b r.1 _

theorem forwardSend_all (env : Env) (b : Bundle) (r : List Peer × Bool × Desc × Node) :
    ∀ p ∈ r.1, ∃ ok, Output.sent p b ok ∈ (forwardSend env b r).2 := by
  rw [forwardSend_snd]
  exact sendAll_all env _ b r.1 _

theorem Kept.of_eq {it it2 : Item} {o : Option Item} (h : Kept it2 o) (hb : it2.bundle = it.bundle)
    (he : it2.expires = it.expires) : Kept it o := by
  rcases h with ⟨it', h1, h2, h3, h4, h5⟩
  exact ⟨it', h1, h2, h3.trans hb, h4.trans he, h5⟩

/-- A bundle marked contraindicated stays in the store, waiting for its retry. -/
theorem bundleContraindicated_kept (d : Desc) (n : Node) (it : Item) (hg : n.store.get d.key = some it)
    (hrp : d.cons.rp = false) (hle : d.cons.le = false) :
    Kept it ((bundleContraindicated d n).store.get d.key) := by
  have hne : ({ d.cons with ci := true } : Cons).isEmpty = false := by simp [Cons.isEmpty]
  refine ⟨_, sync_update { d with cons := { d.cons with ci := true } } n it hg hne, ?_, rfl, rfl, ?_, hle⟩ <;>
    simp [Cons.pendingRule, hrp]

theorem forwardSend_kept (env : Env) (b : Bundle) (r : List Peer × Bool × Desc × Node) (it : Item)
    (hg : r.2.2.2.store.get r.2.2.1.key = some it)
    (hrp : r.2.2.1.cons.rp = false) (hle : r.2.2.1.cons.le = false) :
    OkSent (forwardSend env b r).2 b ∨
    Kept it ((forwardSend env b r).1.store.get r.2.2.1.key) := by
  rcases (sendAll_rt env r.2.2.1 b r.1 r.2.2.2).item it hg with ⟨it2, g2, b2, e2, _, _, _⟩
  rcases forwardSend_fst env b r with ⟨hok, _⟩ | h
  · left
    rcases sendAll_sent env _ _ _ _ hok with ⟨p, hp⟩
    exact ⟨p, _, forwardSend_snd env b r ▸ hp, rfl, rfl⟩
  · right
    rw [h]
    exact (bundleContraindicated_kept r.2.2.1 _ it2 g2 hrp hle).of_eq b2 e2

theorem Picks.carries {env : Env} {d : Desc} {b : Bundle} {n : Node} {r : List Peer × Bool × Desc × Node}
    (h : Picks env d b n r) (hb : Carries d b) (hk : b.key = d.key) : Carries r.2.2.1 b := by
  rcases h.desc with h | ⟨c, h⟩ <;> rw [h]
  · exact hb
  · intro b0 h0
    cases h0
    exact ⟨⟨rfl, rfl, rfl, rfl⟩, hk⟩

theorem forward_step (env : Env) (d : Desc) (b : Bundle) (n : Node) (hb : Carries d b) (hk : b.key = d.key) :
    Step b d.key n (forward env d b n).1 := by
  have h1 : Step b d.key n (sync (fwdDesc d) n) := sync_step (d := fwdDesc d) hb n
  by_cases hf : forwardable n.now b
  · rw [forward_sends env d b n hf]
    have hp := selectSenders_picks env (fwdDesc d) b (sync (fwdDesc d) n)
    have := forwardSend_step env b _ (hp.carries (d := fwdDesc d) hb hk)
    rw [hp.keep.1] at this
    exact h1.trans ((hp.rt.step (b := b)).trans this)
  · rw [forward_refused env d b n hf]
    exact h1.trans (bundleDeletion_step (d := fwdDesc d) hb _)

theorem forward_names (env : Env) (d : Desc) (b : Bundle) (n : Node) :
    ∀ o ∈ (forward env d b n).2, ∃ p ok, o = Output.sent p b ok := by
  intro o ho
  by_cases hf : forwardable n.now b
  · rw [forward_sends env d b n hf] at ho
    rcases forwardSend_outs env b _ o ho with ⟨p, ok, _, h⟩
    exact ⟨p, ok, h⟩
  · rw [forward_refused env d b n hf] at ho; cases ho

theorem forward_kept (env : Env) (d : Desc) (b : Bundle) (n : Node) (it : Item)
    (hg : n.store.get d.key = some it)
    (hrp : d.cons.rp = false) (hle : d.cons.le = false) (hf : forwardable n.now b) :
    OkSent (forward env d b n).2 b ∨ Kept it ((forward env d b n).1.store.get d.key) := by
  rw [forward_sends env d b n hf]
  have h1 := sync_update (fwdDesc d) n it hg (fwdDesc_nonempty d)
  have hsel := selectSenders_picks env (fwdDesc d) b (sync (fwdDesc d) n)
  rcases hsel.rt.item _ h1 with ⟨it2, g2, b2, e2, _⟩
  have := forwardSend_kept env b (selectSenders env (fwdDesc d) b (sync (fwdDesc d) n)) it2
    (by rw [hsel.keep.1]; exact g2) (by rw [hsel.keep.2.1]; exact hrp) (by rw [hsel.keep.2.1]; exact hle)
  rw [hsel.keep.1] at this
  exact this.imp id fun h => h.of_eq b2 e2

/-! ## dispatching -/

/-- The bundle a descriptor stands for: the in-memory bundle, else the stored one. -/
def descTag (d : Desc) (it : Item) : Bundle :=
  match d.bndl with
  | some b => b
  | none => it.bundle

theorem Desc.bundle_eq {d : Desc} {n : Node} {b : Bundle} (h : d.bundle n = some b) :
    d.bndl = some b ∨
    (d.bndl = none ∧ ∃ it, n.store.get d.key = some it ∧ it.bundle = b ∧ loadable n.now b = true) := by
  unfold Desc.bundle at h
  cases hd : d.bndl with
  | some b' => rw [hd] at h; exact Or.inl h
  | none =>
    rw [hd] at h
    dsimp only at h
    cases hg : n.store.get d.key with
    | none => rw [hg] at h; cases h
    | some it =>
      rw [hg] at h
      dsimp only at h
      split at h
      · rename_i hl
        cases h; exact Or.inr ⟨rfl, it, rfl, rfl, hl⟩
      · cases h

theorem Desc.bundle_descTag {d : Desc} {n : Node} {b : Bundle} {it : Item} (h : d.bundle n = some b)
    (hg : n.store.get d.key = some it) : b = descTag d it := by
  unfold descTag
  rcases Desc.bundle_eq h with h1 | ⟨h1, it', g', hb', _⟩ <;> rw [h1]
  · rw [hg] at g'; cases g'; exact hb'.symm

theorem descTag_of {d : Desc} {it : Item} {b : Bundle} (hd : d.bndl = some b ∨ (d.bndl = none ∧ it.bundle = b)) :
    descTag d it = b := by
  unfold descTag
  rcases hd with h | ⟨h, hib⟩ <;> rw [h]
  exact hib

/-- `Core.dispatching`, case by case: refused by the algorithm; nothing to load; for this node; forwarded. -/
theorem dispatching_cases (env : Env) (d : Desc) (n : Node) :
    (dispatchingAllowed env d n = (false, modItem d.key (fun it => { it with pending := true }) n) ∧
      dispatching env d n =
        ((if n.cfg.holdFix then bundleContraindicated d (modItem d.key (fun it => { it with pending := true }) n)
          else modItem d.key (fun it => { it with pending := true }) n), [])) ∨
    (dispatchingAllowed env d n = (true, n) ∧
      ((d.bundle n = none ∧ dispatching env d n = (n, [])) ∨
       ∃ b, d.bundle n = some b ∧
        ((hasEndpoint n.cfg b.dst = true ∧ dispatching env d n = (localDelivery { d with bndl := some b } n, [])) ∨
         (hasEndpoint n.cfg b.dst = false ∧ dispatching env d n = forward env { d with bndl := some b } b n)))) := by
  unfold dispatching
  rcases dispatchingAllowed_cases env d n with h | h <;> rw [h]
  · right
    refine ⟨rfl, ?_⟩
    dsimp only
    cases hb : d.bundle n with
    | none => exact Or.inl ⟨rfl, rfl⟩
    | some b =>
      refine Or.inr ⟨b, rfl, ?_⟩
      dsimp only
      cases hh : hasEndpoint n.cfg b.dst
      · exact Or.inr ⟨rfl, rfl⟩
      · exact Or.inl ⟨rfl, rfl⟩
  · exact Or.inl ⟨rfl, rfl⟩

theorem dispatching_absent (env : Env) (d : Desc) (n : Node) (hg : n.store.get d.key = none)
    (hd : d.bndl = none) : dispatching env d n = (n, []) := by
  have hm : modItem d.key (fun it => { it with pending := true }) n = n := by simp [modItem, hg]
  have hb : d.bundle n = none := by simp [Desc.bundle, hd, hg]
  rcases dispatching_cases env d n with ⟨_, h⟩ | ⟨_, ⟨_, h⟩ | ⟨b, hb', _⟩⟩
  · rw [h, hm]
    split
    · simp [bundleContraindicated, sync, hg, hd]
    · rfl
  · exact h
  · rw [hb] at hb'; cases hb'

/-- `dispatching` with the refused bundle held (`holdFix`) either hands the bundle to a CLA successfully or leaves
its item waiting. `hcase`: the descriptor is new and carries the bundle in memory (submission, reception), or it is
the retry descriptor of a waiting item (`newDesc`: no in-memory bundle, the item's own constraints), whose bundle
is forwardable once it can be loaded. -/
theorem dispatching_kept (env : Env) (d : Desc) (n : Node) (it : Item) (hfix : n.cfg.holdFix = true)
    (hg : n.store.get d.key = some it) (hrp : d.cons.rp = false) (hle : d.cons.le = false)
    (hcase : (∃ b, d.bndl = some b ∧ forwardable n.now b ∧ hasEndpoint n.cfg b.dst = false) ∨
      (d.bndl = none ∧ it.pending = true ∧ d.cons = it.cons ∧ it.cons.pendingRule = true ∧
        (loadable n.now it.bundle = true →
          forwardable n.now it.bundle ∧ hasEndpoint n.cfg it.bundle.dst = false))) :
    OkSent (dispatching env d n).2 (descTag d it) ∨ Kept it ((dispatching env d n).1.store.get d.key) := by
  -- what the descriptor's bundle is, once it is there
  have hb1 : ∀ b1, d.bundle n = some b1 →
      b1 = descTag d it ∧ forwardable n.now b1 ∧ hasEndpoint n.cfg b1.dst = false := by
    intro b1 h
    refine ⟨Desc.bundle_descTag h hg, ?_⟩
    rcases Desc.bundle_eq h with h1 | ⟨h1, it', g', hb', hl⟩ <;> rcases hcase with ⟨b, hb, hf, hdst⟩ | ⟨hb, _, _, _, hload⟩ <;>
      rw [hb] at h1 <;> cases h1
    · exact ⟨hf, hdst⟩
    · rw [hg] at g'; cases g'; subst hb'; exact hload hl
  rcases dispatching_cases env d n with ⟨_, h⟩ | ⟨_, ⟨hb0, h⟩ | ⟨b1, hb, ⟨he, h⟩ | ⟨_, h⟩⟩⟩ <;> rw [h]
  · -- refused: marked pending and contraindicated
    right
    rw [if_pos hfix]
    exact (bundleContraindicated_kept d _ { it with pending := true } (by rw [modItem_get, hg]; rfl) hrp hle).of_eq
      rfl rfl
  · -- a retry whose bundle cannot be loaded: the item waits on
    right
    rcases hcase with ⟨b, hb, _⟩ | ⟨_, hp, hc, hne, _⟩
    · simp [Desc.bundle, hb] at hb0
    · exact ⟨it, hg, hp, rfl, rfl, hne, by rw [← hc]; exact hle⟩
  · rw [(hb1 b1 hb).2.2] at he; cases he
  · rcases hb1 b1 hb with ⟨rfl, hf, _⟩
    exact forward_kept env { d with bndl := some _ } _ n it hg hrp hle hf

theorem dispatching_step (env : Env) (d : Desc) (b : Bundle) (n : Node)
    (hd : d.bndl = some b ∨ (d.bndl = none ∧ ∃ it, n.store.get d.key = some it ∧ it.bundle = b))
    (hk : b.key = d.key) : Step b d.key n (dispatching env d n).1 := by
  have hbd : Carries d b := by
    rcases hd with h | ⟨h, _⟩
    · exact Carries.of_eq h hk
    · exact Carries.of_none b h
  rcases dispatching_cases env d n with ⟨ha, h⟩ | ⟨_, ⟨_, h⟩ | ⟨b1, hb, ⟨_, h⟩ | ⟨_, h⟩⟩⟩ <;> rw [h]
  · have hrt := dispatchingAllowed_rt env d n
    rw [ha] at hrt
    refine (hrt.step (b := b)).trans ?_
    split
    · exact bundleContraindicated_step hbd _
    · exact Step.refl _ _ _
  · exact Step.refl _ _ _
  all_goals
    have hb1 : b1 = b := by
      rcases Desc.bundle_eq hb with h1 | ⟨h1, it', g', hb', _⟩ <;> rcases hd with h2 | ⟨h2, it, hg, hib⟩ <;>
        rw [h2] at h1 <;> cases h1
      · rfl
      · rw [hg] at g'; cases g'; rw [← hb', hib]
    subst hb1
  · exact localDelivery_step (d := { d with bndl := some b1 }) (Carries.of_eq rfl hk) n
  · exact forward_step env { d with bndl := some b1 } b1 n (Carries.of_eq rfl hk) hk

theorem dispatching_bstep (env : Env) (d : Desc) (b : Bundle) (n : Node)
    (hd : d.bndl = some b ∨ (d.bndl = none ∧ ∃ it, n.store.get d.key = some it ∧ it.bundle = b))
    (hk : b.key = d.key) : BStep b d.key n (dispatching env d n).1 :=
  (dispatching_step env d b n hd hk).toBStep

theorem dispatching_only (env : Env) (d : Desc) (n : Node) (hk : WF n)
    (hb : ∀ b, d.bndl = some b → b.key = d.key) : KStep d.key n (dispatching env d n).1 := by
  cases hd : d.bndl with
  | some b => exact (dispatching_step env d b n (Or.inl hd) (hb b hd)).toKStep
  | none =>
    cases hg : n.store.get d.key with
    | none => rw [dispatching_absent env d n hg hd]; exact KStep.refl _ _
    | some it => exact (dispatching_step env d it.bundle n (Or.inr ⟨hd, it, hg, rfl⟩) (hk.keyed _ _ hg)).toKStep

theorem dispatching_names (env : Env) (d : Desc) (n : Node) (it : Item) (hg : n.store.get d.key = some it) :
    ∀ o ∈ (dispatching env d n).2, ∀ p b ok, o = Output.sent p b ok → b = descTag d it := by
  intro o ho p b ok hob
  rcases dispatching_cases env d n with ⟨_, h⟩ | ⟨_, ⟨_, h⟩ | ⟨b1, hb, ⟨_, h⟩ | ⟨_, h⟩⟩⟩ <;> rw [h] at ho
  · cases ho
  · cases ho
  · cases ho
  · rcases forward_names env _ b1 n o ho with ⟨q, ok', hq⟩
    rw [hob] at hq
    cases hq
    exact Desc.bundle_descTag hb hg

theorem dispatching_names' (env : Env) (d : Desc) (b : Bundle) (n : Node) (hd : d.bndl = some b) :
    ∀ o ∈ (dispatching env d n).2, ∃ p ok, o = Output.sent p b ok := by
  intro o ho
  have hbun : d.bundle n = some b := by simp [Desc.bundle, hd]
  rcases dispatching_cases env d n with ⟨_, h⟩ | ⟨_, ⟨_, h⟩ | ⟨b1, hb, ⟨_, h⟩ | ⟨_, h⟩⟩⟩ <;> rw [h] at ho
  · cases ho
  · cases ho
  · cases ho
  · rw [hbun] at hb
    cases hb
    exact forward_names env _ b n o ho

end Dtn7.Node
