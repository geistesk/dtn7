import Dtn7.Model.Mtcp
import Dtn7.Lemmas.Cbor

namespace Dtn7.Mtcp.Lemmas
open Dtn7.Cbor (Bytes encHead decHead decExpect majBytes beBytes headLen)
open Dtn7.Cbor.Lemmas
open Dtn7.Wire Dtn7.Mtcp

/-- What C01 provides about the bundle codec, as far as framing is concerned, for the bundles satisfying `P`
(for the real codec: encodable, valid now, encoding shorter than 2^64). -/
structure GoodOn {B} (c : Codec B) (P : B → Prop) : Prop where
  /-- exact consumption: the parser reads back what the serialiser wrote and leaves the rest alone -/
  rt : ∀ b rest, P b → c.parse (c.enc b ++ rest) = .ok (b, rest)
  ne : ∀ b, P b → c.enc b ≠ []
  small : ∀ b, P b → (c.enc b).length < 2 ^ 64

/-- The same for every value of the carrier. -/
abbrev Good {B} (c : Codec B) : Prop := GoodOn c (fun _ => True)

theorem Good.mk' {B} {c : Codec B} (rt : ∀ b rest, c.parse (c.enc b ++ rest) = .ok (b, rest))
    (ne : ∀ b, c.enc b ≠ []) (small : ∀ b, (c.enc b).length < 2 ^ 64) : Good c :=
  ⟨fun b rest _ => rt b rest, fun b _ => ne b, fun b _ => small b⟩

theorem decExpect_keepalive (rest : Bytes) : decExpect majBytes (0x40 :: rest) = .ok (0, rest) := by
  simp [decExpect, decHead, majBytes]

theorem serverFuel_keepalive {B} (c : Codec B) (f : Nat) (rest : Bytes) :
    serverFuel c (f + 1) (0x40 :: rest) = serverFuel c f rest := by
  simp only [serverFuel, decExpect_keepalive]
  simp

/-- One turn of the server loop on a byte-string head announcing `n ≠ 0` bytes: the bundle parser decides. -/
theorem serverFuel_head {B} (c : Codec B) (f n : Nat) (hn : n < 2 ^ 64) (hn0 : n ≠ 0) (body : Bytes) :
    (∀ b rest, c.parse body = .ok (b, rest) →
      serverFuel c (f + 1) (encHead majBytes n ++ body) = (b :: (serverFuel c f rest).1, (serverFuel c f rest).2)) ∧
    (∀ e, c.parse body = .error e → serverFuel c (f + 1) (encHead majBytes n ++ body) = ([], .bundleErr)) := by
  have hd : decExpect majBytes (encHead majBytes n ++ body) = .ok (n, body) :=
    decExpect_encHead majBytes n body (by decide) hn
  obtain ⟨h, t, heq, _, _⟩ := encHead_head_ne majBytes n (by decide)
  rw [heq] at hd ⊢
  simp only [List.cons_append] at hd ⊢
  exact ⟨fun b rest hp => by simp only [serverFuel, hd, hn0, if_false, hp],
    fun e hp => by simp only [serverFuel, hd, hn0, if_false, hp]⟩

theorem enc_length_ne_zero {B} {c : Codec B} {P : B → Prop} (hg : GoodOn c P) (b : B) (hb : P b) :
    (c.enc b).length ≠ 0 :=
  fun h0 => hg.ne b hb (List.length_eq_zero_iff.mp h0)

theorem serverFuel_frame {B} (c : Codec B) {P : B → Prop} (hg : GoodOn c P) (f : Nat) (b : B) (hb : P b) (rest : Bytes) :
    serverFuel c (f + 1) (frame c b ++ rest) =
      (b :: (serverFuel c f rest).1, (serverFuel c f rest).2) := by
  unfold frame
  rw [List.append_assoc]
  exact (serverFuel_head c f _ (hg.small b hb) (enc_length_ne_zero hg b hb) _).1 b rest (hg.rt b rest hb)

theorem frame_length_pos {B} (c : Codec B) (b : B) : 0 < (frame c b).length := by
  obtain ⟨h, t, heq, _, _⟩ := encHead_head_ne majBytes (c.enc b).length (by decide)
  unfold frame; rw [heq]; simp

/-- **mtcp_stream** for `serverFuel`: frames and keep-alives in any order, with fuel for every byte, yield
exactly the framed bundles, in order, and a clean end. -/
theorem serverFuel_stream {B} (c : Codec B) {P : B → Prop} (hg : GoodOn c P) (items : List (Item B))
    (hP : ∀ b ∈ bundlesOf items, P b) :
    ∀ f, (items.flatMap (encItem c)).length + 1 ≤ f →
      serverFuel c f (items.flatMap (encItem c)) = (bundlesOf items, .eof) := by
  induction items with
  | nil =>
    intro f hf
    cases f with
    | zero => simp at hf
    | succ f => simp [serverFuel, bundlesOf]
  | cons it items ih =>
    intro f hf
    cases f with
    | zero => simp at hf
    | succ f =>
      cases it with
      | keepalive =>
        simp only [List.flatMap_cons, encItem, keepalive, List.cons_append, List.nil_append, List.length_cons] at hf ⊢
        rw [serverFuel_keepalive, ih (fun b hb => hP b hb) f (by omega)]
        rfl
      | bundle b =>
        simp only [List.flatMap_cons, encItem, List.length_append] at hf ⊢
        have := frame_length_pos c b
        rw [serverFuel_frame c hg f b (hP b (by simp [bundlesOf])),
          ih (fun x hx => hP x (by simp [bundlesOf, hx])) f (by omega)]
        rfl

theorem server_stream_on {B} (c : Codec B) {P : B → Prop} (hg : GoodOn c P) (items : List (Item B))
    (hP : ∀ b ∈ bundlesOf items, P b) :
    server c (items.flatMap (encItem c)) = (bundlesOf items, .eof) :=
  serverFuel_stream c hg items hP _ (Nat.le_refl _)

/-- A strict, non-empty prefix of a head is not a head. -/
theorem decHead_take_encHead (maj n k : Nat) (hm : maj < 8) (hk0 : 0 < k) (hk : k < (encHead maj n).length) :
    ∃ e, decHead ((encHead maj n).take k) = .error e := by
  obtain ⟨a, w, he, _, ha⟩ := encHead_cases maj n
  rw [he, List.length_cons, beBytes_length] at hk
  rw [he]
  have ha27 : a ≤ 27 := by omega
  have hb : (UInt8.ofNat (maj * 32 + a)).toNat = maj * 32 + a := toNat_ofNat_lt _ (by omega)
  obtain ⟨k, rfl⟩ : ∃ j, k = j + 1 := ⟨k - 1, by omega⟩
  rw [List.take_succ_cons]
  cases hres : decHead (UInt8.ofNat (maj * 32 + a) :: (beBytes w n).take k) with
  | error e => exact ⟨e, rfl⟩
  | ok y =>
    -- a successful read would have found all `w` argument bytes among fewer than `w`
    exfalso
    obtain ⟨m, v, r⟩ := y
    obtain ⟨b, w', hbs, _, _, _, hw'⟩ := decHead_eq_ok.mp hres
    obtain ⟨rfl, htl⟩ := List.cons.inj hbs
    have hlen := congrArg List.length htl
    rw [List.length_take, beBytes_length, List.length_append] at hlen
    rw [hb, show (maj * 32 + a) % 32 = a by omega] at hw'
    rcases ha with ⟨_, rfl, rfl⟩ | ⟨_, _, rfl, _⟩
    · omega
    · rcases hw' with ⟨h, _⟩ | ⟨_, _, hw', _⟩ <;> omega

theorem serverFuel_headErr {B} (c : Codec B) (f : Nat) (bs : Bytes) (hne : bs ≠ [])
    (h : ∃ e, decHead bs = .error e) : (serverFuel c (f + 1) bs).1 = [] := by
  obtain ⟨e, he⟩ := h
  cases bs with
  | nil => exact absurd rfl hne
  | cons b t =>
    simp only [serverFuel, decExpect, he]

/-- Where a cut after `k` bytes of `h ++ e ++ r` falls. -/
theorem take_append3 (h e r : Bytes) (k : Nat) :
    (k < h.length ∧ (h ++ e ++ r).take k = h.take k) ∨
    (h.length ≤ k ∧ k < h.length + e.length ∧ (h ++ e ++ r).take k = h ++ e.take (k - h.length)) ∨
    (h.length + e.length ≤ k ∧ (h ++ e ++ r).take k = h ++ e ++ r.take (k - (h ++ e).length)) := by
  by_cases h1 : k < h.length
  · exact .inl ⟨h1, by rw [List.append_assoc, List.take_append_of_le_length (Nat.le_of_lt h1)]⟩
  · by_cases h2 : k < h.length + e.length
    · refine .inr (.inl ⟨Nat.le_of_not_lt h1, h2, ?_⟩)
      rw [List.append_assoc, List.take_append, List.take_of_length_le (Nat.le_of_not_lt h1),
        List.take_append_of_le_length (by omega)]
    · refine .inr (.inr ⟨Nat.le_of_not_lt h2, ?_⟩)
      rw [List.take_append, List.take_of_length_le (by rw [List.length_append]; omega)]

/-- **mtcp_prefix** (fuel form): whatever prefix of the stream arrives, the bundles reported are a prefix
of the bundles sent. -/
theorem serverFuel_prefix {B} (c : Codec B) {P : B → Prop} (hg : GoodOn c P)
    (hcut : ∀ b, P b → ∀ k, k < (c.enc b).length → ∀ x, c.parse ((c.enc b).take k) ≠ .ok x)
    (items : List (Item B)) (hP : ∀ b ∈ bundlesOf items, P b) :
    ∀ k f, ((items.flatMap (encItem c)).take k).length + 1 ≤ f →
      (serverFuel c f ((items.flatMap (encItem c)).take k)).1 <+: bundlesOf items := by
  induction items with
  | nil =>
    intro k f hf
    cases f with
    | zero => simp at hf
    | succ f => simp [serverFuel, bundlesOf]
  | cons it items ih =>
    intro k f hf
    cases f with
    | zero => simp at hf
    | succ f =>
      cases it with
      | keepalive =>
        simp only [List.flatMap_cons, encItem, keepalive, List.cons_append, List.nil_append] at hf ⊢
        cases k with
        | zero => simp [serverFuel]
        | succ k =>
          simp only [List.take_succ_cons, List.length_cons] at hf ⊢
          rw [serverFuel_keepalive]
          exact ih (fun b hb => hP b hb) k f (by omega)
      | bundle b =>
        simp only [List.flatMap_cons, encItem, bundlesOf] at hf ⊢
        have hPb : P b := hP b (by simp [bundlesOf])
        have hPr : ∀ x ∈ bundlesOf items, P x := fun x hx => hP x (by simp [bundlesOf, hx])
        rcases take_append3 (encHead majBytes (c.enc b).length) (c.enc b) (items.flatMap (encItem c)) k with
          ⟨hk, ht⟩ | ⟨_, hk, ht⟩ | ⟨_, ht⟩ <;> rw [show frame c b = _ ++ _ from rfl, ht] at hf ⊢
        · -- cut inside the head
          by_cases hk0 : k = 0
          · subst hk0; simp [serverFuel]
          · have hne : (encHead majBytes (c.enc b).length).take k ≠ [] := fun hnil => by
              have := congrArg List.length hnil
              rw [List.length_take, List.length_nil] at this
              omega
            rw [serverFuel_headErr c f _ hne (decHead_take_encHead majBytes _ k (by decide) (by omega) hk)]
            exact List.nil_prefix
        · -- cut inside the bundle
          cases hp : c.parse ((c.enc b).take (k - (encHead majBytes (c.enc b).length).length)) with
          | error e =>
            rw [(serverFuel_head c f _ (hg.small b hPb) (enc_length_ne_zero hg b hPb) _).2 e hp]
            exact List.nil_prefix
          | ok x => exact absurd hp (hcut b hPb _ (by omega) x)
        · -- the whole frame arrived
          rw [show encHead majBytes (c.enc b).length ++ c.enc b = frame c b from rfl] at hf ⊢
          rw [serverFuel_frame c hg f b hPb]
          have hpos := frame_length_pos c b
          exact List.cons_prefix_cons.mpr ⟨rfl, ih hPr (k - (frame c b).length) f (by
            rw [List.length_append] at hf; omega)⟩

theorem server_prefix_on {B} (c : Codec B) {P : B → Prop} (hg : GoodOn c P)
    (hcut : ∀ b, P b → ∀ k, k < (c.enc b).length → ∀ x, c.parse ((c.enc b).take k) ≠ .ok x)
    (items : List (Item B)) (hP : ∀ b ∈ bundlesOf items, P b) (k : Nat) :
    (server c ((items.flatMap (encItem c)).take k)).1 <+: bundlesOf items :=
  serverFuel_prefix c hg hcut items hP k _ (Nat.le_refl _)

/-- "A truncated encoding is not a value" follows from exact consumption as soon as the parser is
*extension-stable* (what it accepts on a prefix it accepts, with the same result, when more bytes follow):
a successful parse of a strict prefix of `enc b` would extend to a parse of `enc b` that leaves bytes over. -/
theorem cut_of_stable {B} (c : Codec B) {P : B → Prop} (hg : GoodOn c P)
    (hst : ∀ p x r t, c.parse p = .ok (x, r) → c.parse (p ++ t) = .ok (x, r ++ t)) :
    ∀ b, P b → ∀ k, k < (c.enc b).length → ∀ x, c.parse ((c.enc b).take k) ≠ .ok x := by
  intro b hb k hk x hx
  have h1 := hst _ x.1 x.2 ((c.enc b).drop k) hx
  rw [List.take_append_drop] at h1
  have h2 := hg.rt b [] hb
  rw [List.append_nil] at h2
  rw [h2] at h1
  have := (Prod.mk.inj (Except.ok.inj h1)).2
  have hl := congrArg List.length this
  simp only [List.length_nil, List.length_append, List.length_drop] at hl
  omega

/-- `send` fails exactly when fewer than `n = sendSteps` leading steps succeeded; stated in the shape of
`(send ios).err = false`, i.e. as the negation of `… < n`. -/
theorem takeWhile_take_lt (n : Nat) : ∀ l : List Bool,
    ¬ ((l.take n).takeWhile id).length < n ↔ ∃ rest, l = List.replicate n true ++ rest := by
  induction n with
  | zero => intro l; exact ⟨fun _ => ⟨l, rfl⟩, fun _ => Nat.not_lt_zero _⟩
  | succ n ih =>
    intro l
    rcases l with _ | ⟨a, l⟩
    · exact ⟨fun h => absurd (Nat.succ_pos n) h, fun ⟨_, h⟩ => (nomatch h)⟩
    · cases a
      · exact ⟨fun h => absurd (Nat.succ_pos n) h, fun ⟨_, h⟩ => (nomatch h)⟩
      · rw [List.take_succ_cons, List.takeWhile_cons_of_pos rfl, List.length_cons, Nat.succ_lt_succ_iff, ih l]
        exact ⟨fun ⟨r, h⟩ => ⟨r, by rw [h]; rfl⟩, fun ⟨r, h⟩ => ⟨r, List.tail_eq_of_cons_eq h⟩⟩

end Dtn7.Mtcp.Lemmas
