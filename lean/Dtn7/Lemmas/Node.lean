/-
The node model (`Dtn7.Model.Node`) key by key: the store as a finite map; what the primitive operations
(`push`, `sync`, `modItem`, `modRt`) do to one key while they leave every other key, the configuration, the
peers and the clock alone; and that everything the routing algorithms do (`NotifyNewBundle`,
`DispatchingAllowed`, `SenderForBundle`, `ReportFailure`) is bookkeeping on the item of one key (`RtStep`).
-/
import Dtn7.Model.Node

namespace Dtn7.Node

/-! ## The store as a finite map -/

theorem Store.get_set_eq (s : Store) (k : Key) (it : Item) : (s.set k it).get k = some it := by
  induction s with
  | nil => simp [Store.set, Store.get]
  | cons kv s ih =>
    obtain ⟨k', it'⟩ := kv
    by_cases h : k' = k
    · simp [Store.set, Store.get, h]
    · simp [Store.set, Store.get, h, ih]

theorem Store.get_set_ne (s : Store) (k k' : Key) (it : Item) (h : k' ≠ k) :
    (s.set k it).get k' = s.get k' := by
  induction s with
  | nil =>
    have : ¬ k = k' := fun e => h e.symm
    simp [Store.set, Store.get, this]
  | cons kv s ih =>
    obtain ⟨k₁, it₁⟩ := kv
    by_cases h1 : k₁ = k
    · subst h1
      have : ¬ k₁ = k' := fun e => h e.symm
      simp [Store.set, Store.get, this]
    · by_cases h2 : k₁ = k'
      · subst h2
        simp [Store.set, Store.get, h1]
      · simp [Store.set, Store.get, h1, h2, ih]

theorem Store.get_erase_eq (s : Store) (k : Key) : (s.erase k).get k = none := by
  induction s with
  | nil => simp [Store.erase, Store.get]
  | cons kv s ih =>
    obtain ⟨k', it'⟩ := kv
    by_cases h : k' = k
    · simp [Store.erase, h, ih]
    · simp [Store.erase, Store.get, h, ih]

theorem Store.get_erase_ne (s : Store) (k k' : Key) (h : k' ≠ k) : (s.erase k).get k' = s.get k' := by
  induction s with
  | nil => simp [Store.erase, Store.get]
  | cons kv s ih =>
    obtain ⟨k₁, it₁⟩ := kv
    by_cases h1 : k₁ = k
    · subst h1
      have : ¬ k₁ = k' := fun e => h e.symm
      simp [Store.erase, Store.get, this, ih]
    · by_cases h2 : k₁ = k'
      · subst h2
        simp [Store.erase, Store.get, h1]
      · simp [Store.erase, Store.get, h1, h2, ih]

theorem Store.get_of_mem {s : Store} (hn : s.keys.Nodup) {k : Key} {it : Item} (h : (k, it) ∈ s) :
    s.get k = some it := by
  induction s with
  | nil => cases h
  | cons kv s ih =>
    obtain ⟨k', it'⟩ := kv
    simp only [Store.keys, List.map_cons, List.nodup_cons] at hn
    rcases List.mem_cons.mp h with h | h
    · cases h
      simp [Store.get]
    · have hk : k' ≠ k := by
        intro e
        subst e
        exact hn.1 (List.mem_map.mpr ⟨(k', it), h, rfl⟩)
      simp only [Store.get, hk, if_false]
      exact ih hn.2 h

theorem Store.mem_of_get {s : Store} {k : Key} {it : Item} (h : s.get k = some it) : (k, it) ∈ s := by
  induction s with
  | nil => simp [Store.get] at h
  | cons kv s ih =>
    obtain ⟨k', it'⟩ := kv
    by_cases hk : k' = k
    · subst hk
      simp [Store.get] at h
      subst h
      exact List.mem_cons_self
    · simp only [Store.get, hk, if_false] at h
      exact List.mem_cons_of_mem _ (ih h)

theorem Store.mem_keys_of_get {s : Store} {k : Key} {it : Item} (h : s.get k = some it) : k ∈ s.keys :=
  List.mem_map.mpr ⟨(k, it), Store.mem_of_get h, rfl⟩

theorem Store.get_of_mem_keys {s : Store} {k : Key} (h : k ∈ s.keys) : ∃ it, s.get k = some it := by
  induction s with
  | nil => simp [Store.keys] at h
  | cons kv s ih =>
    obtain ⟨k', it'⟩ := kv
    by_cases hk : k' = k
    · exact ⟨it', by simp [Store.get, hk]⟩
    · simp [Store.keys] at h
      rcases h with h | h
      · exact absurd h.symm hk
      · have : k ∈ Store.keys s := by simpa [Store.keys] using h
        rcases ih this with ⟨it, hit⟩
        exact ⟨it, by simp [Store.get, hk, hit]⟩

theorem Store.get_foldl_erase (ks : List Key) : ∀ (s : Store) (k : Key),
    (ks.foldl Store.erase s).get k = if k ∈ ks then none else s.get k := by
  induction ks with
  | nil => intro s k; simp
  | cons k₀ ks ih =>
    intro s k
    simp only [List.foldl_cons, ih]
    by_cases h1 : k ∈ ks
    · simp [h1]
    · by_cases h0 : k = k₀
      · subst h0
        simp [h1, Store.get_erase_eq]
      · simp [h1, h0, Store.get_erase_ne _ _ _ h0]

theorem cleanTick_get (env : Env) (n : Node) (t : Nat) (k : Key) : (stepCore env n (.cleanTick t)).1.store.get k =
    if k ∈ expiredKeys n.store t then none else n.store.get k := by
  simp only [stepCore, deleteExpired]
  exact Store.get_foldl_erase _ _ _

theorem cleanTick_sub (env : Env) (n : Node) {t : Nat} {k : Key} {it : Item}
    (hg : (stepCore env n (.cleanTick t)).1.store.get k = some it) : n.store.get k = some it := by
  rw [cleanTick_get] at hg
  split at hg
  · cases hg
  · exact hg

theorem Store.keys_set (s : Store) (k : Key) (it : Item) :
    (s.set k it).keys = if k ∈ s.keys then s.keys else s.keys ++ [k] := by
  induction s with
  | nil => simp [Store.set, Store.keys]
  | cons kv s ih =>
    obtain ⟨k', it'⟩ := kv
    by_cases h : k' = k
    · subst h
      simp [Store.set, Store.keys]
    · have h' : ¬ k = k' := fun e => h e.symm
      simp only [Store.keys] at ih
      by_cases hm : k ∈ List.map (·.1) s
      · simp [Store.set, Store.keys, h, h', hm, ih]
      · simp [Store.set, Store.keys, h, h', hm, ih]

theorem Store.keys_erase (s : Store) (k : Key) : (s.erase k).keys = s.keys.filter (fun x => !(x == k)) := by
  induction s with
  | nil => simp [Store.erase, Store.keys]
  | cons kv s ih =>
    obtain ⟨k', it'⟩ := kv
    simp only [Store.keys] at ih
    by_cases h : k' = k
    · simp [Store.erase, Store.keys, h, ih]
    · simp [Store.erase, Store.keys, h, ih]

/-- Store invariant: every item is filed under the ID of its bundle, and no key occurs twice. -/
structure WF (n : Node) : Prop where
  keyed : ∀ k it, n.store.get k = some it → it.bundle.key = k
  nodup : n.store.keys.Nodup

theorem Store.nodup_set {s : Store} (h : s.keys.Nodup) (k : Key) (it : Item) : (s.set k it).keys.Nodup := by
  rw [Store.keys_set]
  split
  · exact h
  · rename_i hk
    exact List.nodup_append.mpr ⟨h, by simp, by
      intro a ha b hb
      simp at hb
      subst hb
      intro e
      exact hk (e ▸ ha)⟩

theorem Store.nodup_erase {s : Store} (h : s.keys.Nodup) (k : Key) : (s.erase k).keys.Nodup := by
  rw [Store.keys_erase]
  exact h.sublist List.filter_sublist

theorem lookupMeta_setMeta_eq (l : List (Key × SprayMeta)) (k : Key) (m : SprayMeta) :
    lookupMeta (setMeta l k m) k = some m := by
  induction l with
  | nil => simp [setMeta, lookupMeta]
  | cons p l ih =>
    obtain ⟨a, m'⟩ := p
    by_cases h : a = k
    · simp [setMeta, lookupMeta, h]
    · simp [setMeta, lookupMeta, h, ih]

theorem lookupMeta_setMeta_ne (l : List (Key × SprayMeta)) (k k' : Key) (m : SprayMeta) (h : k' ≠ k) :
    lookupMeta (setMeta l k m) k' = lookupMeta l k' := by
  induction l with
  | nil =>
    have : ¬ k = k' := fun e => h e.symm
    simp [setMeta, lookupMeta, this]
  | cons p l ih =>
    obtain ⟨a, m'⟩ := p
    by_cases h1 : a = k
    · subst h1
      have : ¬ a = k' := fun e => h e.symm
      simp [setMeta, lookupMeta, this]
    · by_cases h2 : a = k'
      · subst h2
        simp [setMeta, lookupMeta, h1]
      · simp [setMeta, lookupMeta, h1, h2, ih]

theorem items_step {P : Key → Item → Prop} {k : Key} {n n' : Node}
    (h : ∀ k' it, n.store.get k' = some it → P k' it)
    (ho : ∀ k', k' ≠ k → n'.store.get k' = n.store.get k')
    (hk : ∀ it, n'.store.get k = some it → P k it) : ∀ k' it, n'.store.get k' = some it → P k' it := by
  intro k' it hg
  by_cases e : k' = k
  · exact e ▸ hk it (e ▸ hg)
  · exact h k' it (ho k' e ▸ hg)

theorem eraseFirst_eq_erase (e : Eid) : ∀ l : List Eid, eraseFirst e l = l.erase e
  | [] => rfl
  | x :: xs => by
    unfold eraseFirst
    by_cases h : x = e
    · simp [h]
    · simp [h, eraseFirst_eq_erase e xs]

/-! ## What every store operation leaves alone -/

/-- Configuration, peers, clock and event counter are the same. -/
structure SameEnv (n n' : Node) : Prop where
  cfg : n'.cfg = n.cfg
  peers : n'.peers = n.peers
  now : n'.now = n.now
  evNo : n'.evNo = n.evNo

theorem SameEnv.refl (n : Node) : SameEnv n n := ⟨rfl, rfl, rfl, rfl⟩

theorem SameEnv.trans {a b c : Node} (h1 : SameEnv a b) (h2 : SameEnv b c) : SameEnv a c :=
  ⟨h2.cfg.trans h1.cfg, h2.peers.trans h1.peers, h2.now.trans h1.now, h2.evNo.trans h1.evNo⟩

/-- Only the item of key `k` may differ (and the in-memory bookkeeping of the algorithms). -/
structure OnlyKey (k : Key) (n n' : Node) : Prop where
  env : SameEnv n n'
  other : ∀ k', k' ≠ k → n'.store.get k' = n.store.get k'
  spray : ∀ k', k' ≠ k → lookupMeta n'.spray k' = lookupMeta n.spray k'

theorem OnlyKey.refl (k : Key) (n : Node) : OnlyKey k n n := ⟨SameEnv.refl n, fun _ _ => rfl, fun _ _ => rfl⟩

theorem OnlyKey.trans {k : Key} {a b c : Node} (h1 : OnlyKey k a b) (h2 : OnlyKey k b c) : OnlyKey k a c :=
  ⟨h1.env.trans h2.env, fun k' hk => (h2.other k' hk).trans (h1.other k' hk),
   fun k' hk => (h2.spray k' hk).trans (h1.spray k' hk)⟩

theorem onlyKey_setStore (k : Key) (n : Node) (s : Store) (h : ∀ k', k' ≠ k → s.get k' = n.store.get k') :
    OnlyKey k n { n with store := s } := ⟨⟨rfl, rfl, rfl, rfl⟩, h, fun _ _ => rfl⟩

theorem onlyKey_setItem (k : Key) (n : Node) (it : Item) : OnlyKey k n (n.setItem k it) :=
  onlyKey_setStore k n _ (fun _ hk => Store.get_set_ne _ _ _ _ hk)

/-! ## modItem / modRt -/

theorem modItem_get (k : Key) (f : Item → Item) (n : Node) :
    (modItem k f n).store.get k = (n.store.get k).map f := by
  unfold modItem
  cases h : n.store.get k with
  | none => simp [h]
  | some it => simp [Node.setItem, Store.get_set_eq]

theorem modItem_only (k : Key) (f : Item → Item) (n : Node) : OnlyKey k n (modItem k f n) := by
  unfold modItem
  cases h : n.store.get k with
  | none => exact OnlyKey.refl k n
  | some it => exact onlyKey_setItem k n _

theorem modItem_spray (k : Key) (f : Item → Item) (n : Node) : (modItem k f n).spray = n.spray := by
  unfold modItem; cases n.store.get k <;> rfl

theorem modItem_attempts (k : Key) (f : Item → Item) (n : Node) : (modItem k f n).attempts = n.attempts := by
  unfold modItem; cases n.store.get k <;> rfl

theorem modRt_get (k : Key) (f : Routing → Routing) (n : Node) :
    (modRt k f n).store.get k = (n.store.get k).map (fun it => { it with rt := f it.rt }) :=
  modItem_get k _ n

theorem modRt_only (k : Key) (f : Routing → Routing) (n : Node) : OnlyKey k n (modRt k f n) :=
  modItem_only k _ n

/-! ## push / sync -/

theorem push_get_absent (b : Bundle) (n : Node) (h : n.store.get b.key = none) :
    (push b n).store.get b.key = some (newItem n.cfg n.now b) := by
  simp [push, h, Node.setItem, Store.get_set_eq]

theorem push_present (b : Bundle) (n : Node) (it : Item) (h : n.store.get b.key = some it) : push b n = n := by
  simp [push, h]

theorem push_only (b : Bundle) (n : Node) : OnlyKey b.key n (push b n) := by
  unfold push
  cases n.store.get b.key with
  | none => exact onlyKey_setItem _ n _
  | some _ => exact OnlyKey.refl _ n

theorem sync_frame (d : Desc) (n : Node) : sync d n = { n with store := (sync d n).store } := by
  unfold sync push Node.setItem
  cases n.store.get d.key with
  | none =>
    cases d.bndl with
    | none => rfl
    | some b => dsimp only; cases n.store.get b.key <;> rfl
  | some it => dsimp only; split <;> rfl

/-- The item `Sync` leaves under the descriptor's key: the old one with the descriptor's pending flag,
receiver and constraints; nothing when no constraint is left; a new one made of the in-memory bundle. -/
def syncItem (d : Desc) (n : Node) : Option Item :=
  match n.store.get d.key with
  | some it =>
    if d.cons.isEmpty then none
    else some { it with pending := d.cons.pendingRule, receiver := d.receiver, cons := d.cons }
  | none => d.bndl.map (newItem n.cfg n.now)

theorem sync_get (d : Desc) (n : Node) (hb : n.store.get d.key = none → ∀ b, d.bndl = some b → b.key = d.key)
    (k : Key) : (sync d n).store.get k = if k = d.key then syncItem d n else n.store.get k := by
  unfold sync syncItem
  cases h : n.store.get d.key with
  | none =>
    cases hd : d.bndl with
    | none => split <;> simp_all
    | some b =>
      have hk := hb h b hd
      by_cases hkk : k = d.key
      · simp [hkk, push, hk, h, Node.setItem, Store.get_set_eq]
      · simp [hkk, push, hk, h, Node.setItem, Store.get_set_ne _ _ _ _ hkk]
  | some it =>
    by_cases hc : d.cons.isEmpty = true
    · by_cases hkk : k = d.key
      · simp [hkk, hc, Store.get_erase_eq]
      · simp [hkk, hc, Store.get_erase_ne _ _ _ hkk]
    · by_cases hkk : k = d.key
      · simp [hkk, hc, Node.setItem, Store.get_set_eq]
      · simp [hkk, hc, Node.setItem, Store.get_set_ne _ _ _ _ hkk]

theorem sync_update (d : Desc) (n : Node) (it : Item) (h : n.store.get d.key = some it)
    (hc : d.cons.isEmpty = false) :
    (sync d n).store.get d.key =
      some { it with pending := d.cons.pendingRule, receiver := d.receiver, cons := d.cons } := by
  simp [sync, h, hc, Node.setItem, Store.get_set_eq]

theorem sync_delete (d : Desc) (n : Node) (it : Item) (h : n.store.get d.key = some it)
    (hc : d.cons.isEmpty = true) : (sync d n).store.get d.key = none := by
  simp [sync, h, hc, Store.get_erase_eq]

theorem sync_push (d : Desc) (n : Node) (b : Bundle) (h : n.store.get d.key = none) (hb : d.bndl = some b) :
    sync d n = push b n := by
  simp [sync, h, hb]

theorem sync_env (d : Desc) (n : Node) : SameEnv n (sync d n) := by
  rw [sync_frame]; exact ⟨rfl, rfl, rfl, rfl⟩

theorem sync_only (d : Desc) (n : Node) (hb : ∀ b, d.bndl = some b → b.key = d.key) :
    OnlyKey d.key n (sync d n) := by
  rw [sync_frame]
  exact onlyKey_setStore _ _ _ fun k hk => by rw [sync_get d n (fun _ => hb), if_neg hk]

theorem sync_spray (d : Desc) (n : Node) : (sync d n).spray = n.spray := by rw [sync_frame]

theorem sync_attempts (d : Desc) (n : Node) : (sync d n).attempts = n.attempts := by rw [sync_frame]

theorem sync_idk (d : Desc) (n : Node) : (sync d n).idk = n.idk := by rw [sync_frame]

/-! ## Steps that only touch routing bookkeeping -/

/-- The item of key `k` keeps its bundle, expiry, constraints and receiver; `pending` can only be
switched on; the item is neither created nor deleted. Everything the routing algorithms do to the store
is of this kind. -/
structure RtStep (k : Key) (n n' : Node) : Prop where
  only : OnlyKey k n n'
  item : ∀ it, n.store.get k = some it → ∃ it', n'.store.get k = some it' ∧ it'.bundle = it.bundle ∧
    it'.expires = it.expires ∧ it'.cons = it.cons ∧ it'.receiver = it.receiver ∧
    (it.pending = true → it'.pending = true) ∧
    -- `routing/epidemic/destination`, once written, is never changed
    (∀ e, it.rt.epiDst = some e → it'.rt.epiDst = some e)
  absent : n.store.get k = none → n'.store.get k = none
  keys : n'.store.keys = n.store.keys
  idk : n'.idk = n.idk

theorem RtStep.refl (k : Key) (n : Node) : RtStep k n n :=
  ⟨OnlyKey.refl k n, fun it h => ⟨it, h, rfl, rfl, rfl, rfl, id, fun _ h => h⟩, id, rfl, rfl⟩

theorem RtStep.trans {k : Key} {a b c : Node} (h1 : RtStep k a b) (h2 : RtStep k b c) : RtStep k a c := by
  refine ⟨h1.only.trans h2.only, ?_, fun h => h2.absent (h1.absent h), h2.keys.trans h1.keys, h2.idk.trans h1.idk⟩
  intro it h
  rcases h1.item it h with ⟨it1, g1, b1, e1, c1, r1, p1, d1⟩
  rcases h2.item it1 g1 with ⟨it2, g2, b2, e2, c2, r2, p2, d2⟩
  exact ⟨it2, g2, b2.trans b1, e2.trans e1, c2.trans c1, r2.trans r1, fun hp => p2 (p1 hp),
    fun e he => d2 e (d1 e he)⟩

/-- A step that only touches key `k` and keeps the store well-formed. -/
structure KStep (k : Key) (n n' : Node) : Prop where
  only : OnlyKey k n n'
  wf : WF n → WF n'
  idk : n'.idk = n.idk

theorem KStep.refl (k : Key) (n : Node) : KStep k n n := ⟨OnlyKey.refl k n, id, rfl⟩

theorem KStep.trans {k : Key} {a b c : Node} (h1 : KStep k a b) (h2 : KStep k b c) : KStep k a c :=
  ⟨h1.only.trans h2.only, fun h => h2.wf (h1.wf h), h2.idk.trans h1.idk⟩

theorem RtStep.kstep {k : Key} {n n' : Node} (h : RtStep k n n') : KStep k n n' := by
  refine ⟨h.only, fun w => ⟨?_, by rw [h.keys]; exact w.nodup⟩, h.idk⟩
  intro k' it' hg
  by_cases hk : k' = k
  · subst hk
    cases h0 : n.store.get k' with
    | none => rw [h.absent h0] at hg; cases hg
    | some it0 =>
      rcases h.item it0 h0 with ⟨it1, g1, b1, _⟩
      rw [hg] at g1
      cases g1
      rw [b1]
      exact w.keyed _ _ h0
  · rw [h.only.other k' hk] at hg
    exact w.keyed _ _ hg

theorem wf_setItem {n : Node} (w : WF n) (k : Key) (it : Item) (hk : it.bundle.key = k) : WF (n.setItem k it) := by
  refine ⟨?_, Store.nodup_set w.nodup k it⟩
  intro k' it' hg
  by_cases h : k' = k
  · subst h
    simp [Node.setItem, Store.get_set_eq] at hg
    subst hg
    exact hk
  · simp only [Node.setItem] at hg
    rw [Store.get_set_ne _ _ _ _ h] at hg
    exact w.keyed _ _ hg

theorem wf_erase {n : Node} (w : WF n) (k : Key) : WF { n with store := n.store.erase k } := by
  refine ⟨?_, Store.nodup_erase w.nodup k⟩
  intro k' it' hg
  by_cases h : k' = k
  · subst h
    simp [Store.get_erase_eq] at hg
  · simp only at hg
    rw [Store.get_erase_ne _ _ _ h] at hg
    exact w.keyed _ _ hg

theorem push_kstep (b : Bundle) (n : Node) : KStep b.key n (push b n) := by
  refine ⟨push_only b n, fun w => ?_, ?_⟩
  · unfold push
    cases n.store.get b.key with
    | none => exact wf_setItem w _ _ rfl
    | some _ => exact w
  · unfold push Node.setItem
    cases n.store.get b.key <;> rfl

theorem sync_kstep (d : Desc) (n : Node) (hb : ∀ b, d.bndl = some b → b.key = d.key) :
    KStep d.key n (sync d n) := by
  refine ⟨sync_only d n hb, fun w => ?_, ?_⟩
  · unfold sync
    cases h : n.store.get d.key with
    | none =>
      cases hd : d.bndl with
      | none => exact w
      | some b => exact (push_kstep b n).wf w
    | some it =>
      simp only
      split
      · exact wf_erase w _
      · exact wf_setItem w _ _ (w.keyed _ it h)
  · exact sync_idk d n

theorem rtStep_modItem (k : Key) (f : Item → Item) (n : Node)
    (hf : ∀ it, (f it).bundle = it.bundle ∧ (f it).expires = it.expires ∧ (f it).cons = it.cons ∧
      (f it).receiver = it.receiver ∧ (it.pending = true → (f it).pending = true) ∧
      (∀ e, it.rt.epiDst = some e → (f it).rt.epiDst = some e)) :
    RtStep k n (modItem k f n) := by
  refine ⟨modItem_only k f n, ?_, ?_, ?_, ?_⟩
  · intro it h
    refine ⟨f it, by simp [modItem_get, h], (hf it).1, (hf it).2.1, (hf it).2.2.1, (hf it).2.2.2.1,
      (hf it).2.2.2.2.1, (hf it).2.2.2.2.2⟩
  · intro h
    simp [modItem_get, h]
  · unfold modItem
    cases h : n.store.get k with
    | none => rfl
    | some it =>
      simp only [Node.setItem, Store.keys_set, Store.mem_keys_of_get h, if_true]
  · unfold modItem Node.setItem
    cases n.store.get k <;> rfl

theorem rtStep_modRt (k : Key) (f : Routing → Routing) (n : Node)
    (hf : ∀ r e, r.epiDst = some e → (f r).epiDst = some e) : RtStep k n (modRt k f n) :=
  rtStep_modItem k _ n (fun it => ⟨rfl, rfl, rfl, rfl, id, hf it.rt⟩)

theorem epiNotify_keeps (b : Bundle) (r : Routing) (e : Eid) (h : r.epiDst = some e) :
    (epiNotify b r).epiDst = some e := by
  unfold epiNotify
  simp only [h, Option.isNone_some, Bool.false_eq_true, if_false]
  cases b.prev with
  | none => exact h
  | some p => simp only; split <;> first | exact h | rfl

theorem rtStep_spray (k : Key) (n : Node) (m : SprayMeta) : RtStep k n { n with spray := setMeta n.spray k m } :=
  ⟨⟨⟨rfl, rfl, rfl, rfl⟩, fun _ _ => rfl, fun _ hk => lookupMeta_setMeta_ne _ _ _ _ hk⟩,
    fun it h => ⟨it, h, rfl, rfl, rfl, rfl, id, fun _ h => h⟩, id, rfl, rfl⟩

theorem rtStep_attempts (k : Key) (n : Node) (a : List ((Nat × Nat × Nat) × Nat)) :
    RtStep k n { n with attempts := a } :=
  ⟨⟨⟨rfl, rfl, rfl, rfl⟩, fun _ _ => rfl, fun _ _ => rfl⟩,
    fun it h => ⟨it, h, rfl, rfl, rfl, rfl, id, fun _ h => h⟩, id, rfl, rfl⟩

theorem notifyNew_rt (k : Key) (b : Bundle) (n : Node) : RtStep k n (notifyNew k b n) := by
  unfold notifyNew
  cases n.cfg.algo <;> dsimp only
  · exact rtStep_modRt _ _ _ (epiNotify_keeps b)
  · exact rtStep_spray _ _ _
  · exact rtStep_spray _ _ _
  · cases b.prev with
    | none => exact RtStep.refl _ _
    | some p => exact rtStep_modRt _ _ _ fun _ _ h => by split <;> exact h
  · cases b.prev with
    | none => exact RtStep.refl _ _
    | some p => exact rtStep_modRt _ _ _ fun _ _ h => h

theorem dispatchingAllowed_cases (env : Env) (d : Desc) (n : Node) :
    dispatchingAllowed env d n = (true, n) ∨
    dispatchingAllowed env d n = (false, modItem d.key (fun it => { it with pending := true }) n) := by
  unfold dispatchingAllowed
  cases n.cfg.algo <;> dsimp only
  · cases n.store.get d.key with
    | none => exact Or.inl rfl
    | some it =>
      dsimp only
      split
      · exact Or.inl rfl
      · split
        · exact Or.inl rfl
        · split
          · exact Or.inr rfl
          · exact Or.inl rfl
  all_goals exact Or.inl rfl

theorem dispatchingAllowed_rt (env : Env) (d : Desc) (n : Node) :
    RtStep d.key n (dispatchingAllowed env d n).2 := by
  rcases dispatchingAllowed_cases env d n with h | h <;> rw [h]
  · exact RtStep.refl _ _
  · exact rtStep_modItem _ _ _ fun _ => ⟨rfl, rfl, rfl, rfl, fun _ => rfl, fun _ h => h⟩

theorem reportFailure_rt (d : Desc) (p : Peer) (n : Node) : RtStep d.key n (reportFailure d p n) := by
  unfold reportFailure
  cases n.cfg.algo <;> dsimp only
  · exact rtStep_modRt _ _ _ fun _ _ h => h
  · cases lookupMeta n.spray d.key with
    | none => exact RtStep.refl _ _
    | some m => exact rtStep_spray _ _ _
  · cases d.bndl.bind (·.bsCopies) with
    | none => exact RtStep.refl _ _
    | some back =>
      dsimp only
      cases lookupMeta n.spray d.key with
      | none => exact RtStep.refl _ _
      | some m => exact rtStep_spray _ _ _
  · exact rtStep_modRt _ _ _ fun _ _ h => h
  · generalize (n.cfg.dtlsrFail && (match d.bndl with | some b => decide (b.dst = n.cfg.bcast) | none => false)) = cnd
    cases cnd
    · exact RtStep.refl _ _
    · rw [if_pos rfl]; exact rtStep_modRt _ _ _ fun _ _ h => h

theorem mem_arrange {pref : List Nat} {peers : List Peer} {p : Peer} (h : p ∈ arrange pref peers) : p ∈ peers := by
  unfold arrange at h
  rcases List.mem_append.mp h with h | h
  · rcases List.mem_filterMap.mp h with ⟨a, _, ha⟩
    exact List.mem_of_find?_eq_some ha
  · exact (List.mem_filter.mp h).1

theorem mem_senders {env : Env} {n : Node} {k : Key} {p : Peer} (h : p ∈ senders env n k) : p ∈ n.peers :=
  mem_arrange h

theorem filterCLAs_sub : ∀ (sent : List Eid) (ps : List Peer), ∀ p ∈ (filterCLAs sent ps).1, p ∈ ps
  | _, [], p, h => by simp [filterCLAs] at h
  | sent, q :: ps, p, h => by
    simp only [filterCLAs] at h
    split at h
    · exact List.mem_cons_of_mem _ (filterCLAs_sub sent ps p h)
    · rcases List.mem_cons.mp h with h | h
      · exact h ▸ List.mem_cons_self
      · exact List.mem_cons_of_mem _ (filterCLAs_sub _ ps p h)

theorem sprayPick_sub : ∀ (m : SprayMeta) (ps : List Peer), ∀ p ∈ (sprayPick m ps).1, p ∈ ps
  | _, [], p, h => by simp [sprayPick] at h
  | m, q :: ps, p, h => by
    simp only [sprayPick] at h
    split at h
    · simp at h
    · split at h
      · exact List.mem_cons_of_mem _ (sprayPick_sub m ps p h)
      · rcases List.mem_cons.mp h with h | h
        · exact h ▸ List.mem_cons_self
        · exact List.mem_cons_of_mem _ (sprayPick_sub _ ps p h)

/-- What `SenderForBundle` of every algorithm does: the descriptor comes back as it was or with the
binary-spray block of its bundle rewritten, the state changes by routing bookkeeping only, and the chosen
senders are among the connected ones. -/
structure Picks (env : Env) (d : Desc) (b : Bundle) (n : Node) (r : List Peer × Bool × Desc × Node) : Prop where
  desc : r.2.2.1 = d ∨ ∃ c, r.2.2.1 = { d with bndl := some { b with bsCopies := some c } }
  rt : RtStep d.key n r.2.2.2
  sub : ∀ p ∈ r.1, p ∈ senders env n d.key

theorem Picks.none (env : Env) (d : Desc) (b : Bundle) (n : Node) : Picks env d b n ([], false, d, n) :=
  ⟨Or.inl rfl, RtStep.refl _ _, fun _ h => nomatch h⟩

theorem Picks.modRt (env : Env) (d : Desc) (b : Bundle) (n : Node) (ps : List Peer) (del : Bool)
    (f : Routing → Routing) (hf : ∀ r, (f r).epiDst = r.epiDst) (hs : ∀ p ∈ ps, p ∈ senders env n d.key) :
    Picks env d b n (ps, del, d, modRt d.key f n) :=
  ⟨Or.inl rfl, rtStep_modRt _ _ _ fun r e h => by rw [hf]; exact h, hs⟩

theorem Picks.keep {env : Env} {d : Desc} {b : Bundle} {n : Node} {r : List Peer × Bool × Desc × Node}
    (h : Picks env d b n r) : r.2.2.1.key = d.key ∧ r.2.2.1.cons = d.cons ∧ r.2.2.1.receiver = d.receiver := by
  rcases h.desc with h | ⟨c, h⟩ <;> rw [h] <;> exact ⟨rfl, rfl, rfl⟩

theorem Picks.bndl {env : Env} {d : Desc} {b : Bundle} {n : Node} {r : List Peer × Bool × Desc × Node}
    (h : Picks env d b n r) : r.2.2.1.bndl = d.bndl ∨ ∃ c, r.2.2.1.bndl = some { b with bsCopies := some c } := by
  rcases h.desc with h | ⟨c, h⟩ <;> rw [h]
  · exact Or.inl rfl
  · exact Or.inr ⟨c, rfl⟩

theorem innerSenders_picks (env : Env) (d : Desc) (b : Bundle) (n : Node) :
    Picks env d b n (innerSenders env d b n) := by
  unfold innerSenders
  cases n.cfg.algo <;> dsimp only
  · cases n.store.get d.key with
    | none => exact Picks.none ..
    | some it => exact Picks.modRt _ _ _ _ _ _ _ (fun _ => rfl) (filterCLAs_sub _ _)
  · cases lookupMeta n.spray d.key with
    | none => exact Picks.none ..
    | some m =>
      dsimp only
      split
      · exact Picks.none ..
      · exact ⟨Or.inl rfl, rtStep_spray _ _ _, sprayPick_sub _ _⟩
  · cases lookupMeta n.spray d.key with
    | none => exact Picks.none ..
    | some m =>
      dsimp only
      split
      · exact Picks.none ..
      · cases hf : (senders env n d.key).find? (fun p => !m.sent.contains p.eid) with
        | none => exact ⟨Or.inl rfl, rtStep_spray _ _ _, fun _ h => nomatch h⟩
        | some p =>
          exact ⟨Or.inr ⟨_, rfl⟩, rtStep_spray _ _ _, fun q hq => by
            cases List.mem_singleton.mp hq; exact List.mem_of_find?_eq_some hf⟩
  · cases n.store.get d.key with
    | none => exact Picks.none ..
    | some it =>
      dsimp only
      split
      · exact Picks.none ..
      · exact Picks.modRt _ _ _ _ _ _ _ (fun _ => rfl)
          fun p hp => (List.mem_filter.mp (filterCLAs_sub _ _ p hp)).1
  · split
    · cases n.store.get d.key with
      | none => exact Picks.none ..
      | some it => exact Picks.modRt _ _ _ _ _ _ _ (fun _ => rfl) (filterCLAs_sub _ _)
    · cases hf : (senders env n d.key).find? (fun p => env.cand p.eid b) with
      | none => exact Picks.none ..
      | some p =>
        exact ⟨Or.inl rfl, RtStep.refl _ _, fun q hq => by
          cases List.mem_singleton.mp hq; exact List.mem_of_find?_eq_some hf⟩

theorem muleFilter_rt (d : Desc) : ∀ (ps : List Peer) (n : Node), RtStep d.key n (muleFilter d ps n).2
  | [], n => RtStep.refl _ n
  | p :: ps, n => by
    have ih := muleFilter_rt d ps n
    simp only [muleFilter]
    by_cases h : muleDrops n.cfg d p = true
    · simp only [h, if_true]
      exact ih.trans (reportFailure_rt d p _)
    · simp only [h]
      exact ih

theorem muleFilter_fst_sub (d : Desc) : ∀ (ps : List Peer) (n : Node), ∀ p ∈ (muleFilter d ps n).1, p ∈ ps
  | [], n, p, h => by simp [muleFilter] at h
  | q :: ps, n, p, h => by
    simp only [muleFilter] at h
    by_cases hq : muleDrops n.cfg d q = true
    · simp only [hq, if_true] at h
      exact List.mem_cons_of_mem _ (muleFilter_fst_sub d ps n p h)
    · simp only [hq] at h
      rcases List.mem_cons.mp h with h | h
      · exact h ▸ List.mem_cons_self
      · exact List.mem_cons_of_mem _ (muleFilter_fst_sub d ps n p h)

theorem Picks.mule {env : Env} {d : Desc} {b : Bundle} {n : Node} {r : List Peer × Bool × Desc × Node}
    (h : Picks env d b n r) (del : Bool) :
    Picks env d b n ((muleFilter r.2.2.1 r.1 r.2.2.2).1, del, r.2.2.1, (muleFilter r.2.2.1 r.1 r.2.2.2).2) :=
  ⟨h.desc, h.rt.trans (h.keep.1 ▸ muleFilter_rt r.2.2.1 r.1 r.2.2.2),
    fun p hp => h.sub p (muleFilter_fst_sub _ _ _ p hp)⟩

theorem sendersFor_picks (env : Env) (d : Desc) (b : Bundle) (n : Node) :
    Picks env d b n (sendersFor env d b n) := by
  unfold sendersFor
  dsimp only
  split
  · exact (innerSenders_picks env d b n).mule _
  · exact innerSenders_picks env d b n

theorem sendAll_rt (env : Env) (d : Desc) (b : Bundle) : ∀ (ps : List Peer) (n : Node),
    RtStep d.key n (sendAll env d b ps n).1
  | [], n => RtStep.refl _ n
  | p :: ps, n => by
    simp only [sendAll]
    refine RtStep.trans ?_ (sendAll_rt env d b ps _)
    split
    · exact rtStep_attempts _ n _
    · exact (rtStep_attempts _ n _).trans (reportFailure_rt d p _)

theorem notifyNew_idk (k : Key) (b : Bundle) (n : Node) : (notifyNew k b n).idk = n.idk :=
  (notifyNew_rt k b n).idk

@[simp] theorem setIdk_store (n : Node) (x : List ((Eid × Nat) × Nat)) : (n.setIdk x).store = n.store := rfl
@[simp] theorem setIdk_cfg (n : Node) (x : List ((Eid × Nat) × Nat)) : (n.setIdk x).cfg = n.cfg := rfl
@[simp] theorem setIdk_now (n : Node) (x : List ((Eid × Nat) × Nat)) : (n.setIdk x).now = n.now := rfl
@[simp] theorem setIdk_peers (n : Node) (x : List ((Eid × Nat) × Nat)) : (n.setIdk x).peers = n.peers := rfl
@[simp] theorem setIdk_evNo (n : Node) (x : List ((Eid × Nat) × Nat)) : (n.setIdk x).evNo = n.evNo := rfl
@[simp] theorem setIdk_idk (n : Node) (x : List ((Eid × Nat) × Nat)) : (n.setIdk x).idk = x := rfl
theorem setIdk_self (n : Node) : n.setIdk n.idk = n := rfl

theorem wf_idk {n : Node} (w : WF n) (x : List ((Eid × Nat) × Nat)) : WF (n.setIdk x) :=
  ⟨w.keyed, w.nodup⟩

end Dtn7.Node
