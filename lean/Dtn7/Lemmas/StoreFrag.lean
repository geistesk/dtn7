import Dtn7.Lemmas.StoreCovers

/-!
C08: fragments of one bundle — collected once each, complete exactly when covering, and the two
concurrent pushes.
-/
namespace Dtn7.Store.Lemmas

section
variable (parse : Bytes → Option Bundle)

theorem bundle_fragKey (b : Bundle) (o t : Nat) (h : b.frag = some (o, t)) : fragKey b = (o, t) := by
  simp [fragKey, bOff, bTotal, h]

theorem exec_push_index_same (s : State) (b : Bundle) (it : Item) (hg : get b.id s.index = some it)
    (hc : pushCond b it = false) : (exec parse s (.push b)).index = s.index := by
  cases hk : pushKnown b it with
  | false => simp only [exec, plan_push_ignored parse s b it hg hc hk, runSteps]
  | true =>
    simp only [exec, plan_push_known parse s b it hg hk]
    cases keepsStored parse s b with
    | true => rfl
    | false =>
      show (runSteps s (replaceSteps _ _)).index = s.index
      rw [run_replaceSteps]

theorem fragments_collected {s : State} (h : Inv' parse s) {b : Bundle} (hwf : WF parse b)
    (hfr : b.frag.isSome = true)
    (hrec : ∀ it, get b.id s.index = some it → it.fragmented = true) :
    ∃ it, get b.id (exec parse s (.push b)).index = some it ∧
      (it.parts.map (fun p => (p.off, p.total))).count (fragKey b) = 1 ∧
      ∃ p ∈ it.parts, (p.off, p.total) = fragKey b ∧
        ∃ b', loadPart parse (exec parse s (.push b)) p = some b' ∧ b'.id = b.id ∧ b'.frag = b.frag := by
  have hinv := (exec_refines parse h (.push b) hwf).1
  have key : ∃ it, get b.id (exec parse s (.push b)).index = some it ∧ it.fragmented = true ∧
      ∃ p ∈ it.parts, (p.off, p.total) = fragKey b := by
    cases hg : get b.id s.index with
    | none =>
      rw [exec_push_new parse s b hg]
      exact ⟨newItem b, get_put_self _ _ _, hfr, partOf b, by simp [newItem], rfl⟩
    | some it0 =>
      cases hc : pushCond b it0 with
      | true =>
        rw [exec_push_frag parse s b it0 hg hc]
        exact ⟨_, get_put_self _ _ _, hrec it0 hg, partOf b, by simp, rfl⟩
      | false =>
        rw [exec_push_index_same parse s b it0 hg hc]
        refine ⟨it0, hg, hrec it0 hg, ?_⟩
        simp only [pushCond, hfr, hrec it0 hg, Bool.true_and, Bool.not_eq_false',
          List.any_eq_true] at hc
        obtain ⟨p, hp, hsf⟩ := hc
        exact ⟨p, hp, by simpa [sameFrag] using hsf⟩
  obtain ⟨it, hg, hfrg, p, hp, hk⟩ := key
  have ok := hinv.2 b.id it hg
  refine ⟨it, hg, ?_, p, hp, hk, ?_⟩
  · rw [List.Nodup.count ok.nodup, if_pos]
    exact List.mem_map.mpr ⟨p, hp, hk⟩
  · obtain ⟨b', hb', hid, hfrag⟩ := ok.readable p hp
    refine ⟨b', hb', hid, ?_⟩
    rw [hfrag, ok.names p hp]
    simp only [hfrg, if_true]
    rw [hk, frag_eq b, if_pos hfr]; rfl

theorem loadParts_some (s : State) (id : Id) (ps : List Part)
    (h : ∀ p ∈ ps, ∃ b, loadPart parse s p = some b ∧ b.id = id ∧ b.frag = some (p.off, p.total)) :
    ∃ bs, loadParts parse s ps = some bs ∧ (∀ b ∈ bs, b.id = id ∧ b.frag.isSome = true) ∧
      bs.map fragKey = ps.map (fun p => (p.off, p.total)) := by
  induction ps with
  | nil => exact ⟨[], rfl, by simp, rfl⟩
  | cons p r ih =>
    obtain ⟨b, hb, hid, hfrag⟩ := h p (by simp)
    obtain ⟨bs, hbs, h1, h2⟩ := ih (fun q hq => h q (List.mem_cons_of_mem _ hq))
    refine ⟨b :: bs, by simp [loadParts, hb, hbs], ?_, ?_⟩
    · intro x hx
      rcases List.mem_cons.mp hx with hx | hx
      · subst hx; exact ⟨hid, by simp [hfrag]⟩
      · exact h1 x hx
    · simp only [List.map_cons, h2, bundle_fragKey b _ _ hfrag]

theorem complete_iff_covers {s : State} {id : Id} {it : Item} (ok : ItemOk parse s id it)
    (hf : it.fragmented = true) (T : Nat) (hT : ∀ p ∈ it.parts, p.total = T) :
    ∃ bs, loadParts parse s it.parts = some bs ∧ (∀ b ∈ bs, b.id = id) ∧
      bs.map fragKey = it.parts.map (fun p => (p.off, p.total)) ∧
      (isComplete parse true s it = true ↔ Covers (bs.map ivOf) T) := by
  obtain ⟨bs, hbs, h1, h2⟩ := loadParts_some parse s id it.parts (by
    intro p hp
    obtain ⟨b, hb, hid, hfrag⟩ := ok.readable p hp
    refine ⟨b, hb, hid, ?_⟩
    rw [hfrag, ok.names p hp]; simp [hf])
  refine ⟨bs, hbs, fun b hb => (h1 b hb).1, h2, ?_⟩
  have hne : bs ≠ [] := by
    intro e; subst e
    have := congrArg List.length h2
    simp only [List.map_nil, List.length_nil, List.length_map] at this
    exact ok.nonempty (List.length_eq_zero_iff.mp this.symm)
  have hTb : ∀ b ∈ bs, bTotal b = T := by
    intro b hb
    have : fragKey b ∈ it.parts.map (fun p => (p.off, p.total)) := by
      rw [← h2]; exact List.mem_map.mpr ⟨b, hb, rfl⟩
    obtain ⟨p, hp, he⟩ := List.mem_map.mp this
    have := congrArg Prod.snd he
    simp only [fragKey] at this
    rw [← this]; exact hT p hp
  simp only [isComplete, hf, hbs, Bool.not_true, Bool.false_or]
  exact reassemblable_iff_covers bs T hne (fun b hb => (h1 b hb).2) hTb

def s12 (b1 b2 : Bundle) (s : State) : State := exec parse (exec parse s (.push b1)) (.push b2)
def s21 (b1 b2 : Bundle) (s : State) : State := exec parse (exec parse s (.push b2)) (.push b1)

/-- Invariant of every configuration reachable under the mutex. -/
def SerialInv (b1 b2 : Bundle) (s : State) (c : Conf) : Prop :=
  match c.t1, c.t2 with
  | .idle, .idle => c.st = s
  | .busy r, .idle => runSteps c.st r = exec parse s (.push b1)
  | .done, .idle => c.st = exec parse s (.push b1)
  | .idle, .busy r => runSteps c.st r = exec parse s (.push b2)
  | .idle, .done => c.st = exec parse s (.push b2)
  | .done, .busy r => runSteps c.st r = s12 parse b1 b2 s
  | .busy r, .done => runSteps c.st r = s21 parse b1 b2 s
  | .done, .done => c.st = s12 parse b1 b2 s ∨ c.st = s21 parse b1 b2 s
  | .busy _, .busy _ => False

theorem serialInv_step (b1 b2 : Bundle) (s : State) (c : Conf) (who : Bool)
    (h : SerialInv parse b1 b2 s c) : SerialInv parse b1 b2 s (cstep parse true b1 b2 c who) := by
  obtain ⟨st, t1, t2⟩ := c
  cases who with
  | false =>
    cases t1 with
    | idle => cases t2 <;> simp_all [SerialInv, cstep, tstep, TState.inside, exec, s21]
    | busy r1 => cases r1 <;> cases t2 <;> simp_all [SerialInv, cstep, tstep, exec, runSteps, s12, s21]
    | done => cases t2 <;> simp_all [SerialInv, cstep, tstep, exec, s12, s21]
  | true =>
    cases t2 with
    | idle => cases t1 <;> simp_all [SerialInv, cstep, tstep, TState.inside, exec, s12]
    | busy r2 => cases r2 <;> cases t1 <;> simp_all [SerialInv, cstep, tstep, exec, runSteps, s12, s21]
    | done => cases t1 <;> simp_all [SerialInv, cstep, tstep, exec, s12, s21]

theorem serialInv_run (b1 b2 : Bundle) (s : State) (sched : List Bool) :
    SerialInv parse b1 b2 s (runSched parse true b1 b2 s sched) := by
  have : ∀ c, SerialInv parse b1 b2 s c → SerialInv parse b1 b2 s (sched.foldl (cstep parse true b1 b2) c) := by
    induction sched with
    | nil => intro c h; exact h
    | cons w r ih => intro c h; exact ih _ (serialInv_step parse b1 b2 s c w h)
  exact this _ (by simp [SerialInv])

theorem locked_serial (b1 b2 : Bundle) (s : State) (sched : List Bool)
    (hfin : (runSched parse true b1 b2 s sched).finished = true) :
    (runSched parse true b1 b2 s sched).st = s12 parse b1 b2 s ∨ (runSched parse true b1 b2 s sched).st = s21 parse b1 b2 s := by
  have h := serialInv_run parse b1 b2 s sched
  generalize runSched parse true b1 b2 s sched = c at h hfin
  obtain ⟨st, t1, t2⟩ := c
  simp only [Conf.finished, Bool.and_eq_true, beq_iff_eq] at hfin
  obtain ⟨h1, h2⟩ := hfin
  subst h1 h2
  exact h

theorem spec_push_fresh (m : SMap) (b : Bundle) (hfr : b.frag.isSome = true)
    (hfresh : ∀ r, get b.id m = some r → r.fragmented = true ∧ ∀ p ∈ r.parts, p.1 ≠ fragKey b) :
    ∃ r', get b.id (specStep m (.op (.push b))) = some r' ∧ r'.fragmented = true ∧
      (∀ r, get b.id m = some r → r'.parts = r.parts ++ [(fragKey b, content b)]) ∧
      (get b.id m = none → r'.parts = [(fragKey b, content b)]) := by
  cases hg : get b.id m with
  | none =>
    refine ⟨⟨b.frag.isSome, [(fragKey b, content b)], false, b.expires, []⟩, ?_, hfr, ?_, ?_⟩
    · simp only [specStep, hg]; exact get_put_self _ _ _
    · intro r hr; cases hr
    · intro _; rfl
  | some r =>
    obtain ⟨h1, h2⟩ := hfresh r hg
    have hany : hasKey (fragKey b) r.parts = false := by
      simp only [hasKey]
      rw [List.any_eq_false]; intro p hp; simpa using h2 p hp
    refine ⟨{ r with parts := r.parts ++ [(fragKey b, content b)] }, ?_, h1, ?_, ?_⟩
    · simp only [specStep, hg, hfr, h1, hany, Bool.and_self, if_true, Bool.false_eq_true, if_false]
      exact get_put_self _ _ _
    · intro r0 hr0; injection hr0 with hr0; subst hr0; rfl
    · intro hn; cases hn

theorem spec_two_pushes (m : SMap) (b1 b2 : Bundle) (hid : b1.id = b2.id)
    (hk : fragKey b1 ≠ fragKey b2) (hf1 : b1.frag.isSome = true) (hf2 : b2.frag.isSome = true)
    (hfresh : ∀ r, get b1.id m = some r → r.fragmented = true ∧
      ∀ p ∈ r.parts, p.1 ≠ fragKey b1 ∧ p.1 ≠ fragKey b2) :
    ∃ r, get b1.id (specStep (specStep m (.op (.push b1))) (.op (.push b2))) = some r ∧
      (fragKey b1, content b1) ∈ r.parts ∧ (fragKey b2, content b2) ∈ r.parts := by
  obtain ⟨r1, hg1, hfr1, hp1, hp1'⟩ := spec_push_fresh m b1 hf1
    (fun r hr => ⟨(hfresh r hr).1, fun p hp => ((hfresh r hr).2 p hp).1⟩)
  have hparts1 : ∀ p ∈ r1.parts, p.1 ≠ fragKey b2 := by
    intro p hp
    cases hg : get b1.id m with
    | none =>
      rw [hp1' hg] at hp
      simp only [List.mem_singleton] at hp
      subst hp; exact hk
    | some r =>
      rw [hp1 r hg] at hp
      rcases List.mem_append.mp hp with hp | hp
      · exact ((hfresh r hg).2 p hp).2
      · simp only [List.mem_singleton] at hp
        subst hp; exact hk
  rw [hid] at hg1
  obtain ⟨r2, hg2, _, hp2, _⟩ := spec_push_fresh _ b2 hf2
    (fun r hr => by rw [hg1] at hr; injection hr with hr; subst hr; exact ⟨hfr1, hparts1⟩)
  rw [hid]
  refine ⟨r2, hg2, ?_, ?_⟩
  · rw [hp2 r1 hg1]
    apply List.mem_append_left
    cases hg : get b1.id m with
    | none => rw [hp1' hg]; simp
    | some r => rw [hp1 r hg]; simp
  · rw [hp2 r1 hg1]; simp

/-- **Concurrent fragments.** Two pushes of different fragments of one bundle, run under the store
mutex in any schedule in which both return: both parts are recorded in the bundle's one record and
read back byte-identical. -/
theorem concurrent_fragments {s : State} (h : Inv' parse s) (b1 b2 : Bundle)
    (hw1 : WF parse b1) (hw2 : WF parse b2) (hid : b1.id = b2.id) (hk : fragKey b1 ≠ fragKey b2)
    (hf1 : b1.frag.isSome = true) (hf2 : b2.frag.isSome = true)
    (hfresh : ∀ r, get b1.id (abs parse s) = some r → r.fragmented = true ∧
      ∀ p ∈ r.parts, p.1 ≠ fragKey b1 ∧ p.1 ≠ fragKey b2)
    (sched : List Bool) (hfin : (runSched parse true b1 b2 s sched).finished = true) :
    ∃ r, get b1.id (abs parse (runSched parse true b1 b2 s sched).st) = some r ∧
      (fragKey b1, content b1) ∈ r.parts ∧ (fragKey b2, content b2) ∈ r.parts := by
  rcases locked_serial parse b1 b2 s sched hfin with hs | hs
  · rw [hs]
    obtain ⟨h1, a1⟩ := exec_refines parse h (.push b1) hw1
    obtain ⟨_, a2⟩ := exec_refines parse h1 (.push b2) hw2
    simp only [s12]
    rw [a2, a1]
    exact spec_two_pushes _ b1 b2 hid hk hf1 hf2 hfresh
  · rw [hs]
    obtain ⟨h1, a1⟩ := exec_refines parse h (.push b2) hw2
    obtain ⟨_, a2⟩ := exec_refines parse h1 (.push b1) hw1
    simp only [s21]
    rw [a2, a1]
    obtain ⟨r, hr, hb2, hb1⟩ := spec_two_pushes (abs parse s) b2 b1 hid.symm (fun e => hk e.symm) hf2 hf1
      (fun r hr => by
        rw [← hid] at hr
        exact ⟨(hfresh r hr).1, fun p hp => ⟨((hfresh r hr).2 p hp).2, ((hfresh r hr).2 p hp).1⟩⟩)
    rw [← hid] at hr
    exact ⟨r, hr, hb1, hb2⟩

end
end Dtn7.Store.Lemmas
