import Dtn7.Model.Tcpcl

namespace Dtn7.Tcpcl.Lemmas
open Dtn7.Tcpcl

/-- Generalised Spec for a train that starts with an arbitrary START bit. -/
def TrainOk (start : Bool) (la : Bool) (data : Bytes) (m : Nat) (segs : List Seg) : Prop :=
  (∀ s ∈ segs, s.data.length ≤ m) ∧ concatData segs = data ∧
  (∃ s ss, segs = s :: ss ∧ s.start = start ∧ ∀ t ∈ ss, t.start = false) ∧
  (la = true → endsOk segs = true)

theorem endsOk_cons_cons (s t : Seg) (ss : List Seg) :
    endsOk (s :: t :: ss) = (!s.fin && endsOk (t :: ss)) := rfl

/-- One unfolding of the sender loop on a non-empty rest. -/
theorem segmentsFuel_short (la : Bool) (m fuel : Nat) (start : Bool) (rest : Bytes)
    (hne : rest ≠ []) (hlt : rest.length < m) :
    segmentsFuel la m (fuel + 1) start rest = [⟨start, true, rest⟩] := by
  have hpos : rest.length ≠ 0 := fun h => hne (List.length_eq_zero_iff.mp h)
  cases fuel <;> simp [segmentsFuel, nextSegment, hpos, hlt]

theorem segmentsFuel_full (la : Bool) (m fuel : Nat) (start : Bool) (rest : Bytes)
    (hne : rest ≠ []) (hge : ¬ rest.length < m) :
    segmentsFuel la m (fuel + 1) start rest =
      ⟨start, la && (rest.drop m).length = 0, rest.take m⟩ ::
        segmentsFuel la m fuel false (rest.drop m) := by
  have hpos : rest.length ≠ 0 := fun h => hne (List.length_eq_zero_iff.mp h)
  simp [segmentsFuel, nextSegment, hpos, hge]

theorem segmentsFuel_nil (la : Bool) (m fuel : Nat) (start : Bool) :
    segmentsFuel la m fuel start [] = [] := by
  cases fuel <;> simp [segmentsFuel, nextSegment]

theorem trainOk_single (start la fin : Bool) (data : Bytes) (m : Nat) (hl : data.length ≤ m)
    (hf : la = true → fin = true) : TrainOk start la data m [⟨start, fin, data⟩] :=
  ⟨fun s hs => by rw [List.mem_singleton.mp hs]; exact hl, by simp [concatData],
    ⟨_, _, rfl, rfl, fun t ht => nomatch ht⟩, hf⟩

theorem segmentsFuel_ok (la : Bool) (m : Nat) (hm : 0 < m) (fuel : Nat) (start : Bool)
    (rest : Bytes) (hne : rest ≠ []) (hf : rest.length ≤ fuel) :
    TrainOk start la rest m (segmentsFuel la m fuel start rest) := by
  induction fuel generalizing rest start with
  | zero =>
    exact absurd (List.length_eq_zero_iff.mp (Nat.le_zero.mp hf)) hne
  | succ fuel ih =>
    by_cases hlt : rest.length < m
    · rw [segmentsFuel_short la m fuel start rest hne hlt]
      exact trainOk_single start la true rest m (Nat.le_of_lt hlt) (fun _ => rfl)
    · rw [segmentsFuel_full la m fuel start rest hne hlt]
      by_cases hr : rest.drop m = []
      · have hle : rest.length ≤ m := by
          have := congrArg List.length hr
          rw [List.length_drop, List.length_nil] at this
          omega
        rw [hr, segmentsFuel_nil, List.take_of_length_le hle]
        exact trainOk_single start la _ rest m hle (fun hla => by simp [hla])
      · have hlen' : (rest.drop m).length ≤ fuel := by
          rw [List.length_drop]; omega
        obtain ⟨h1, h2, ⟨s, ss, hs, hst, hss⟩, h4⟩ := ih false (rest.drop m) hr hlen'
        refine ⟨?_, ?_, ⟨_, _, rfl, rfl, ?_⟩, ?_⟩
        · intro x hx
          rcases List.mem_cons.mp hx with hx | hx
          · subst hx; simp only [List.length_take]; omega
          · exact h1 x hx
        · simp only [concatData, h2, List.take_append_drop]
        · intro t ht
          rw [hs] at ht
          rcases List.mem_cons.mp ht with ht | ht
          · rw [ht]; exact hst
          · exact hss t ht
        · intro hla
          rw [hs, endsOk_cons_cons, ← hs, h4 hla]
          have : (rest.drop m).length ≠ 0 := by
            intro h; exact hr (List.length_eq_zero_iff.mp h)
          simp only [List.length_drop] at this
          simp [this]

theorem startsOk_of (segs : List Seg)
    (h : ∃ s ss, segs = s :: ss ∧ s.start = true ∧ ∀ t ∈ ss, t.start = false) :
    startsOk segs = true := by
  obtain ⟨s, ss, rfl, hs, hss⟩ := h
  simp only [startsOk, hs, Bool.true_and, List.all_eq_true]
  intro t ht; simp [hss t ht]

/-- Without look-ahead the train still ends with END when the segment size does not divide the length: the last
read is short. -/
theorem segmentsFuel_nolookahead_ends (m : Nat) (hm : 0 < m) (fuel : Nat) (start : Bool)
    (rest : Bytes) (hne : rest ≠ []) (hf : rest.length ≤ fuel) (hdiv : ¬ m ∣ rest.length) :
    endsOk (segmentsFuel false m fuel start rest) = true := by
  induction fuel generalizing rest start with
  | zero =>
    exact absurd (List.length_eq_zero_iff.mp (Nat.le_zero.mp hf)) hne
  | succ fuel ih =>
    by_cases hlt : rest.length < m
    · rw [segmentsFuel_short false m fuel start rest hne hlt]; rfl
    · rw [segmentsFuel_full false m fuel start rest hne hlt]
      have hge : m ≤ rest.length := Nat.le_of_not_lt hlt
      have hdiv' : ¬ m ∣ (rest.drop m).length := by
        simp only [List.length_drop]
        intro h
        apply hdiv
        have := Nat.dvd_add h (Nat.dvd_refl m)
        rwa [Nat.sub_add_cancel hge] at this
      have hr : rest.drop m ≠ [] := by
        intro h
        apply hdiv'
        simp [h]
      have hlen' : (rest.drop m).length ≤ fuel := by
        simp only [List.length_drop]; omega
      have ih' := ih false (rest.drop m) hr hlen' hdiv'
      obtain ⟨_, _, ⟨s, ss, hs, _, _⟩, _⟩ := segmentsFuel_ok false m hm fuel false (rest.drop m) hr hlen'
      rw [hs, endsOk_cons_cons, ← hs, ih']
      simp

theorem endsOk_false_of_nofin : ∀ (segs : List Seg), (∀ s ∈ segs, s.fin = false) → endsOk segs = false
  | [], _ => rfl
  | [s], h => by simpa [endsOk] using h s (by simp)
  | s :: t :: ss, h => by
    rw [endsOk_cons_cons, endsOk_false_of_nofin (t :: ss) (fun x hx => h x (by simp [hx]))]; simp

/-- Without look-ahead no segment carries END when the segment size divides the length: every read is full. -/
theorem segmentsFuel_nolookahead_nofin (m : Nat) (fuel : Nat) (start : Bool)
    (rest : Bytes) (hdiv : m ∣ rest.length) :
    ∀ s ∈ segmentsFuel false m fuel start rest, s.fin = false := by
  induction fuel generalizing rest start with
  | zero => simp [segmentsFuel]
  | succ fuel ih =>
    by_cases hne : rest = []
    · subst hne; rw [segmentsFuel_nil]; simp
    · have hpos : 0 < rest.length := List.length_pos_iff.mpr hne
      have hge : ¬ rest.length < m := fun h => by
        have := Nat.le_of_dvd hpos hdiv; omega
      rw [segmentsFuel_full false m fuel start rest hne hge]
      intro s hs
      rcases List.mem_cons.mp hs with hs | hs
      · subst hs; simp
      · refine ih false (rest.drop m) ?_ s hs
        rw [List.length_drop]; exact Nat.dvd_sub hdiv (Nat.dvd_refl m)

/-- The sender's train meets the Spec exactly when it looks ahead or the segment size does not divide the
length (D12). -/
theorem segments_ok_iff (la : Bool) (data : Bytes) (m : Nat) (hm : 0 < m) (hd : data ≠ []) :
    SegmentsOk data m (segments la m data) ↔ (la = true ∨ ¬ m ∣ data.length) := by
  constructor
  · intro h
    cases la with
    | true => exact .inl rfl
    | false =>
      refine .inr fun hdiv => ?_
      have hnf : ∀ s ∈ segments false m data, s.fin = false := by
        unfold segments; rw [if_pos hm]
        exact segmentsFuel_nolookahead_nofin m data.length true data hdiv
      have := endsOk_false_of_nofin _ hnf
      rw [h.2.2.2] at this; cases this
  · intro h
    unfold segments
    rw [if_pos hm]
    obtain ⟨h1, h2, h3, h4⟩ := segmentsFuel_ok la m hm data.length true data hd (Nat.le_refl _)
    refine ⟨h1, h2, startsOk_of _ h3, ?_⟩
    cases la with
    | true => exact h4 rfl
    | false =>
      exact segmentsFuel_nolookahead_ends m hm data.length true data hd (Nat.le_refl _)
        (h.resolve_left (fun h => nomatch h))

theorem segmentsFuel_nonempty (la : Bool) (m : Nat) (hm : 0 < m) (fuel : Nat) (start : Bool)
    (rest : Bytes) : ∀ s ∈ segmentsFuel la m fuel start rest, 0 < s.data.length := by
  induction fuel generalizing rest start with
  | zero => simp [segmentsFuel]
  | succ fuel ih =>
    by_cases hne : rest = []
    · subst hne; rw [segmentsFuel_nil]; simp
    · have hpos : 0 < rest.length := List.length_pos_iff.mpr hne
      by_cases hlt : rest.length < m
      · rw [segmentsFuel_short la m fuel start rest hne hlt]
        intro s hs; simp only [List.mem_singleton] at hs; subst hs; exact hpos
      · rw [segmentsFuel_full la m fuel start rest hne hlt]
        intro s hs
        rcases List.mem_cons.mp hs with hs | hs
        · subst hs; simp only [List.length_take]; omega
        · exact ih false (rest.drop m) s hs

theorem segments_nonempty (la : Bool) (m : Nat) (hm : 0 < m) (data : Bytes) :
    ∀ s ∈ segments la m data, 0 < s.data.length := by
  unfold segments; rw [if_pos hm]
  exact segmentsFuel_nonempty la m hm data.length true data

theorem concat_take_lt (segs : List Seg) (k : Nat) (hne : ∀ s ∈ segs, 0 < s.data.length)
    (hk : k < segs.length) : (concatData (segs.take k)).length < (concatData segs).length := by
  induction segs generalizing k with
  | nil => simp at hk
  | cons s ss ih =>
    have hs := hne s (by simp)
    cases k with
    | zero => simp only [List.take_zero, concatData, List.length_nil, List.length_append]; omega
    | succ k =>
      have := ih k (fun x hx => hne x (by simp [hx])) (by simpa using hk)
      simp only [List.take_succ_cons, concatData, List.length_append]
      omega

theorem concat_length_ge (segs : List Seg) (h : ∀ sg ∈ segs, 0 < sg.data.length) :
    segs.length ≤ (concatData segs).length := by
  induction segs with
  | nil => simp [concatData]
  | cons a as ih =>
    have ha := h a (List.mem_cons_self ..)
    have := ih (fun x hx => h x (List.mem_cons_of_mem _ hx))
    simp only [concatData, List.length_cons, List.length_append]
    omega

/-- A segment that `NextSegment` yields is the next `mtu` bytes of a non-empty stream, whichever branch
produced it. -/
theorem nextSegment_seg (la st : Bool) (rest : Bytes) (mtu : Nat) (sg : Seg) (r : Bytes)
    (h : nextSegment la st rest mtu = .seg sg r) :
    rest ≠ [] ∧ sg.data = rest.take mtu ∧ r = rest.drop mtu ∧ sg.start = st := by
  unfold nextSegment at h
  by_cases h0 : rest.length = 0
  · rw [if_pos h0] at h; cases h
  rw [if_neg h0] at h
  have hne : rest ≠ [] := fun e => h0 (by rw [e]; rfl)
  by_cases h1 : rest.length < mtu
  · rw [if_pos h1] at h; cases h
    exact ⟨hne, (List.take_of_length_le (Nat.le_of_lt h1)).symm, (List.drop_of_length_le (Nat.le_of_lt h1)).symm, rfl⟩
  · rw [if_neg h1] at h; cases h
    exact ⟨hne, rfl, rfl, rfl⟩

theorem receive_step_more (t : InT) (s : Seg) (ss : List Seg) (ht : t.fin = false)
    (hs : s.fin = false) :
    receive t (s :: ss) =
      (RxOut.ack (t.buf ++ s.data).length :: (receive ⟨false, t.buf ++ s.data⟩ ss).1,
        (receive ⟨false, t.buf ++ s.data⟩ ss).2) := by
  simp [receive, InT.next, ht, hs]

theorem receive_step_fin (t : InT) (s : Seg) (ss : List Seg) (ht : t.fin = false)
    (hs : s.fin = true) :
    receive t (s :: ss) = ([RxOut.ack (t.buf ++ s.data).length], some (t.buf ++ s.data)) := by
  simp [receive, InT.next, ht, hs]

theorem receive_ends_ack (segs : List Seg) (t : InT) (ht : t.fin = false) (he : endsOk segs = true) :
    (receive t segs).2 = some (t.buf ++ concatData segs) ∧
    RxOut.ack (t.buf.length + (concatData segs).length) ∈ (receive t segs).1 := by
  induction segs generalizing t with
  | nil => simp [endsOk] at he
  | cons s ss ih =>
    cases ss with
    | nil =>
      simp only [endsOk] at he
      rw [receive_step_fin t s [] ht he]
      simp [concatData]
    | cons s2 ss2 =>
      rw [endsOk_cons_cons] at he
      simp only [Bool.and_eq_true, Bool.not_eq_eq_eq_not, Bool.not_true] at he
      obtain ⟨hs, he'⟩ := he
      rw [receive_step_more t s _ ht hs]
      obtain ⟨h1, h2⟩ := ih ⟨false, t.buf ++ s.data⟩ rfl he'
      refine ⟨by rw [h1]; simp [concatData, List.append_assoc], List.mem_cons_of_mem _ ?_⟩
      simp only [List.length_append] at h2
      have e : t.buf.length + (concatData (s :: s2 :: ss2)).length
          = t.buf.length + s.data.length + (concatData (s2 :: ss2)).length := by
        simp only [concatData, List.length_append]; omega
      rw [e]; exact h2

theorem receive_ends (segs : List Seg) (t : InT) (ht : t.fin = false) (he : endsOk segs = true) :
    (receive t segs).2 = some (t.buf ++ concatData segs) :=
  (receive_ends_ack segs t ht he).1

theorem receive_no_end (segs : List Seg) (t : InT) (ht : t.fin = false)
    (h : ∀ s ∈ segs, s.fin = false) : (receive t segs).2 = none := by
  induction segs generalizing t with
  | nil => simp [receive, ht]
  | cons s ss ih =>
    have hs : s.fin = false := h s (by simp)
    simp only [receive, InT.next, ht, Bool.false_eq_true, ↓reduceIte, hs]
    exact ih _ rfl (fun x hx => h x (by simp [hx]))

/-! Every ack of an honest receiver lies between what it had buffered before and that plus the train's length. -/

/-- An ack for `s :: ss` is the ack of `s`, or — if `s` does not end the transfer — one for `ss`. -/
theorem mem_receive_cons {t : InT} {s : Seg} {ss : List Seg} {n : Nat}
    (h : RxOut.ack n ∈ (receive t (s :: ss)).1) :
    n = (t.buf ++ s.data).length ∨ RxOut.ack n ∈ (receive ⟨false, t.buf ++ s.data⟩ ss).1 := by
  by_cases ht : t.fin = true
  · simp [receive, InT.next, ht] at h
  · have ht : t.fin = false := by simpa using ht
    by_cases hs : s.fin = true
    · rw [receive_step_fin t s ss ht hs, List.mem_singleton] at h
      exact Or.inl (RxOut.ack.inj h)
    · rw [receive_step_more t s ss ht (by simpa using hs), List.mem_cons] at h
      exact h.imp RxOut.ack.inj id

theorem receive_acks_bounds (segs : List Seg) (t : InT) (n : Nat)
    (h : RxOut.ack n ∈ (receive t segs).1) :
    t.buf.length ≤ n ∧ n ≤ t.buf.length + (concatData segs).length := by
  induction segs generalizing t with
  | nil => simp [receive] at h
  | cons s ss ih =>
    simp only [concatData, List.length_append]
    rcases mem_receive_cons h with h | h
    · rw [h, List.length_append]; omega
    · have := ih _ h
      rw [List.length_append] at this; omega

theorem receive_acks_pos (segs : List Seg) (t : InT) (n : Nat)
    (hne : ∀ s ∈ segs, 0 < s.data.length)
    (h : RxOut.ack n ∈ (receive t segs).1) : t.buf.length < n := by
  cases segs with
  | nil => simp [receive] at h
  | cons s ss =>
    have hs := hne s (by simp)
    rcases mem_receive_cons h with h | h
    · rw [h, List.length_append]; omega
    · have := (receive_acks_bounds ss _ n h).1
      rw [List.length_append] at this; omega

/-- The last ack of a complete train is the total length. -/
theorem receive_final_ack (segs : List Seg) (t : InT) (ht : t.fin = false)
    (he : endsOk segs = true) :
    RxOut.ack (t.buf.length + (concatData segs).length) ∈ (receive t segs).1 :=
  (receive_ends_ack segs t ht he).2

theorem sendLoop_ok_gen (evs : List Ev) (i o : Nat) (h : sendLoop i o evs = .ok) :
    ∃ l, (Ev.allSent l ∈ evs ∨ l = o) ∧ (Ev.ack l ∈ evs ∨ l = i) ∧
      (Ev.allSent l ∈ evs ∨ Ev.ack l ∈ evs) := by
  induction evs generalizing i o with
  | nil => simp [sendLoop] at h
  | cons e es ih =>
    cases e with
    | sendErr => simp [sendLoop] at h
    | refuse => simp [sendLoop] at h
    | timeout => simp [sendLoop] at h
    | allSent l =>
      simp only [sendLoop] at h
      by_cases hl : l = i
      · exact ⟨l, Or.inl (by simp), Or.inr hl, Or.inl (by simp)⟩
      · simp only [hl, ↓reduceIte] at h
        obtain ⟨k, hk1, hk2, _⟩ := ih i l h
        have h1 : Ev.allSent k ∈ Ev.allSent l :: es :=
          hk1.elim (List.mem_cons_of_mem _) (fun e => e ▸ List.mem_cons_self)
        exact ⟨k, Or.inl h1, hk2.imp_left (List.mem_cons_of_mem _), Or.inl h1⟩
    | ack n =>
      simp only [sendLoop] at h
      by_cases hn : o = n
      · exact ⟨n, Or.inr hn.symm, Or.inl (by simp), Or.inr (by simp)⟩
      · simp only [hn, ↓reduceIte] at h
        obtain ⟨k, hk1, hk2, _⟩ := ih n o h
        have h2 : Ev.ack k ∈ Ev.ack n :: es :=
          hk2.elim (List.mem_cons_of_mem _) (fun e => e ▸ List.mem_cons_self)
        exact ⟨k, hk1.imp_left (List.mem_cons_of_mem _), Or.inl h2, Or.inr h2⟩

theorem send_ok_imp (evs : List Ev) (h : send evs = .ok) :
    (∃ l, Ev.allSent l ∈ evs ∧ (l = 0 ∨ Ev.ack l ∈ evs)) ∨ Ev.ack 0 ∈ evs := by
  obtain ⟨l, h1, h2, h3⟩ := sendLoop_ok_gen evs 0 0 h
  rcases h1 with h1 | h1
  · left
    refine ⟨l, h1, ?_⟩
    rcases h2 with h2 | h2
    · right; exact h2
    · left; exact h2
  · subst h1
    rcases h2 with h2 | _
    · right; exact h2
    · rcases h3 with h3 | h3
      · left; exact ⟨0, h3, Or.inl rfl⟩
      · right; exact h3

theorem send_fails_on (evs₁ evs₂ : List Ev) (e : Ev)
    (he : e = .refuse ∨ e = .sendErr ∨ e = .timeout) (i o : Nat)
    (hpre : sendLoop i o evs₁ = .blocked) :
    sendLoop i o (evs₁ ++ e :: evs₂) = .error := by
  induction evs₁ generalizing i o with
  | nil => rcases he with rfl | rfl | rfl <;> simp [sendLoop]
  | cons a as ih =>
    cases a with
    | sendErr => simp [sendLoop] at hpre
    | refuse => simp [sendLoop] at hpre
    | timeout => simp [sendLoop] at hpre
    | allSent l =>
      simp only [sendLoop, List.cons_append] at hpre ⊢
      by_cases hl : l = i
      · simp [hl] at hpre
      · simp only [hl, ↓reduceIte] at hpre ⊢
        exact ih i l hpre
    | ack n =>
      simp only [sendLoop, List.cons_append] at hpre ⊢
      by_cases hn : o = n
      · simp [hn] at hpre
      · simp only [hn, ↓reduceIte] at hpre ⊢
        exact ih n o hpre

/-- The receiver has so far obtained the first `k` segments of ANY train of non-empty segments that
concatenates to `data` and ends with END; the acknowledgements that reached `Send` are among those it
emitted for them. Then success implies the receiver handed up the complete data. -/
theorem send_success_sound_train (data : Bytes) (segs : List Seg)
    (hcat : concatData segs = data) (hend : endsOk segs = true)
    (hne : ∀ s ∈ segs, 0 < s.data.length)
    (k : Nat) (evs : List Ev)
    (honest : ∀ n, Ev.ack n ∈ evs → RxOut.ack n ∈ (receive {} (segs.take k)).1)
    (sender : ∀ l, Ev.allSent l ∈ evs → l = data.length)
    (h : send evs = .ok) :
    (receive {} (segs.take k)).2 = some data := by
  have hne' : ∀ s ∈ segs.take k, 0 < s.data.length :=
    fun s hs => hne s (List.mem_of_mem_take hs)
  have hL : 0 < data.length := by
    cases segs with
    | nil => simp [endsOk] at hend
    | cons s ss =>
      have := hne s (by simp)
      rw [← hcat]; simp only [concatData, List.length_append]; omega
  have hackL : Ev.ack data.length ∈ evs := by
    rcases send_ok_imp evs h with ⟨l, hl, h0 | hal⟩ | h0
    · have := sender l hl; omega
    · rw [← sender l hl]; exact hal
    · have := receive_acks_pos _ {} 0 hne' (honest 0 h0)
      simp at this
  have hin := honest _ hackL
  by_cases hk : k < segs.length
  · have h1 := (receive_acks_bounds _ {} _ hin).2
    have h2 := concat_take_lt _ k hne hk
    rw [hcat] at h2
    have h0 : ({} : InT).buf.length = 0 := rfl
    rw [h0] at h1
    omega
  · rw [List.take_of_length_le (Nat.le_of_not_lt hk)]
    have := receive_ends segs {} rfl hend
    simpa [hcat] using this

theorem send_success_sound (data : Bytes) (m : Nat) (hm : 0 < m) (hd : data ≠ [])
    (k : Nat) (evs : List Ev)
    (honest : ∀ n, Ev.ack n ∈ evs →
      RxOut.ack n ∈ (receive {} ((segments true m data).take k)).1)
    (sender : ∀ l, Ev.allSent l ∈ evs → l = data.length)
    (h : send evs = .ok) :
    (receive {} ((segments true m data).take k)).2 = some data :=
  have hok := (segments_ok_iff true data m hm hd).mpr (.inl rfl)
  send_success_sound_train data _ hok.2.1 hok.2.2.2 (segments_nonempty true m hm data) k evs honest sender h

end Dtn7.Tcpcl.Lemmas
