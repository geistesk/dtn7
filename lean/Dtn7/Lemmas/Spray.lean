import Dtn7.Model.Spray

/-!
Lemmas for C18 (spray-and-wait copy budget). Two layers: the locked read-modify-write program is
linearisable (`SInv`, for any parameters with `atomicRF`), so a forwarding step's metadata is some
sequential run of its failure reports (`forward_md`); on top of that the per-step accounting, by the
cases of `choose` — a step that relays nothing leaves the metadata alone (`forward_no_relay`).
-/
namespace Dtn7.Spray.Lemmas

theorem length_erase_add_one {s : List Peer} {p : Peer} (h : p ∈ s) :
    (s.erase p).length + 1 = s.length := by
  have := List.length_erase_of_mem h
  have hpos : 0 < s.length := List.length_pos_of_mem h
  omega

/-- The defaults: the code /repo has (every switch of `Params` on). -/
abbrev fixed : Params := {}

theorem giveBack_fixed (a : Algo) (m : Meta) (p : Peer) (g : Nat) :
    giveBack fixed a m p g = if p ∈ m.sent then ⟨m.sent.erase p, m.remaining + g⟩ else m := by
  cases a <;> simp [giveBack]

theorem giveBack_mem {a : Algo} {m : Meta} {p : Peer} {g : Nat} (h : p ∈ m.sent) :
    giveBack fixed a m p g = ⟨m.sent.erase p, m.remaining + g⟩ := by
  rw [giveBack_fixed, if_pos h]

theorem giveBack_spray_mem {m : Meta} {p : Peer} {g : Nat} (h : p ∈ m.sent) :
    giveBack fixed .spray m p g = ⟨m.sent.erase p, m.remaining + g⟩ :=
  giveBack_mem h

theorem giveBack_not_mem {a : Algo} {m : Meta} {p : Peer} {g : Nat} (h : p ∉ m.sent) :
    giveBack fixed a m p g = m := by
  rw [giveBack_fixed, if_neg h]

/-- Spray-and-wait: a failure report moves one unit from `sent` to `remaining`. -/
theorem giveBack_conserves (a : Algo) (m : Meta) (p : Peer) :
    (giveBack fixed a m p 1).remaining + (giveBack fixed a m p 1).sent.length
      = m.remaining + m.sent.length := by
  rw [giveBack_fixed]
  split
  · next h => have := length_erase_add_one h; simp only; omega
  · rfl

theorem giveBack_remaining_ge (a : Algo) (m : Meta) (p : Peer) (g : Nat) :
    m.remaining ≤ (giveBack fixed a m p g).remaining := by
  rw [giveBack_fixed]; split <;> simp

theorem giveBack_sublist (a : Algo) (m : Meta) (p : Peer) (g : Nat) {l : List Peer}
    (h : l.Sublist m.sent) (hp : p ∉ l) : l.Sublist (giveBack fixed a m p g).sent := by
  rw [giveBack_fixed]; split
  · have := h.erase p
    rwa [List.erase_of_not_mem hp] at this
  · exact h

theorem giveBack_sent_subset (a : Algo) (m : Meta) (p : Peer) (g : Nat) :
    ∀ x ∈ (giveBack fixed a m p g).sent, x ∈ m.sent := by
  rw [giveBack_fixed]; split
  · intro x hx; exact List.mem_of_mem_erase hx
  · intro x hx; exact hx

theorem giveBackAll_none (P : Params) (a : Algo) (fs : List (Peer × Nat)) :
    giveBackAll P a none fs = none := by
  induction fs with
  | nil => rfl
  | cons f fs ih => simpa [giveBackAll, List.foldl_cons] using ih

theorem giveBackAll_cons (P : Params) (a : Algo) (md : Option Meta) (f : Peer × Nat)
    (fs : List (Peer × Nat)) :
    giveBackAll P a md (f :: fs) = giveBackAll P a (md.map (fun m => giveBack P a m f.1 f.2)) fs := rfl

theorem giveBackAll_append (P : Params) (a : Algo) (md : Option Meta) (fs gs : List (Peer × Nat)) :
    giveBackAll P a md (fs ++ gs) = giveBackAll P a (giveBackAll P a md fs) gs := by
  simp [giveBackAll, List.foldl_append]

theorem giveBackAll_some (P : Params) (a : Algo) (m : Meta) (fs : List (Peer × Nat)) :
    ∃ m', giveBackAll P a (some m) fs = some m' := by
  induction fs generalizing m with
  | nil => exact ⟨m, rfl⟩
  | cons f fs ih => rw [giveBackAll_cons]; exact ih _

theorem applyAll_none (P : Params) (a : Algo) (acts : List Action) :
    applyAll P a none acts = none := by
  induction acts with
  | nil => rfl
  | cons f fs ih => simpa [applyAll, List.foldl_cons] using ih

theorem applyAll_cons (P : Params) (a : Algo) (md : Option Meta) (act : Action) (acts : List Action) :
    applyAll P a md (act :: acts) = applyAll P a (md.map (fun m => act.apply P a m)) acts := rfl

theorem applyAll_append (P : Params) (a : Algo) (md : Option Meta) (fs gs : List Action) :
    applyAll P a md (fs ++ gs) = applyAll P a (applyAll P a md fs) gs := by
  simp [applyAll, List.foldl_append]

theorem applyAll_some (P : Params) (a : Algo) (m : Meta) (acts : List Action) :
    ∃ m', applyAll P a (some m) acts = some m' := by
  induction acts generalizing m with
  | nil => exact ⟨m, rfl⟩
  | cons f fs ih => rw [applyAll_cons]; exact ih _

/-- An invariant of `giveBack` steps is an invariant of any sequence of reports. -/
theorem giveBackAll_induct (a : Algo) (Q : Meta → Prop) (fs : List (Peer × Nat))
    (R : Peer × Nat → Prop) (hR : ∀ f ∈ fs, R f)
    (hstep : ∀ m f, Q m → R f → Q (giveBack fixed a m f.1 f.2))
    (m : Meta) (hm : Q m) : ∃ m', giveBackAll fixed a (some m) fs = some m' ∧ Q m' := by
  induction fs generalizing m with
  | nil => exact ⟨m, rfl, hm⟩
  | cons f fs ih =>
    rw [giveBackAll_cons]
    exact ih (fun g hg => hR g (List.mem_cons_of_mem _ hg)) _
      (hstep m f hm (hR f (List.mem_cons_self ..)))

/-- Sequential reports for distinct peers that are all in `sent`: every one gives its copies back. -/
theorem giveBackAll_exact (a : Algo) (fs : List (Peer × Nat)) (m : Meta)
    (hnd : (fs.map (·.1)).Nodup) (hin : ∀ f ∈ fs, f.1 ∈ m.sent) :
    ∃ m', giveBackAll fixed a (some m) fs = some m' ∧
      m'.remaining = m.remaining + (fs.map (·.2)).sum ∧
      m'.sent.length + fs.length = m.sent.length ∧
      m'.sent.Sublist m.sent := by
  induction fs generalizing m with
  | nil => exact ⟨m, rfl, by simp, by simp, List.Sublist.refl _⟩
  | cons f fs ih =>
    rw [giveBackAll_cons]
    have hf : f.1 ∈ m.sent := hin f (List.mem_cons_self ..)
    simp only [List.map_cons, List.nodup_cons] at hnd
    simp only [Option.map_some, giveBack_mem hf]
    have hin' : ∀ g ∈ fs, g.1 ∈ (⟨m.sent.erase f.1, m.remaining + f.2⟩ : Meta).sent := by
      intro g hg
      have hne : g.1 ≠ f.1 := fun e => hnd.1 (e ▸ List.mem_map_of_mem hg)
      exact (List.mem_erase_of_ne hne).mpr (hin g (List.mem_cons_of_mem _ hg))
    obtain ⟨m', h1, h2, h3, h5⟩ := ih _ hnd.2 hin'
    refine ⟨m', h1, ?_, ?_, h5.trans (List.erase_sublist ..)⟩
    · simp only [List.map_cons, List.sum_cons]; simp only at h2; omega
    · have := length_erase_add_one hf; simp only [List.length_cons]; simp only at h3; omega

theorem sprayPick_spec (cs : List Peer) (m : Meta) :
    (sprayPick cs m).2.sent = m.sent ++ (sprayPick cs m).1 ∧
    (sprayPick cs m).2.remaining + (sprayPick cs m).1.length = m.remaining ∧
    (1 ≤ m.remaining → 1 ≤ (sprayPick cs m).2.remaining) ∧
    (sprayPick cs m).1.Nodup ∧
    (∀ p ∈ (sprayPick cs m).1, p ∉ m.sent ∧ p ∈ cs) := by
  induction cs generalizing m with
  | nil => simp [sprayPick]
  | cons c cs ih =>
    unfold sprayPick
    split
    · simp
    · next h2 =>
      split
      · next hc =>
        obtain ⟨h1, h2', h3, h4, h5⟩ := ih m
        exact ⟨h1, h2', h3, h4, fun p hp => ⟨(h5 p hp).1, List.mem_cons_of_mem _ (h5 p hp).2⟩⟩
      · next hc =>
        obtain ⟨h1, h2', h3, h4, h5⟩ := ih ⟨m.sent ++ [c], m.remaining - 1⟩
        simp only at h1 h2' h3 h5 ⊢
        refine ⟨by rw [h1]; simp, by simp only [List.length_cons]; omega, fun _ => h3 (by omega), ?_, ?_⟩
        · refine List.nodup_cons.mpr ⟨fun hm => ?_, h4⟩
          exact (h5 c hm).1 (by simp)
        · intro p hp
          simp only [List.mem_cons] at hp
          rcases hp with hp | hp
          · subst hp; exact ⟨hc, List.mem_cons_self ..⟩
          · have := h5 p hp
            exact ⟨fun hm => this.1 (List.mem_append_left _ hm), List.mem_cons_of_mem _ this.2⟩

theorem map_set_same {α β} (f : α → β) (ts : List α) (i : Nat) (t' : α)
    (h : ∀ t, ts[i]? = some t → f t' = f t) : (ts.set i t').map f = ts.map f := by
  induction ts generalizing i with
  | nil => rfl
  | cons x xs ih =>
    cases i with
    | zero => simp [h x (by simp)]
    | succ i => simp only [List.set_cons_succ, List.map_cons]; rw [ih i (fun t ht => h t (by simpa using ht))]

theorem filter_map_set_same {α β} (p : α → Bool) (f : α → β) (ts : List α) (i : Nat) (t' : α)
    (h : ∀ t, ts[i]? = some t → f t' = f t ∧ p t' = p t) :
    ((ts.set i t').filter p).map f = (ts.filter p).map f := by
  induction ts generalizing i with
  | nil => rfl
  | cons x xs ih =>
    cases i with
    | zero =>
      obtain ⟨h1, h2⟩ := h x (by simp)
      simp only [List.set_cons_zero, List.filter_cons, h2]
      split <;> simp [h1]
    | succ i =>
      simp only [List.set_cons_succ, List.filter_cons]
      have := ih i (fun t ht => h t (by simpa using ht))
      split <;> simp [this]

theorem filter_map_set_new {α β} (p : α → Bool) (f : α → β) (ts : List α) (i : Nat) (t t' : α)
    (hi : ts[i]? = some t) (hp : p t = false) (hp' : p t' = true) :
    (((ts.set i t').filter p).map f).Perm (f t' :: (ts.filter p).map f) := by
  induction ts generalizing i with
  | nil => simp at hi
  | cons x xs ih =>
    cases i with
    | zero =>
      simp only [List.getElem?_cons_zero, Option.some.injEq] at hi
      subst hi
      simp [hp, hp']
    | succ i =>
      simp only [List.getElem?_cons_succ] at hi
      simp only [List.set_cons_succ, List.filter_cons]
      split
      · simp only [List.map_cons]
        exact ((ih i hi).cons (f x)).trans (List.Perm.swap ..)
      · exact ih i hi

theorem chained_append {P : Params} {a : Algo} {md0 : Option Meta} {l : List (Action × Meta)}
    {act : Action} {m : Meta} :
    Chained P a md0 (l ++ [(act, m)]) ↔
      Chained P a md0 l ∧ applyAll P a md0 (l.map (·.1)) = some m := by
  induction l generalizing md0 with
  | nil => simp [Chained, applyAll]
  | cons x xs ih =>
    obtain ⟨b, n⟩ := x
    simp only [List.cons_append, Chained, List.map_cons, applyAll_cons]
    constructor
    · rintro ⟨h1, h2⟩
      have := ih.mp h2
      exact ⟨⟨h1, this.1⟩, by rw [h1]; exact this.2⟩
    · rintro ⟨⟨h1, h2⟩, h3⟩
      refine ⟨h1, ih.mpr ⟨h2, ?_⟩⟩
      rw [h1] at h3; exact h3

/-- The lock program /repo has (`atomicRF = true`): the whole read-modify-write under the write lock. -/
abbrev AP : List Op := [.lock, .read, .write, .unlock]

theorem rfProgram_fixed : rfProgram fixed.atomicRF = AP := rfl

def key (t : Thread) : Action := t.act

/-- Invariant of every reachable state of the atomic program. `pc` is the position in
`AP = [lock, read, write, unlock]`: a thread holds the write lock exactly at `pc` 1..3 (`holder`), its
local copy is the shared metadata once it has read (`pc = 2`, `loc`), and it has written back once
`pc ≥ 3` — so the write-back log `order` is, up to order, the actions of those threads (`perm`; only if
there is metadata at all, since `write` does nothing without it), and replaying it gives the metadata
(`lin`, `chain`). -/
structure SInv (P : Params) (a : Algo) (md0 : Option Meta) (fs : List Action) (st : SState) : Prop where
  keys : st.2.map key = fs
  readers : st.1.readers = 0
  holder : ∀ (i : Nat) (t : Thread), st.2[i]? = some t → ((1 ≤ t.pc ∧ t.pc ≤ 3) ↔ st.1.writer = some i)
  loc : ∀ (i : Nat) (t : Thread), st.2[i]? = some t → t.pc = 2 → t.loc = st.1.md
  lin : st.1.md = applyAll P a md0 (st.1.order.map (·.1))
  chain : Chained P a md0 st.1.order
  sub : ∀ k ∈ st.1.order.map (·.1), k ∈ fs
  perm : md0.isSome → (st.1.order.map (·.1)).Perm ((st.2.filter (fun t => decide (3 ≤ t.pc))).map key)

theorem sinv_init (P : Params) (a : Algo) (md0 : Option Meta) (fs : List Action) :
    SInv P a md0 fs ({ md := md0 }, initThreads fs) := by
  refine ⟨?_, rfl, ?_, ?_, rfl, trivial, by simp, ?_⟩
  · simp [initThreads, key, Function.comp_def]
  · intro i t ht
    simp only [initThreads, List.getElem?_map, Option.map_eq_some_iff] at ht
    obtain ⟨f, _, rfl⟩ := ht
    simp
  · intro i t ht h2
    simp only [initThreads, List.getElem?_map, Option.map_eq_some_iff] at ht
    obtain ⟨f, _, rfl⟩ := ht
    simp at h2
  · intro _
    have : (initThreads fs).filter (fun t => decide (3 ≤ t.pc)) = [] := by
      apply List.filter_eq_nil_iff.mpr
      intro t ht
      simp only [initThreads, List.mem_map] at ht
      obtain ⟨f, _, rfl⟩ := ht
      simp
    simp [this]

theorem getElem?_set_eq' {α} (ts : List α) (i j : Nat) (t' t : α) (hi : ts[i]? = some t) :
    (ts.set i t')[j]? = if i = j then some t' else ts[j]? := by
  have hlt : i < ts.length := by
    rcases Nat.lt_or_ge i ts.length with h | h
    · exact h
    · rw [List.getElem?_eq_none h] at hi; cases hi
  rw [List.getElem?_set]
  split
  · simp
  · rfl

/-- A micro-step that leaves the metadata, the write-back log and the reader count alone and does not
move the thread across "has written" (`pc ≥ 3`, which only matters if there is metadata at all): only
the lock clauses have to be re-established. -/
theorem SInv.frame {P : Params} {a : Algo} {md0 : Option Meta} {fs : List Action} {st : SState}
    (h : SInv P a md0 fs st) {i : Nat} {t t' : Thread} {sh' : Shared} (hti : st.2[i]? = some t)
    (hact : t'.act = t.act) (hmd : sh'.md = st.1.md) (hord : sh'.order = st.1.order)
    (hrd : sh'.readers = st.1.readers) (hpc : md0.isSome → decide (3 ≤ t'.pc) = decide (3 ≤ t.pc))
    (hself : ((1 ≤ t'.pc ∧ t'.pc ≤ 3) ↔ sh'.writer = some i) ∧ (t'.pc = 2 → t'.loc = sh'.md))
    (hoth : ∀ j u, i ≠ j → st.2[j]? = some u →
      ((1 ≤ u.pc ∧ u.pc ≤ 3) ↔ sh'.writer = some j) ∧ (u.pc = 2 → u.loc = sh'.md)) :
    SInv P a md0 fs (sh', st.2.set i t') := by
  have hset : ∀ j, (st.2.set i t')[j]? = if i = j then some t' else st.2[j]? :=
    fun j => getElem?_set_eq' st.2 i j t' t hti
  refine ⟨?_, by rw [hrd]; exact h.readers, ?_, ?_, by rw [hmd, hord]; exact h.lin,
    by rw [hord]; exact h.chain, by rw [hord]; exact h.sub, ?_⟩
  · rw [map_set_same key st.2 i t' (fun u hu => by rw [hti] at hu; cases hu; exact hact)]
    exact h.keys
  · intro j u hu
    rw [hset] at hu
    split at hu
    · next hij => cases hu; subst hij; exact hself.1
    · next hij => exact (hoth j u hij hu).1
  · intro j u hu
    rw [hset] at hu
    split at hu
    · cases hu; exact hself.2
    · next hij => exact (hoth j u hij hu).2
  · intro hs
    rw [hord, filter_map_set_same _ key st.2 i _ (fun u hu => by
      rw [hti] at hu; cases hu; exact ⟨hact, hpc hs⟩)]
    exact h.perm hs

theorem stepThread_inv (P : Params) (a : Algo) (md0 : Option Meta) (fs : List Action) (st : SState)
    (h : SInv P a md0 fs st) (i : Nat) : SInv P a md0 fs (stepThread P a AP st i) := by
  unfold stepThread
  split
  · exact h
  · next t hti =>
    -- the program counter selects the micro-step
    by_cases hpc4 : 4 ≤ t.pc
    · have : AP[t.pc]? = none := by
        apply List.getElem?_eq_none; simpa using hpc4
      simp only [this]; exact h
    have hpcs : t.pc = 0 ∨ t.pc = 1 ∨ t.pc = 2 ∨ t.pc = 3 := by omega
    -- who holds the lock, seen from another thread
    have hother : ∀ j u, i ≠ j → st.2[j]? = some u → st.1.writer = some i → ¬ (1 ≤ u.pc ∧ u.pc ≤ 3) := by
      intro j u hij hu hw hp
      have := (h.holder j u hu).mp hp
      rw [hw] at this
      exact hij (Option.some.inj this)
    rcases hpcs with h0 | h1 | h2 | h3
    · -- lock
      have hop : AP[t.pc]? = some .lock := by rw [h0]; rfl
      simp only [hop]
      by_cases hen : (st.1.writer.isNone && st.1.readers == 0) = true
      · have hexec : exec P a i .lock st.1 t = some ({ st.1 with writer := some i }, t) := by
          simp [exec, hen]
        simp only [hexec]
        simp only [Bool.and_eq_true, Option.isNone_iff_eq_none, beq_iff_eq] at hen
        refine h.frame hti rfl rfl rfl rfl (fun _ => by simp [h0]) ⟨by simp [h0], by simp [h0]⟩ ?_
        intro j u hij hu
        have hn : ¬ (1 ≤ u.pc ∧ u.pc ≤ 3) := fun hp => by
          have := (h.holder j u hu).mp hp; rw [hen.1] at this; cases this
        exact ⟨⟨fun hp => absurd hp hn, fun hw => absurd (Option.some.inj hw) hij⟩,
          fun hp => absurd ⟨by omega, by omega⟩ hn⟩
      · have hexec : exec P a i .lock st.1 t = none := by simp [exec, hen]
        simp only [hexec]; exact h
    · -- read
      have hop : AP[t.pc]? = some .read := by rw [h1]; rfl
      simp only [hop, exec]
      have hw : st.1.writer = some i := (h.holder i t hti).mp (by omega)
      exact h.frame hti rfl rfl rfl rfl (fun _ => by simp [h1]) ⟨by simp [h1, hw], fun _ => rfl⟩
        (fun j u _ hu => ⟨h.holder j u hu, h.loc j u hu⟩)
    · -- write
      have hop : AP[t.pc]? = some .write := by rw [h2]; rfl
      simp only [hop, exec]
      have hw : st.1.writer = some i := (h.holder i t hti).mp (by omega)
      have hloc : t.loc = st.1.md := h.loc i t hti h2
      cases hmd : t.loc with
      | none =>
        simp only
        -- the thread read "no metadata"; had there been metadata initially the shared state would
        -- still hold some (`lin`), so there was none
        have hnone : ¬ md0.isSome := by
          intro hs
          obtain ⟨m0, hm0⟩ := Option.isSome_iff_exists.mp hs
          obtain ⟨m', hm'⟩ := applyAll_some P a m0 (st.1.order.map (·.1))
          have := h.lin
          rw [hm0, hm', ← hloc, hmd] at this
          cases this
        exact h.frame hti rfl rfl rfl rfl (fun hs => absurd hs hnone) ⟨by simp [h2, hw], by simp [h2]⟩
          (fun j u _ hu => ⟨h.holder j u hu, h.loc j u hu⟩)
      | some m =>
        simp only
        have hothers : ∀ j u, i ≠ j → st.2[j]? = some u → u.pc ≠ 2 :=
          fun j u hij hu hp => hother j u hij hu hw (by omega)
        have hset : ∀ t' j, (st.2.set i t')[j]? = if i = j then some t' else st.2[j]? :=
          fun t' j => getElem?_set_eq' st.2 i j t' t hti
        refine ⟨?_, h.readers, ?_, ?_, ?_, ?_, ?_, ?_⟩
        · rw [map_set_same key st.2 i _ (fun u hu => by rw [hti] at hu; cases hu; rfl)]
          exact h.keys
        · intro j u hu
          rw [hset] at hu
          split at hu
          · next hij => cases hu; subst hij; simp [hw, h2]
          · exact h.holder j u hu
        · intro j u hu hp2
          rw [hset] at hu
          split at hu
          · cases hu; simp [h2] at hp2
          · next hij => exact absurd hp2 (hothers j u hij hu)
        · simp only [List.map_append, List.map_cons, List.map_nil]
          rw [applyAll_append, ← h.lin, ← hloc, hmd]
          rfl
        · simp only
          refine chained_append.mpr ⟨h.chain, ?_⟩
          rw [← h.lin, ← hloc, hmd]
        · intro k hk
          simp only [List.map_append, List.map_cons, List.map_nil, List.mem_append, List.mem_singleton] at hk
          rcases hk with hk | hk
          · exact h.sub k hk
          · subst hk
            have : key t ∈ st.2.map key := List.mem_map_of_mem (List.mem_of_getElem? hti)
            rw [h.keys] at this; exact this
        · intro hs
          have hp := filter_map_set_new (fun t => decide (3 ≤ t.pc)) key st.2 i t
            { t with pc := t.pc + 1 } hti (by simp [h2]) (by simp [h2])
          simp only [List.map_append, List.map_cons, List.map_nil]
          refine (List.perm_append_comm.trans ?_).trans hp.symm
          simp only [List.singleton_append]
          exact (h.perm hs).cons _
    · -- unlock
      have hop : AP[t.pc]? = some .unlock := by rw [h3]; rfl
      simp only [hop, exec]
      have hw : st.1.writer = some i := (h.holder i t hti).mp (by omega)
      refine h.frame hti rfl rfl rfl rfl (fun _ => by simp [h3]) ⟨by simp [h3], by simp [h3]⟩ ?_
      intro j u hij hu
      have hn := hother j u hij hu hw
      exact ⟨⟨fun hp => absurd hp hn, fun hw' => by cases hw'⟩, fun hp => absurd ⟨by omega, by omega⟩ hn⟩

theorem runSched_inv (P : Params) (a : Algo) (md0 : Option Meta) (fs : List Action) (σ : List Nat)
    (st : SState) (h : SInv P a md0 fs st) : SInv P a md0 fs (runSched P a AP st σ) := by
  induction σ generalizing st with
  | nil => exact h
  | cons i σ ih => exact ih _ (stepThread_inv P a md0 fs st h i)

theorem concurrentUpdates_inv (P : Params) (hP : P.atomicRF = true) (a : Algo) (md0 : Option Meta)
    (fs : List Action) (σ : List Nat) : SInv P a md0 fs (concurrentUpdates P a md0 fs σ) := by
  have h := runSched_inv P a md0 fs σ _ (sinv_init P a md0 fs)
  simpa only [concurrentUpdates, hP, rfProgram, if_true] using h

/-- Whatever the schedule of concurrent `SenderForBundle` / `ReportFailure` calls: the metadata
afterwards is the result of applying some of the updates one after the other (linearizability), and
if all goroutines returned, all of them. -/
theorem updates_linearizable (P : Params) (hP : P.atomicRF = true) (a : Algo) (md0 : Option Meta) (acts : List Action) (σ : List Nat) :
    ∃ order : List (Action × Meta),
      (concurrentUpdates P a md0 acts σ).1.md = applyAll P a md0 (order.map (·.1)) ∧
      Chained P a md0 order ∧
      (∀ k ∈ order.map (·.1), k ∈ acts) ∧
      (allDone AP (concurrentUpdates P a md0 acts σ).2 = true → md0.isSome →
        (order.map (·.1)).Perm acts) := by
  have h := concurrentUpdates_inv P hP a md0 acts σ
  refine ⟨_, h.lin, h.chain, h.sub, fun hd hs => ?_⟩
  have hall : (concurrentUpdates P a md0 acts σ).2.filter (fun t => decide (3 ≤ t.pc))
      = (concurrentUpdates P a md0 acts σ).2 := by
    apply List.filter_eq_self.mpr
    intro t ht
    have := List.all_eq_true.mp hd t ht
    simp only [AP, List.length_cons, List.length_nil, beq_iff_eq] at this
    simp [this]
  have := h.perm hs
  rw [hall, h.keys] at this
  exact this

theorem applyAll_ofReports (P : Params) (a : Algo) (md : Option Meta) (ps : List (Peer × Nat)) :
    applyAll P a md (ps.map Action.ofReport) = giveBackAll P a md ps := by
  simp only [applyAll, giveBackAll, List.foldl_map]
  rfl

theorem report?_ofReport (f : Peer × Nat) : (Action.ofReport f).report? = some f := rfl

theorem ofReport_injective {f g : Peer × Nat} (h : Action.ofReport f = Action.ofReport g) : f = g := by
  have := congrArg Action.report? h
  simpa [report?_ofReport] using this

theorem filterMap_report?_map (ps : List (Peer × Nat)) :
    (ps.map Action.ofReport).filterMap Action.report? = ps := by
  induction ps with
  | nil => rfl
  | cons f fs ih => simp [report?_ofReport, ih]

theorem eq_map_of_all_reports (order : List Action) (fs : List (Peer × Nat))
    (h : ∀ k ∈ order, k ∈ fs.map Action.ofReport) :
    order = (order.filterMap Action.report?).map Action.ofReport := by
  induction order with
  | nil => rfl
  | cons k ks ih =>
    obtain ⟨f, _, rfl⟩ := List.mem_map.mp (h k (List.mem_cons_self ..))
    simp only [List.filterMap_cons, report?_ofReport, List.map_cons]
    congr 1
    exact ih (fun k hk => h k (List.mem_cons_of_mem _ hk))

/-- Whatever the schedule: the metadata after the failure reports is the result of applying some of
the reports one after the other (linearizability), and if all goroutines returned, all of them. -/
theorem reportFailures_linearizable (P : Params) (hP : P.atomicRF = true) (a : Algo) (md0 : Option Meta) (fs : List (Peer × Nat))
    (σ : List Nat) :
    ∃ order : List (Peer × Nat),
      (reportFailures P a md0 fs σ).1.md = giveBackAll P a md0 order ∧
      (∀ k ∈ order, k ∈ fs) ∧
      (allDone AP (reportFailures P a md0 fs σ).2 = true → md0.isSome → order.Perm fs) := by
  obtain ⟨order', h1, _, h2, h3⟩ := updates_linearizable P hP a md0 (fs.map Action.ofReport) σ
  generalize order'.map (·.1) = order at h1 h2 h3
  have heq := eq_map_of_all_reports order fs h2
  refine ⟨order.filterMap Action.report?, ?_, ?_, ?_⟩
  · show (concurrentUpdates P a md0 (fs.map Action.ofReport) σ).1.md = _
    rw [h1, ← applyAll_ofReports, ← heq]
  · intro k hk
    have : Action.ofReport k ∈ order := by rw [heq]; exact List.mem_map_of_mem hk
    obtain ⟨g, hg, hgk⟩ := List.mem_map.mp (h2 _ this)
    rw [← ofReport_injective hgk]; exact hg
  · intro hd hs
    have := (h3 hd hs).filterMap Action.report?
    rw [filterMap_report?_map] at this
    exact this

/-- The updates spray-and-wait performs: `SenderForBundle` with any sender list, `ReportFailure`
(one copy) for any peer. -/
def SprayAction : Action → Prop
  | .giveBack _ g => g = 1
  | .pick _ => True

theorem apply_spray_conserves (m : Meta) (act : Action) (h : SprayAction act) :
    (act.apply fixed .spray m).remaining + (act.apply fixed .spray m).sent.length
      = m.remaining + m.sent.length ∧
    (1 ≤ m.remaining → 1 ≤ (act.apply fixed .spray m).remaining) := by
  cases act with
  | giveBack p g =>
    simp only [SprayAction] at h
    subst h
    exact ⟨giveBack_conserves .spray m p, fun h1 => Nat.le_trans h1 (giveBack_remaining_ge .spray m p 1)⟩
  | pick cs =>
    simp only [Action.apply, pickMeta]
    split
    · exact ⟨rfl, id⟩
    · obtain ⟨p1, p2, p3, _, _⟩ := sprayPick_spec cs m
      refine ⟨?_, p3⟩
      rw [p1, List.length_append]; omega

theorem applyAll_spray_conserves (acts : List Action) (h : ∀ k ∈ acts, SprayAction k) (m : Meta) :
    ∃ m', applyAll fixed .spray (some m) acts = some m' ∧
      m'.remaining + m'.sent.length = m.remaining + m.sent.length ∧
      (1 ≤ m.remaining → 1 ≤ m'.remaining) := by
  induction acts generalizing m with
  | nil => exact ⟨m, rfl, rfl, id⟩
  | cons k ks ih =>
    rw [applyAll_cons]
    obtain ⟨c1, c2⟩ := apply_spray_conserves m k (h k (List.mem_cons_self ..))
    obtain ⟨m', e1, e2, e3⟩ := ih (fun x hx => h x (List.mem_cons_of_mem _ hx)) (k.apply fixed .spray m)
    exact ⟨m', e1, by rw [e2, c1], fun h1 => e3 (c2 h1)⟩

/-- Any number of concurrent `SenderForBundle` and `ReportFailure` calls for one bundle, any
schedule, finished or not: copies kept + peers recorded in `sent` stays what it was, and the last
copy is never given away. -/
theorem spray_concurrent_conserves (acts : List Action) (h : ∀ k ∈ acts, SprayAction k) (m : Meta)
    (σ : List Nat) :
    ∃ m', (concurrentUpdates fixed .spray (some m) acts σ).1.md = some m' ∧
      m'.remaining + m'.sent.length = m.remaining + m.sent.length ∧
      (1 ≤ m.remaining → 1 ≤ m'.remaining) := by
  obtain ⟨order, h1, _, h2, _⟩ := updates_linearizable fixed rfl .spray (some m) acts σ
  obtain ⟨m', e1, e2, e3⟩ := applyAll_spray_conserves (order.map (·.1)) (fun k hk => h k (h2 k hk)) m
  exact ⟨m', by rw [h1, e1], e2, e3⟩

def relayedPeers (dest : Peer) (log : List Send) : List Peer := (relayed dest log).map (·.peer)

theorem relayed_append (d : Peer) (l₁ l₂ : List Send) :
    relayed d (l₁ ++ l₂) = relayed d l₁ ++ relayed d l₂ := by
  simp [relayed]

theorem relayedPeers_append (d : Peer) (l₁ l₂ : List Send) :
    relayedPeers d (l₁ ++ l₂) = relayedPeers d l₁ ++ relayedPeers d l₂ := by
  simp [relayedPeers, relayed_append]

theorem relayedPeers_length (d : Peer) (l : List Send) :
    (relayedPeers d l).length = (relayed d l).length := by simp [relayedPeers]

theorem dest_not_mem_relayedPeers (d : Peer) (l : List Send) : d ∉ relayedPeers d l := by
  simp only [relayedPeers, relayed, List.mem_map, List.mem_filter, not_exists, not_and]
  intro x hx hxd
  simp only [Bool.and_eq_true, bne_iff_ne] at hx
  exact hx.2.2 hxd

theorem forward_not_stored (P : Params) (s : Node) (e : Env) (h : s.stored = false) :
    forward P s e = s := by
  simp [forward, h]

theorem forward_stored (P : Params) (s : Node) (e : Env) (h : s.stored = true) :
    forward P s e =
      { s with md := (forwardReports P s e).1.md, log := s.log ++ mkSends s e (choose s e).1,
               stored := !((mkSends s e (choose s e).1).any (·.ok) && s.conn.contains s.dest) } := by
  simp [forward, h]

theorem forward_md (s : Node) (e : Env) (h : s.stored = true) :
    ∃ order : List (Peer × Nat),
      (forward fixed s e).md = giveBackAll fixed s.algo (choose s e).2 order ∧
      (∀ k ∈ order, k ∈ mkReports s.algo (mkSends s e (choose s e).1)) ∧
      (forwardComplete fixed s e = true → (choose s e).2.isSome →
        order.Perm (mkReports s.algo (mkSends s e (choose s e).1))) := by
  rw [forward_stored fixed s e h]
  exact reportFailures_linearizable fixed rfl s.algo (choose s e).2 _ e.sched

theorem mem_mkReports_spray {sends : List Send} {k : Peer × Nat} (h : k ∈ mkReports .spray sends) :
    k.2 = 1 ∧ ∃ x ∈ sends, x.ok = false ∧ x.peer = k.1 := by
  simp only [mkReports, List.mem_filterMap, List.mem_filter, Option.some.injEq] at h
  obtain ⟨x, ⟨hx, hok⟩, rfl⟩ := h
  exact ⟨rfl, x, hx, by simpa using hok, rfl⟩

theorem mkSends_ok (s : Node) (e : Env) (cs : List Choice) {x : Send} (h : x ∈ mkSends s e cs) :
    x.ok = !(e.fails.contains x.peer) := by
  simp only [mkSends, List.mem_map] at h
  obtain ⟨c, _, rfl⟩ := h
  rfl

theorem mkSends_peers (s : Node) (e : Env) (cs : List Choice) :
    (mkSends s e cs).map (·.peer) = cs.map (·.peer) := by
  simp [mkSends, Function.comp_def]

theorem mem_mkSends {s : Node} {e : Env} {cs : List Choice} {x : Send} (h : x ∈ mkSends s e cs) :
    ∃ c ∈ cs, c.peer = x.peer := by
  have : x.peer ∈ (mkSends s e cs).map (·.peer) := List.mem_map_of_mem h
  rw [mkSends_peers] at this
  exact List.mem_map.mp this

theorem giveBackAll_noop (a : Algo) (m : Meta) (order : List (Peer × Nat))
    (h : ∀ k ∈ order, k.1 ∉ m.sent) : giveBackAll fixed a (some m) order = some m := by
  obtain ⟨m', hm', hq⟩ := giveBackAll_induct a (fun x => x = m) order (fun k => k.1 ∉ m.sent) h
    (fun x f hx hf => by subst hx; exact giveBack_not_mem hf) m rfl
  rw [hm', hq]

theorem mem_mkReports_peer {a : Algo} {sends : List Send} {k : Peer × Nat} (h : k ∈ mkReports a sends) :
    ∃ x ∈ sends, x.ok = false ∧ x.peer = k.1 := by
  simp only [mkReports, List.mem_filterMap, List.mem_filter] at h
  obtain ⟨x, ⟨hx, hok⟩, hk⟩ := h
  refine ⟨x, hx, by simpa using hok, ?_⟩
  cases a with
  | spray => simp only [Option.some.injEq] at hk; rw [← hk]
  | binary =>
    simp only [Option.map_eq_some_iff] at hk
    obtain ⟨_, _, rfl⟩ := hk; rfl

theorem senderForBundle_lt {a : Algo} {cs : List Peer} {m : Meta} (h : m.remaining < 2) :
    senderForBundle a cs (some m) = ([], some m) := by
  simp only [senderForBundle, h, if_true]

theorem senderForBundle_spray {cs : List Peer} {m : Meta} (h : ¬ m.remaining < 2) :
    senderForBundle .spray cs (some m) =
      ((sprayPick cs m).1.map (fun p => ⟨p, none⟩), some (sprayPick cs m).2) := by
  simp only [senderForBundle, h, if_false]

/-- without metadata: direct delivery, or nobody -/
theorem choose_none (s : Node) (e : Env) (hm : s.md = none) :
    choose s e = ([⟨s.dest, none⟩], none) ∨ choose s e = ([], none) := by
  unfold choose
  split
  · exact Or.inl (by rw [hm])
  · exact Or.inr (by rw [hm]; rfl)

/-- with metadata `m`: direct delivery, or what the algorithm picks among the connected senders -/
theorem choose_cases (s : Node) (e : Env) {m : Meta} (hm : s.md = some m) :
    (s.conn.contains s.dest = true ∧ choose s e = ([⟨s.dest, none⟩], some m)) ∨
    (¬ s.conn.contains s.dest = true ∧
      choose s e = senderForBundle s.algo (e.order.filter (fun p => s.conn.contains p)) (some m)) := by
  unfold choose
  by_cases hdir : s.conn.contains s.dest = true
  · exact Or.inl ⟨hdir, by rw [if_pos hdir, hm]⟩
  · exact Or.inr ⟨hdir, by rw [if_neg hdir, hm]⟩

/-- A forwarding step all of whose transmissions go to the destination (direct delivery, nobody
eligible, fewer than two copies) leaves the metadata alone, whatever fails and whatever the schedule:
the destination is not in `sent`, so no report gives a copy back. -/
theorem forward_no_relay (s : Node) (e : Env) (hst : s.stored = true) {m : Meta}
    (hd : s.dest ∉ m.sent) {cs : List Choice} (hch : choose s e = (cs, some m))
    (hall : ∀ c ∈ cs, c.peer = s.dest) :
    (forward fixed s e).md = some m ∧ ∀ x ∈ mkSends s e (choose s e).1, x.peer = s.dest := by
  have hsends : ∀ x ∈ mkSends s e (choose s e).1, x.peer = s.dest := by
    intro x hx
    rw [hch] at hx
    obtain ⟨c, hc, hcp⟩ := mem_mkSends hx
    rw [← hcp]; exact hall c hc
  obtain ⟨order, hmd, hsub, _⟩ := forward_md s e hst
  refine ⟨?_, hsends⟩
  rw [hmd, hch]
  refine giveBackAll_noop _ m order (fun k hk => ?_)
  obtain ⟨x, hx, _, hxp⟩ := mem_mkReports_peer (hsub k hk)
  rw [← hxp, hsends x hx]; exact hd

theorem relayed_of_all_dest {d : Peer} {sends : List Send} (h : ∀ x ∈ sends, x.peer = d) :
    relayed d sends = [] := by
  apply List.filter_eq_nil_iff.mpr
  intro x hx
  simp [h x hx]

/-- Invariant of an originated bundle under spray-and-wait (any schedules, complete or not). -/
structure SprayInv (s : Node) : Prop where
  budget : (relayed s.dest s.log).length ≤ s.l - 1
  md : ∀ m, s.md = some m →
    m.remaining + m.sent.length = s.l ∧ (relayedPeers s.dest s.log).Sublist m.sent ∧
    (1 ≤ s.l → 1 ≤ m.remaining)

theorem budget_of_md {l : Nat} {d : Peer} {log : List Send} {m : Meta}
    (h1 : m.remaining + m.sent.length = l) (h2 : (relayedPeers d log).Sublist m.sent)
    (h3 : 1 ≤ l → 1 ≤ m.remaining) : (relayed d log).length ≤ l - 1 := by
  have := h2.length_le
  rw [relayedPeers_length] at this
  omega

theorem filter_map_sublist {α β} (q : α → Bool) (f : α → β) (l : List α) :
    ((l.filter q).map f).Sublist (l.map f) :=
  (List.filter_sublist (l := l) (p := q)).map f

/-- The metadata clauses of `SprayInv`, for a log and a metadata value. -/
def MdOk (l : Nat) (d : Peer) (log : List Send) (m : Meta) : Prop :=
  m.remaining + m.sent.length = l ∧ (relayedPeers d log).Sublist m.sent ∧ (1 ≤ l → 1 ≤ m.remaining)

/-- Failure reports of one copy each, for peers that are not among the successfully relayed ones, keep
the metadata clauses. -/
theorem giveBackAll_mdOk {a : Algo} {l : Nat} {d : Peer} {log : List Send} {m1 : Meta}
    (h : MdOk l d log m1) (order : List (Peer × Nat)) (hone : ∀ k ∈ order, k.2 = 1)
    (hnot : ∀ k ∈ order, k.1 ∉ relayedPeers d log) :
    ∀ m, giveBackAll fixed a (some m1) order = some m → MdOk l d log m := by
  intro m hm
  obtain ⟨m', hm', hq⟩ := giveBackAll_induct a (MdOk l d log) order
    (fun k => k.2 = 1 ∧ k.1 ∉ relayedPeers d log) (fun k hk => ⟨hone k hk, hnot k hk⟩)
    (fun m f ⟨q1, q2, q3⟩ ⟨r1, r2⟩ => by
      refine ⟨?_, giveBack_sublist _ _ _ _ q2 r2, fun hl => ?_⟩
      · rw [r1, giveBack_conserves]; exact q1
      · exact Nat.le_trans (q3 hl) (giveBack_remaining_ge _ _ _ _))
    m1 h
  rw [hm'] at hm; cases hm; exact hq

theorem forward_sprayInv (s : Node) (e : Env) (ha : s.algo = .spray) (h : SprayInv s) :
    SprayInv (forward fixed s e) := by
  cases hst : s.stored with
  | false => rw [forward_not_stored _ _ _ hst]; exact h
  | true =>
  obtain ⟨order, hmd, hsub, _⟩ := forward_md s e hst
  -- reduce to: the metadata clauses hold for the new log and every metadata value reachable by reports
  suffices hkey :
      (relayed s.dest (s.log ++ mkSends s e (choose s e).1)).length ≤ s.l - 1 ∧
      ∀ m, giveBackAll fixed s.algo (choose s e).2 order = some m →
        MdOk s.l s.dest (s.log ++ mkSends s e (choose s e).1) m by
    rw [forward_stored fixed s e hst]
    exact ⟨hkey.1, fun m hm => hkey.2 m (by rw [forward_stored fixed s e hst] at hmd; rw [← hmd]; exact hm)⟩
  -- the reports concern failed sends of this step with one copy each
  have hrep : ∀ k ∈ order, k.2 = 1 ∧ ∃ x ∈ mkSends s e (choose s e).1, x.ok = false ∧ x.peer = k.1 := by
    intro k hk; have := hsub k hk; rw [ha] at this; exact mem_mkReports_spray this
  -- a step all of whose transmissions go to the destination relays nothing
  have quiet : ∀ cs md, choose s e = (cs, md) → (∀ c ∈ cs, c.peer = s.dest) →
      (relayed s.dest (s.log ++ mkSends s e (choose s e).1)).length ≤ s.l - 1 ∧
      (∀ m0, MdOk s.l s.dest s.log m0 → ∀ m, giveBackAll fixed s.algo (some m0) order = some m →
        MdOk s.l s.dest (s.log ++ mkSends s e (choose s e).1) m) := by
    intro cs md hch hcs
    have hall : ∀ x ∈ mkSends s e (choose s e).1, x.peer = s.dest := by
      intro x hx
      rw [hch] at hx
      obtain ⟨c, hc, hcp⟩ := mem_mkSends hx
      rw [← hcp]; exact hcs c hc
    have hrel := relayed_of_all_dest hall
    have hrelp : relayedPeers s.dest (s.log ++ mkSends s e (choose s e).1) = relayedPeers s.dest s.log := by
      simp [relayedPeers, relayed_append, hrel]
    refine ⟨by rw [relayed_append, hrel]; simpa using h.budget, fun m0 h0 => ?_⟩
    unfold MdOk at h0 ⊢
    rw [hrelp]
    refine giveBackAll_mdOk h0 order (fun k hk => (hrep k hk).1) (fun k hk => ?_)
    obtain ⟨_, x, hx, _, hxp⟩ := hrep k hk
    rw [← hxp, hall x hx]
    exact dest_not_mem_relayedPeers _ _
  cases hmd0 : s.md with
  | none =>
    rcases choose_none s e hmd0 with hc | hc
    · exact ⟨(quiet _ _ hc (by simp)).1, fun m hm => by rw [hc, giveBackAll_none] at hm; cases hm⟩
    · exact ⟨(quiet _ _ hc (by simp)).1, fun m hm => by rw [hc, giveBackAll_none] at hm; cases hm⟩
  | some m0 =>
    have h0 : MdOk s.l s.dest s.log m0 := h.md m0 hmd0
    have ⟨c1, c2, c3⟩ := h0
    have viaQuiet : ∀ cs, choose s e = (cs, some m0) → (∀ c ∈ cs, c.peer = s.dest) →
        (relayed s.dest (s.log ++ mkSends s e (choose s e).1)).length ≤ s.l - 1 ∧
        ∀ m, giveBackAll fixed s.algo (choose s e).2 order = some m →
          MdOk s.l s.dest (s.log ++ mkSends s e (choose s e).1) m := by
      intro cs hch hall
      obtain ⟨q1, q2⟩ := quiet _ _ hch hall
      exact ⟨q1, fun m hm => q2 m0 h0 m (by rw [hch] at hm; exact hm)⟩
    rcases choose_cases s e hmd0 with ⟨_, hch⟩ | ⟨hdir, hch⟩
    · exact viaQuiet _ hch (by simp)
    · rw [ha] at hch
      by_cases hlt : m0.remaining < 2
      · exact viaQuiet _ (hch.trans (senderForBundle_lt hlt)) (by simp)
      · have hch' := hch.trans (senderForBundle_spray hlt)
        obtain ⟨p1, p2, p3, _, p5⟩ := sprayPick_spec (e.order.filter (fun p => s.conn.contains p)) m0
        generalize sprayPick (e.order.filter (fun p => s.conn.contains p)) m0 = r at hch' p1 p2 p3 p5
        have hpeers : (mkSends s e (choose s e).1).map (·.peer) = r.1 := by
          rw [mkSends_peers, hch']; simp [Function.comp_def]
        -- clauses for the metadata written by SenderForBundle
        have hr2 : MdOk s.l s.dest (s.log ++ mkSends s e (choose s e).1) r.2 := by
          refine ⟨by rw [p1, List.length_append]; omega, ?_, fun hl => p3 (c3 hl)⟩
          rw [relayedPeers_append, p1]
          refine List.Sublist.append c2 ?_
          rw [← hpeers]
          exact filter_map_sublist _ _ _
        have hall : ∀ m, giveBackAll fixed s.algo (choose s e).2 order = some m →
            MdOk s.l s.dest (s.log ++ mkSends s e (choose s e).1) m := by
          intro m hm
          rw [hch'] at hm
          refine giveBackAll_mdOk hr2 order (fun k hk => (hrep k hk).1) (fun k hk => ?_) m hm
          obtain ⟨_, x, hx, hxok, hxp⟩ := hrep k hk
          rw [relayedPeers_append]
          intro hmem
          rcases List.mem_append.mp hmem with hold | hnew
          · -- a peer picked now was not in `sent`, hence not relayed before
            have : x.peer ∈ r.1 := by rw [← hpeers]; exact List.mem_map_of_mem hx
            rw [hxp] at this
            exact (p5 k.1 this).1 (c2.subset hold)
          · -- its send failed in this step, so it is not among this step's successful relays
            simp only [relayedPeers, relayed, List.mem_map, List.mem_filter] at hnew
            obtain ⟨y, ⟨hy, hyok⟩, hyp⟩ := hnew
            have h1 := mkSends_ok s e _ hx
            have h2 := mkSends_ok s e _ hy
            rw [hxp] at h1; rw [hyp] at h2
            simp only [Bool.and_eq_true] at hyok
            rw [h1] at hxok; rw [h2] at hyok; rw [hxok] at hyok; simp at hyok
        obtain ⟨mfin, hmfin⟩ := giveBackAll_some fixed s.algo r.2 order
        have hfin := hall mfin (by rw [hch']; exact hmfin)
        exact ⟨budget_of_md hfin.1 hfin.2.1 hfin.2.2, hall⟩

theorem forward_config (P : Params) (s : Node) (e : Env) :
    (forward P s e).algo = s.algo ∧ (forward P s e).l = s.l ∧ (forward P s e).dest = s.dest ∧
    (forward P s e).bblock = s.bblock ∧ (forward P s e).conn = s.conn := by
  cases hst : s.stored with
  | false => rw [forward_not_stored _ _ _ hst]; simp
  | true => rw [forward_stored _ _ _ hst]; simp

theorem prepare_config (s : Node) (ev : Event) :
    (prepare s ev).1.algo = s.algo ∧ (prepare s ev).1.l = s.l ∧ (prepare s ev).1.dest = s.dest := by
  cases ev <;> simp [prepare]

theorem step_config (P : Params) (s : Node) (ev : Event) :
    (step P s ev).algo = s.algo ∧ (step P s ev).l = s.l ∧ (step P s ev).dest = s.dest := by
  have hp := prepare_config s ev
  unfold step
  split
  · next s' e heq =>
    have hf := forward_config P s' e
    rw [heq] at hp
    exact ⟨hf.1.trans hp.1, hf.2.1.trans hp.2.1, hf.2.2.1.trans hp.2.2⟩
  · next s' heq => rw [heq] at hp; exact hp

theorem run_config (P : Params) (s : Node) (evs : List Event) :
    (run P s evs).algo = s.algo ∧ (run P s evs).l = s.l ∧ (run P s evs).dest = s.dest := by
  induction evs generalizing s with
  | nil => exact ⟨rfl, rfl, rfl⟩
  | cons ev evs ih =>
    have h1 := step_config P s ev
    have h2 := ih (step P s ev)
    simp only [run, List.foldl_cons] at h2 ⊢
    exact ⟨h2.1.trans h1.1, h2.2.1.trans h1.2.1, h2.2.2.trans h1.2.2⟩

theorem run_append (P : Params) (s : Node) (e₁ e₂ : List Event) :
    run P s (e₁ ++ e₂) = run P (run P s e₁) e₂ := by simp [run, List.foldl_append]

theorem run_cons (P : Params) (s : Node) (ev : Event) (evs : List Event) :
    run P s (ev :: evs) = run P (step P s ev) evs := rfl

/-- Before the bundle enters the node nothing is stored, nothing is sent. -/
def Fresh (s : Node) : Prop := s.stored = false ∧ s.log = []

theorem step_fresh (P : Params) (s : Node) (ev : Event) (hne : ev.isEntry = false) (h : Fresh s) :
    Fresh (step P s ev) := by
  cases ev with
  | submit e => simp [Event.isEntry] at hne
  | receive b p e => simp [Event.isEntry] at hne
  | peerUp p e =>
    simp only [step, prepare]
    rw [forward_not_stored _ _ _ (by exact h.1)]; exact h
  | peerDown p => exact h
  | tick e => simp only [step, prepare]; rw [forward_not_stored _ _ _ h.1]; exact h
  | restart => exact h
  | loopback b p => exact h

theorem run_fresh (P : Params) (s : Node) (evs : List Event) (hne : ∀ ev ∈ evs, ev.isEntry = false)
    (h : Fresh s) : Fresh (run P s evs) := by
  induction evs generalizing s with
  | nil => exact h
  | cons ev evs ih =>
    rw [run_cons]
    exact ih _ (fun x hx => hne x (List.mem_cons_of_mem _ hx)) (step_fresh P s ev (hne ev (List.mem_cons_self ..)) h)

/-- A property of the node that survives the bookkeeping part of every non-entry event and every
forwarding step survives every history without entry events. -/
theorem run_preserves (Q : Node → Prop)
    (hprep : ∀ s ev, ev.isEntry = false → Q s → Q (prepare s ev).1)
    (hfwd : ∀ s e, Q s → Q (forward fixed s e))
    (s : Node) (evs : List Event) (hne : ∀ ev ∈ evs, ev.isEntry = false) (h : Q s) :
    Q (run fixed s evs) := by
  induction evs generalizing s with
  | nil => exact h
  | cons ev evs ih =>
    rw [run_cons]
    refine ih _ (fun x hx => hne x (List.mem_cons_of_mem _ hx)) ?_
    have := hprep s ev (hne ev (List.mem_cons_self ..)) h
    unfold step
    split
    · next s' e heq => rw [heq] at this; exact hfwd s' e this
    · next s' heq => rw [heq] at this; exact this

/-- An event that does not bring the bundle in changes the connected peers at most, or (restart)
forgets the metadata as well. -/
theorem prepare_nonentry (s : Node) (ev : Event) (hne : ev.isEntry = false) :
    ∃ c, (prepare s ev).1 = { s with conn := c } ∨ (prepare s ev).1 = { s with md := none, conn := c } := by
  cases ev with
  | submit e => cases hne
  | receive b p e => cases hne
  | peerUp p e => exact ⟨_, .inl rfl⟩
  | peerDown p => exact ⟨_, .inl rfl⟩
  | tick e => exact ⟨s.conn, .inl rfl⟩
  | restart => exact ⟨[], .inr rfl⟩
  | loopback b p => exact ⟨s.conn, .inl rfl⟩

theorem prepare_sprayInv (s : Node) (ev : Event) (hne : ev.isEntry = false)
    (h : s.algo = .spray ∧ SprayInv s) : (prepare s ev).1.algo = .spray ∧ SprayInv (prepare s ev).1 := by
  obtain ⟨ha, h⟩ := h
  obtain ⟨c, e | e⟩ := prepare_nonentry s ev hne <;> rw [e]
  · exact ⟨ha, h.budget, h.md⟩
  · exact ⟨ha, h.budget, fun m hm => by cases hm⟩

theorem nonentry_tick_cons {e : Env} {rest : List Event} (hrest : ∀ ev ∈ rest, ev.isEntry = false) :
    ∀ ev ∈ Event.tick e :: rest, ev.isEntry = false := by
  intro ev hev
  rcases List.mem_cons.mp hev with rfl | hev
  · rfl
  · exact hrest ev hev

/-- Spray-and-wait, bundle originated here: the invariant holds after every history
`pre ++ submit :: rest` in which the bundle enters the node once. (Submitting is a retry tick on the
node that has just stored the bundle with fresh metadata.) -/
theorem spray_run_inv (s : Node) (ha : s.algo = .spray) (hf : Fresh s) (pre rest : List Event)
    (e : Env) (hpre : ∀ ev ∈ pre, ev.isEntry = false) (hrest : ∀ ev ∈ rest, ev.isEntry = false) :
    SprayInv (run fixed s (pre ++ .submit e :: rest)) := by
  rw [run_append]
  have ha0 : (run fixed s pre).algo = .spray := (run_config fixed s pre).1.trans ha
  have hfr := run_fresh fixed s pre hpre hf
  show SprayInv (run fixed (prepare (run fixed s pre) (.submit e)).1 (.tick e :: rest))
  refine (run_preserves (fun s => s.algo = .spray ∧ SprayInv s) prepare_sprayInv
    (fun s e h => ⟨(forward_config fixed s e).1.trans h.1, forward_sprayInv s e h.1 h.2⟩)
    (prepare (run fixed s pre) (.submit e)).1 (.tick e :: rest) (nonentry_tick_cons hrest)
    ⟨ha0, ?_, ?_⟩).2
  · simp [prepare, hfr.2, relayed]
  · intro m hm
    simp only [prepare, notify, ha0, Option.some.injEq] at hm
    subst hm
    simp [prepare, hfr.2, relayedPeers, relayed]

theorem length_filter_partition {α} (q : α → Bool) (l : List α) :
    (l.filter q).length + (l.filter (fun x => !q x)).length = l.length := by
  induction l with
  | nil => rfl
  | cons x xs ih => cases hq : q x <;> simp [hq] <;> omega

theorem sum_snd_eq_length (l : List (Peer × Nat)) (h : ∀ k ∈ l, k.2 = 1) :
    (l.map (·.2)).sum = l.length := by
  induction l with
  | nil => rfl
  | cons x xs ih =>
    simp only [List.map_cons, List.sum_cons, List.length_cons]
    rw [ih (fun k hk => h k (List.mem_cons_of_mem _ hk)), h x (List.mem_cons_self ..)]; omega

theorem forwardSends_stored (s : Node) (e : Env) (h : s.stored = true) :
    forwardSends s e = mkSends s e (choose s e).1 := by simp [forwardSends, h]

theorem mkReports_spray_fst (sends : List Send) :
    (mkReports .spray sends).map (·.1) = (sends.filter (fun x => !x.ok)).map (·.peer) := by
  simp only [mkReports]
  induction sends.filter (fun x => !x.ok) with
  | nil => rfl
  | cons x xs ih => simp

theorem mkReports_spray_length (sends : List Send) :
    (mkReports .spray sends).length = (sends.filter (fun x => !x.ok)).length := by
  have := congrArg List.length (mkReports_spray_fst sends)
  simpa using this

theorem not_direct_of_mem_cands {s : Node} {e : Env} {p : Peer}
    (hdir : ¬ s.conn.contains s.dest = true)
    (hp : p ∈ e.order.filter (fun p => s.conn.contains p)) : p ≠ s.dest := by
  intro h
  simp only [List.mem_filter] at hp
  rw [h] at hp
  exact hdir hp.2

/-- Spray-and-wait, one forwarding step whose failure reports all finish: the count drops by the
number of successful transmissions to non-destination peers, `sent` grows by the same number. -/
theorem forward_spray_exact (s : Node) (e : Env) (ha : s.algo = .spray) (hst : s.stored = true)
    (m : Meta) (hm : s.md = some m) (hd : s.dest ∉ m.sent)
    (hc : forwardComplete fixed s e = true) :
    ∃ m', (forward fixed s e).md = some m' ∧ s.dest ∉ m'.sent ∧
      m'.remaining + (relayed s.dest (forwardSends s e)).length = m.remaining ∧
      m'.sent.length = m.sent.length + (relayed s.dest (forwardSends s e)).length := by
  rw [forwardSends_stored s e hst]
  -- nothing is relayed: the metadata stays
  have quiet : ∀ cs, choose s e = (cs, some m) → (∀ c ∈ cs, c.peer = s.dest) →
      ∃ m', (forward fixed s e).md = some m' ∧ s.dest ∉ m'.sent ∧
        m'.remaining + (relayed s.dest (mkSends s e (choose s e).1)).length = m.remaining ∧
        m'.sent.length = m.sent.length + (relayed s.dest (mkSends s e (choose s e).1)).length := by
    intro cs hch hall
    obtain ⟨h1, h2⟩ := forward_no_relay s e hst hd hch hall
    exact ⟨m, h1, hd, by simp [relayed_of_all_dest h2], by simp [relayed_of_all_dest h2]⟩
  rcases choose_cases s e hm with ⟨hdir, hch⟩ | ⟨hdir, hch⟩
  · exact quiet _ hch (by simp)
  · rw [ha] at hch
    by_cases hlt : m.remaining < 2
    · exact quiet _ (hch.trans (senderForBundle_lt hlt)) (by simp)
    · have hch' := hch.trans (senderForBundle_spray hlt)
      obtain ⟨order, hmd, hsub, hperm⟩ := forward_md s e hst
      have hrep : ∀ k ∈ order, k.2 = 1 ∧
          ∃ x ∈ mkSends s e (choose s e).1, x.ok = false ∧ x.peer = k.1 := by
        intro k hk; have := hsub k hk; rw [ha] at this; exact mem_mkReports_spray this
      obtain ⟨p1, p2, _, p4, p5⟩ := sprayPick_spec (e.order.filter (fun p => s.conn.contains p)) m
      generalize sprayPick (e.order.filter (fun p => s.conn.contains p)) m = r at hch' p1 p2 p4 p5
      have hpeers : (mkSends s e (choose s e).1).map (·.peer) = r.1 := by
        rw [mkSends_peers, hch']; simp [Function.comp_def]
      have hlen : (mkSends s e (choose s e).1).length = r.1.length := by
        rw [← hpeers]; simp
      -- no pick is the destination
      have hnd : ∀ x ∈ mkSends s e (choose s e).1, x.peer ≠ s.dest := by
        intro x hx
        have : x.peer ∈ r.1 := by rw [← hpeers]; exact List.mem_map_of_mem hx
        exact not_direct_of_mem_cands hdir (p5 _ this).2
      have hrel : relayed s.dest (mkSends s e (choose s e).1)
          = (mkSends s e (choose s e).1).filter (·.ok) := by
        unfold relayed
        apply List.filter_congr
        intro x hx
        have := hnd x hx
        simp [this]
      -- the reports: all of them, each for a distinct peer recorded in `sent`
      have hperm' := hperm hc (by rw [hch']; rfl)
      rw [ha] at hperm'
      have hfst : (order.map (·.1)).Perm ((mkSends s e (choose s e).1).filter (fun x => !x.ok) |>.map (·.peer)) := by
        rw [← mkReports_spray_fst]; exact hperm'.map _
      have hsubl : (((mkSends s e (choose s e).1).filter (fun x => !x.ok)).map (·.peer)).Sublist r.1 := by
        rw [← hpeers]; exact filter_map_sublist _ _ _
      have hnodup : (order.map (·.1)).Nodup := hfst.nodup_iff.mpr (hsubl.nodup p4)
      have hin : ∀ f ∈ order, f.1 ∈ r.2.sent := by
        intro f hf
        have : f.1 ∈ order.map (·.1) := List.mem_map_of_mem hf
        rw [p1]
        exact List.mem_append_right _ (hsubl.subset (hfst.subset this))
      obtain ⟨m', e1, e2, e3, e6⟩ := giveBackAll_exact .spray order r.2 hnodup hin
      have hsum := sum_snd_eq_length order (fun k hk => (hrep k hk).1)
      have holen : order.length = ((mkSends s e (choose s e).1).filter (fun x => !x.ok)).length := by
        rw [hperm'.length_eq, mkReports_spray_length]
      have hpart := length_filter_partition (fun x : Send => x.ok) (mkSends s e (choose s e).1)
      refine ⟨m', by rw [hmd, hch', ha]; exact e1, ?_, ?_, ?_⟩
      · intro hmem
        have := e6.subset hmem
        rw [p1] at this
        rcases List.mem_append.mp this with h1 | h2
        · exact hd h1
        · exact not_direct_of_mem_cands hdir (p5 _ h2).2 rfl
      · rw [hrel, e2, hsum]; omega
      · rw [hrel]
        have : r.2.sent.length = m.sent.length + r.1.length := by rw [p1]; simp
        omega

theorem forward_log (P : Params) (s : Node) (e : Env) :
    (forward P s e).log = s.log ++ forwardSends s e := by
  cases hst : s.stored with
  | false => rw [forward_not_stored _ _ _ hst]; simp [forwardSends, hst]
  | true => rw [forward_stored _ _ _ hst, forwardSends_stored _ _ hst]

/-- With complete schedules the `sent` list of an originated bundle is exactly as long as the list of
successful relays and never contains the destination. (`SprayInv`, which holds under every schedule, has
only `relayedPeers ⊆ sent`: an unfinished report leaves its peer in `sent`.) -/
def QInv (s : Node) : Prop :=
  ∀ m, s.md = some m → s.dest ∉ m.sent ∧ m.sent.length = (relayed s.dest s.log).length

theorem forward_qinv (s : Node) (e : Env) (ha : s.algo = .spray)
    (hc : forwardComplete fixed s e = true) (h : QInv s) : QInv (forward fixed s e) := by
  cases hst : s.stored with
  | false => rw [forward_not_stored _ _ _ hst]; exact h
  | true =>
    intro m' hm'
    have hcfg := forward_config fixed s e
    rw [hcfg.2.2.1, forward_log, relayed_append]
    cases hm : s.md with
    | none =>
      obtain ⟨order, hmd, _, _⟩ := forward_md s e hst
      have hch : (choose s e).2 = none := by
        rcases choose_none s e hm with h | h <;> rw [h]
      rw [hmd, hch, giveBackAll_none] at hm'; cases hm'
    | some m =>
      obtain ⟨hd, hlen⟩ := h m hm
      obtain ⟨m'', e1, e2, _, e4⟩ := forward_spray_exact s e ha hst m hm hd hc
      rw [e1] at hm'; cases hm'
      exact ⟨e2, by rw [e4, hlen]; simp⟩

theorem run_preserves_complete (Q : Node → Prop)
    (hprep : ∀ s ev, ev.isEntry = false → Q s → Q (prepare s ev).1)
    (hfwd : ∀ s e, forwardComplete fixed s e = true → Q s → Q (forward fixed s e))
    (s : Node) (evs : List Event) (hne : ∀ ev ∈ evs, ev.isEntry = false)
    (hc : runComplete fixed s evs = true) (h : Q s) : Q (run fixed s evs) := by
  induction evs generalizing s with
  | nil => exact h
  | cons ev evs ih =>
    rw [run_cons]
    simp only [runComplete, Bool.and_eq_true] at hc
    refine ih _ (fun x hx => hne x (List.mem_cons_of_mem _ hx)) hc.2 ?_
    have := hprep s ev (hne ev (List.mem_cons_self ..)) h
    have hsc := hc.1
    unfold stepComplete at hsc
    unfold step
    split
    · next s' e heq => rw [heq] at this hsc; exact hfwd s' e hsc this
    · next s' heq => rw [heq] at this; exact this

theorem runComplete_append (P : Params) (s : Node) (e₁ e₂ : List Event) :
    runComplete P s (e₁ ++ e₂) = (runComplete P s e₁ && runComplete P (run P s e₁) e₂) := by
  induction e₁ generalizing s with
  | nil => simp [runComplete, run]
  | cons ev evs ih => simp [runComplete, run_cons, ih, Bool.and_assoc]

theorem prepare_qinv (s : Node) (ev : Event) (hne : ev.isEntry = false)
    (h : s.algo = .spray ∧ QInv s) : (prepare s ev).1.algo = .spray ∧ QInv (prepare s ev).1 := by
  obtain ⟨ha, h⟩ := h
  obtain ⟨c, e | e⟩ := prepare_nonentry s ev hne <;> rw [e]
  · exact ⟨ha, h⟩
  · exact ⟨ha, fun m hm => by cases hm⟩

theorem spray_run_qinv (s : Node) (ha : s.algo = .spray) (hf : Fresh s) (pre rest : List Event)
    (e : Env) (hpre : ∀ ev ∈ pre, ev.isEntry = false) (hrest : ∀ ev ∈ rest, ev.isEntry = false)
    (hc : runComplete fixed s (pre ++ .submit e :: rest) = true) :
    QInv (run fixed s (pre ++ .submit e :: rest)) := by
  rw [runComplete_append, Bool.and_eq_true] at hc
  rw [run_append]
  have ha0 : (run fixed s pre).algo = .spray := (run_config fixed s pre).1.trans ha
  have hfr := run_fresh fixed s pre hpre hf
  show QInv (run fixed (prepare (run fixed s pre) (.submit e)).1 (.tick e :: rest))
  refine (run_preserves_complete (fun s => s.algo = .spray ∧ QInv s) prepare_qinv
    (fun s e hc h => ⟨(forward_config fixed s e).1.trans h.1, forward_qinv s e h.1 hc h.2⟩)
    _ _ (nonentry_tick_cons hrest) hc.2 ⟨ha0, ?_⟩).2
  intro m hm
  simp only [notify, ha0, Option.some.injEq] at hm
  subst hm
  simp [hfr.2, relayed]

theorem forward_waits (s : Node) (e : Env)
    (h : ∀ m, s.md = some m → m.remaining < 2 ∧ s.dest ∉ m.sent) :
    (forward fixed s e).md = s.md ∧ ∀ x ∈ forwardSends s e, x.peer = s.dest := by
  cases hst : s.stored with
  | false => rw [forward_not_stored _ _ _ hst]; simp [forwardSends, hst]
  | true =>
    rw [forwardSends_stored _ _ hst]
    cases hm : s.md with
    | none =>
      obtain ⟨order, hmd, _, _⟩ := forward_md s e hst
      have hch := choose_none s e hm
      refine ⟨by rw [hmd]; rcases hch with h | h <;> rw [h] <;> exact giveBackAll_none _ _ _, ?_⟩
      intro x hx
      rcases hch with h | h <;> rw [h] at hx <;> simp [mkSends] at hx
      rw [hx]
    | some m =>
      obtain ⟨hlt, hd⟩ := h m hm
      rcases choose_cases s e hm with ⟨_, hc⟩ | ⟨_, hc⟩
      · exact forward_no_relay s e hst hd hc (by simp)
      · exact forward_no_relay s e hst hd (hc.trans (senderForBundle_lt hlt)) (by simp)

/-- Every history without a new entry: a node holding fewer than two copies (or none at all after a
restart) only ever transmits to the destination, and its count does not change. -/
theorem waits_run (s : Node) (evs : List Event) (hne : ∀ ev ∈ evs, ev.isEntry = false)
    (h : ∀ m, s.md = some m → m.remaining < 2 ∧ s.dest ∉ m.sent) :
    (∀ x ∈ (run fixed s evs).log, x ∈ s.log ∨ x.peer = s.dest) ∧
    (∀ m, (run fixed s evs).md = some m → m.remaining < 2) := by
  have := run_preserves
    (fun t => t.dest = s.dest ∧ (∀ m, t.md = some m → m.remaining < 2 ∧ s.dest ∉ m.sent) ∧
      ∀ x ∈ t.log, x ∈ s.log ∨ x.peer = s.dest)
    (fun t ev hev ⟨q1, q2, q3⟩ => by
      obtain ⟨c, e | e⟩ := prepare_nonentry t ev hev <;> rw [e]
      · exact ⟨q1, q2, q3⟩
      · exact ⟨q1, fun m hm => (by cases hm), q3⟩)
    (fun t e ⟨q1, q2, q3⟩ => by
      have hw := forward_waits t e (fun m hm => by rw [q1]; exact q2 m hm)
      refine ⟨(forward_config fixed t e).2.2.1.trans q1, fun m hm => q2 m (by rw [← hw.1]; exact hm), ?_⟩
      intro x hx
      rw [forward_log] at hx
      rcases List.mem_append.mp hx with hx | hx
      · exact q3 x hx
      · exact Or.inr (by rw [hw.2 x hx, q1]))
    s evs hne ⟨rfl, h, fun x hx => Or.inl hx⟩
  exact ⟨this.2.2, fun m hm => (this.2.1 m hm).1⟩

theorem half_add_rest (r : Nat) : r / 2 + (r - r / 2) = r :=
  Nat.add_sub_cancel' (Nat.div_le_self r 2)

/-- Binary spray, one forwarding step whose failure report (if any) finishes. -/
theorem forward_binary_exact (s : Node) (e : Env) (ha : s.algo = .binary) (hst : s.stored = true)
    (m : Meta) (hm : s.md = some m) (hd : s.dest ∉ m.sent)
    (hc : forwardComplete fixed s e = true) :
    ∃ m', (forward fixed s e).md = some m' ∧ s.dest ∉ m'.sent ∧
      (∀ x ∈ forwardSends s e, x.peer ≠ s.dest →
        2 ≤ m.remaining ∧ BinarySplit m.remaining x m'.remaining ∧ (x.ok = false → m' = m) ∧
        forwardSends s e = [x]) ∧
      ((∀ x ∈ forwardSends s e, x.peer = s.dest) → m' = m) := by
  rw [forwardSends_stored s e hst]
  -- the cases in which nothing is relayed
  have hnone : ∀ cs, choose s e = (cs, some m) → (∀ c ∈ cs, c.peer = s.dest) →
      ∃ m', (forward fixed s e).md = some m' ∧ s.dest ∉ m'.sent ∧
      (∀ x ∈ mkSends s e (choose s e).1, x.peer ≠ s.dest →
        2 ≤ m.remaining ∧ BinarySplit m.remaining x m'.remaining ∧ (x.ok = false → m' = m) ∧
        mkSends s e (choose s e).1 = [x]) ∧
      ((∀ x ∈ mkSends s e (choose s e).1, x.peer = s.dest) → m' = m) := by
    intro cs hch hcs
    obtain ⟨h1, h2⟩ := forward_no_relay s e hst hd hch hcs
    exact ⟨m, h1, hd, fun x hx hne => absurd (h2 x hx) hne, fun _ => rfl⟩
  rcases choose_cases s e hm with ⟨hdir, hch⟩ | ⟨hdir, hch⟩
  · exact hnone _ hch (by simp)
  · rw [ha] at hch
    by_cases hlt : m.remaining < 2
    · exact hnone _ (hch.trans (senderForBundle_lt hlt)) (by simp)
    · obtain ⟨order, hmd, hsub, hperm⟩ := forward_md s e hst
      cases hbp : binaryPick (e.order.filter (fun p => s.conn.contains p)) m with
      | none => exact hnone [] (by rw [hch]; simp only [senderForBundle, hlt, ↓reduceIte, hbp]) (by simp)
      | some r =>
        obtain ⟨p, send, m1⟩ := r
        -- what binaryPick returns
        have hspec : p ∈ e.order.filter (fun p => s.conn.contains p) ∧ p ∉ m.sent ∧
            send = m.remaining / 2 ∧ m1 = ⟨m.sent ++ [p], m.remaining - m.remaining / 2⟩ := by
          unfold binaryPick at hbp
          split at hbp
          · cases hbp
          · next q hq =>
            simp only [Option.some.injEq, Prod.mk.injEq] at hbp
            obtain ⟨rfl, rfl, rfl⟩ := hbp
            have := List.find?_some hq
            exact ⟨List.mem_of_find?_eq_some hq, by simpa using this, rfl, rfl⟩
        obtain ⟨hp1, hp2, rfl, rfl⟩ := hspec
        have hpd : p ≠ s.dest := not_direct_of_mem_cands hdir hp1
        have hch' : choose s e = ([⟨p, some (m.remaining / 2)⟩],
            some ⟨m.sent ++ [p], m.remaining - m.remaining / 2⟩) := by
          rw [hch]; simp only [senderForBundle, hlt, ↓reduceIte, hbp]
        have hsends : mkSends s e (choose s e).1 =
            [⟨p, !(e.fails.contains p), some (m.remaining / 2)⟩] := by rw [hch']; rfl
        have herase : (m.sent ++ [p]).erase p = m.sent := by
          rw [List.erase_append_right _ hp2]; simp
        cases hok : e.fails.contains p with
        | false =>
          -- success: nothing is reported
          have hrep : mkReports s.algo (mkSends s e (choose s e).1) = [] := by
            rw [hsends, hok]; simp [mkReports]
          have hord : order = [] := by
            cases order with
            | nil => rfl
            | cons k ks => have := hsub k (List.mem_cons_self ..); rw [hrep] at this; cases this
          refine ⟨⟨m.sent ++ [p], m.remaining - m.remaining / 2⟩, ?_, ?_, ?_, ?_⟩
          · rw [hmd, hch', hord]; rfl
          · intro hmem; rcases List.mem_append.mp hmem with h | h
            · exact hd h
            · simp only [List.mem_singleton] at h; exact hpd h.symm
          · intro x hx _
            rw [hsends, hok] at hx ⊢
            simp only [List.mem_singleton] at hx; subst hx
            refine ⟨Nat.le_of_not_lt hlt, ⟨rfl, ?_⟩, fun h => by simp at h, rfl⟩
            simp only [Bool.not_false, if_true]; exact half_add_rest _
          · intro hall
            have := hall _ (by rw [hsends]; exact List.mem_cons_self ..)
            exact absurd this hpd
        | true =>
          -- failure: the one report gives the announced copies back
          have hrep : mkReports s.algo (mkSends s e (choose s e).1) = [(p, m.remaining / 2)] := by
            rw [hsends, hok, ha]; simp [mkReports]
          have hord : order = [(p, m.remaining / 2)] := by
            have := hperm hc (by rw [hch']; rfl)
            rw [hrep] at this; exact List.perm_singleton.mp this
          have hfin : (forward fixed s e).md = some m := by
            rw [hmd, hch', hord, ha]
            simp only [giveBackAll, List.foldl_cons, List.foldl_nil, Option.map_some]
            rw [giveBack_mem (by simp)]
            simp only [herase]
            rw [Nat.add_comm, half_add_rest]
          refine ⟨m, hfin, hd, ?_, fun _ => rfl⟩
          intro x hx _
          rw [hsends, hok] at hx ⊢
          simp only [List.mem_singleton] at hx; subst hx
          exact ⟨Nat.le_of_not_lt hlt, ⟨rfl, by simp⟩, fun _ => rfl, rfl⟩

end Dtn7.Spray.Lemmas
