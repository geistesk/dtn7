/-
C07, local delivery. The fan-out of `MuxAgent.handle` is one equation, `deliver_out_eq`: the hand-overs
of a delivery are the recipients registered for the destination, each once with the unchanged bundle;
`DeliveredExactly`, the completeness of `HasEndpoint`, the mailboxes after a delivery and the node-level
facts (a local bundle is not forwarded; report and release of the retention constraint only after a
hand-over) are read off it. `Mux.WF` (names are keys) is kept by every operation (`step_wf`).
The mailbox under concurrent deliveries and fetches: `stepThr_spec` describes one micro-step from the
moving thread's side, and the invariant `Inv` (the counts balance; the mutex belongs to the thread inside
the critical section) follows for every schedule.
-/
import Dtn7.Model.Delivery

namespace Dtn7.Delivery.Lemmas

/-- Hand-overs caused by one child (the `if` of `MuxAgent.handle` and the child's own handling). -/
def childOut (cfg : Cfg) (b : Bundle) (c : Nat × Agent) : List (Rcpt × Bundle) :=
  if bagContains (c.2.endpoints cfg) [b.dest] then (c.2.receive cfg c.1 b).2 else []

theorem deliverChildren_out (cfg : Cfg) (b : Bundle) (l : List (Nat × Agent)) :
    (deliverChildren cfg b l).2 = l.flatMap (childOut cfg b) := by
  induction l with
  | nil => rfl
  | cons c rest ih =>
    obtain ⟨i, a⟩ := c
    simp only [deliverChildren, List.flatMap_cons, childOut]
    split <;> simp [ih]

theorem rangeVisit_all {α : Type} (pick : Nat) (l : List α) : rangeVisit true pick l = l := by
  simp [rangeVisit]

theorem bagContains_single (bag : List Eid) (d : Eid) : bagContains bag [d] = bag.contains d := by
  unfold bagContains
  induction bag with
  | nil => rfl
  | cons e t ih =>
    rw [List.any_cons, ih, List.contains_cons, List.contains_cons, List.contains_nil, Bool.or_false,
      Bool.beq_comm]

/-- Handing `b` to the elements of `l` that answer to `d` — behind a test whether any element does —
is handing it to the registrations `(key c, eps c)` for `d`. -/
theorem fan_eq {γ : Type} (l : List γ) (key : γ → Rcpt) (eps : γ → List Eid) (d : Eid) (b : Bundle) :
    (if (l.flatMap eps).contains d then (l.filter (fun c => (eps c).contains d)).map (fun c => (key c, b))
      else []) =
      ((l.map (fun c => (key c, eps c))).filter (fun r => r.2.contains d)).map (fun r => (r.1, b)) := by
  rw [List.filter_map, List.map_map]
  split
  · rfl
  · rename_i hno
    have : l.filter (fun c => (eps c).contains d) = [] := by
      rw [List.filter_eq_nil_iff]
      intro c hc hd
      exact hno (List.contains_iff_mem.mpr
        (List.mem_flatMap.mpr ⟨c, hc, List.contains_iff_mem.mp hd⟩))
    simp only [Function.comp_def] 
    rw [this]; rfl

theorem single_eq (x : Rcpt) (eps : List Eid) (b : Bundle) :
    (if eps.contains b.dest then [(x, b)] else []) =
      (([(x, eps)] : Regs).filter (fun r => r.2.contains b.dest)).map (fun r => (r.1, b)) := by
  rw [List.filter_cons, List.filter_nil]
  cases eps.contains b.dest <;> rfl

theorem childOut_eq (cfg : Cfg) (hall : cfg.rangeAll = true) (b : Bundle) (c : Nat × Agent) :
    childOut cfg b c =
      ((c.2.registered c.1).filter (fun r => r.2.contains b.dest)).map (fun r => (r.1, b)) := by
  obtain ⟨i, a⟩ := c
  simp only [childOut, bagContains_single]
  cases a with
  | ping ep => exact single_eq (.ping i) [ep] b
  | mock eps => exact single_eq (.mock i) eps b
  | rest ra =>
    simp only [Agent.endpoints, Agent.receive, Agent.registered, Rest.endpoints, Rest.receive,
      Rest.matching, hall, rangeVisit_all, List.map_map]
    rw [← fan_eq ra.clients (fun c => Rcpt.rest i c.1) (fun c => [c.2]) b.dest b, List.map_eq_flatMap]
    have hf : (fun c : Nat × Eid => decide (c.2 = b.dest)) =
        fun c => ([c.2] : List Eid).contains b.dest := by
      funext c
      rw [List.contains_cons, List.contains_nil, Bool.or_false, Bool.beq_comm]
      rfl
    rw [hf]
    rfl
  | ws conns =>
    simp only [Agent.endpoints, Agent.receive, Agent.registered, bagContains_single]
    exact fan_eq conns (fun c => Rcpt.ws i c.1) (fun c => c.2.toList) b.dest b
/-- **Key equation**: the hand-overs of a delivery are exactly the recipients registered for the
destination, each with the unchanged bundle. -/
theorem deliver_out_eq (cfg : Cfg) (hall : cfg.rangeAll = true) (m : Mux) (b : Bundle) :
    (m.deliver cfg b).2 = (registeredFor m.registered b.dest).map (fun r => (r, b)) := by
  simp only [Mux.deliver, deliverChildren_out, registeredFor, Mux.registered, List.filter_flatMap,
    List.map_flatMap, List.map_map]
  congr 1
  funext c
  rw [childOut_eq cfg hall]
  simp [Function.comp_def]

theorem registered_agent (i : Nat) (a : Agent) : ∀ r ∈ a.registered i, r.1.agent = i := by
  intro r hr
  cases a with
  | ping ep => simp [Agent.registered] at hr; subst hr; rfl
  | mock eps => simp [Agent.registered] at hr; subst hr; rfl
  | rest ra =>
    simp only [Agent.registered, List.mem_map] at hr
    obtain ⟨c, _, rfl⟩ := hr; rfl
  | ws conns =>
    simp only [Agent.registered, List.mem_map] at hr
    obtain ⟨c, _, rfl⟩ := hr; rfl

theorem nodup_map_key {β γ : Type} (l : List (Nat × β)) (f : Nat → Rcpt) (hf : ∀ u c, f u = f c → u = c)
    (g : Nat × β → γ) (hk : keysNodup l) : ((l.map (fun c => (f c.1, g c))).map (·.1)).Nodup := by
  rw [List.map_map]
  unfold keysNodup List.Nodup at *
  rw [List.pairwise_map] at hk ⊢
  exact hk.imp (fun hne heq => hne (hf _ _ heq))

theorem registered_child_nodup (i : Nat) (a : Agent) (h : a.WF) :
    ((a.registered i).map (·.1)).Nodup := by
  cases a with
  | ping ep => simp [Agent.registered]
  | mock eps => simp [Agent.registered]
  | rest ra =>
    exact nodup_map_key ra.clients (Rcpt.rest i) (fun _ _ e => by simpa using e) (fun c => [c.2]) h.1
  | ws conns =>
    exact nodup_map_key conns (Rcpt.ws i) (fun _ _ e => by simpa using e) (fun c => c.2.toList) h

theorem registered_nodup (m : Mux) (h : m.WF) : (m.registered.map (·.1)).Nodup := by
  obtain ⟨hk, hc⟩ := h
  simp only [Mux.registered, List.map_flatMap]
  unfold List.Nodup
  rw [List.pairwise_flatMap]
  constructor
  · intro c hcm
    exact registered_child_nodup c.1 c.2 (hc c hcm)
  · have hk' : List.Pairwise (fun a b : Nat × Agent => a.1 ≠ b.1) m.children := by
      have := hk; unfold keysNodup List.Nodup at this; rwa [List.pairwise_map] at this
    refine hk'.imp ?_
    intro c₁ c₂ hne x hx y hy hxy
    simp only [List.mem_map] at hx hy
    obtain ⟨r₁, hr₁, rfl⟩ := hx
    obtain ⟨r₂, hr₂, rfl⟩ := hy
    have h₁ := registered_agent c₁.1 c₁.2 r₁ hr₁
    have h₂ := registered_agent c₂.1 c₂.2 r₂ hr₂
    exact hne (by rw [← h₁, ← h₂, hxy])

theorem registeredFor_nodup (regs : Regs) (d : Eid) (h : (regs.map (·.1)).Nodup) :
    (registeredFor regs d).Nodup :=
  List.Nodup.sublist ((List.filter_sublist).map _) h

theorem deliveredExactly_of_eq (regs : Regs) (b : Bundle) (h : (registeredFor regs b.dest).Nodup) :
    DeliveredExactly regs b ((registeredFor regs b.dest).map (fun r => (r, b))) = true := by
  simp only [DeliveredExactly, Bool.and_eq_true, List.all_eq_true, List.mem_map]
  constructor
  · rintro o ⟨r, hr, rfl⟩
    simp [hr]
  · intro r hr
    have : ((registeredFor regs b.dest).map (fun r => (r, b))).map (·.1) = registeredFor regs b.dest := by
      simp [List.map_map, Function.comp_def]
    rw [this, h.count]
    simp [hr]

/-- `delivered_exactly` for every well-formed registry. -/
theorem delivered_exactly (cfg : Cfg) (hall : cfg.rangeAll = true) (m : Mux) (h : m.WF) (b : Bundle) :
    DeliveredExactly m.registered b (m.deliver cfg b).2 = true := by
  rw [deliver_out_eq cfg hall]
  exact deliveredExactly_of_eq _ _ (registeredFor_nodup _ _ (registered_nodup m h))

theorem agent_endpoints_eq (cfg : Cfg) (hall : cfg.rangeAll = true) (i : Nat) (a : Agent) :
    a.endpoints cfg = (a.registered i).flatMap (·.2) := by
  cases a with
  | ping ep => simp [Agent.endpoints, Agent.registered]
  | mock eps => simp [Agent.endpoints, Agent.registered]
  | rest ra =>
    simp only [Agent.endpoints, Agent.registered, Rest.endpoints, hall, rangeVisit_all, List.flatMap_map]
    induction ra.clients with
    | nil => rfl
    | cons c t ih => simp [ih]
  | ws conns => simp [Agent.endpoints, Agent.registered, List.flatMap_map]

theorem endpoints_eq (cfg : Cfg) (hall : cfg.rangeAll = true) (m : Mux) :
    m.endpoints cfg = m.registered.flatMap (·.2) := by
  simp only [Mux.endpoints, Mux.registered, List.flatMap_assoc]
  congr 1
  funext c
  exact agent_endpoints_eq cfg hall c.1 c.2

theorem hasEndpoint_iff (cfg : Cfg) (hall : cfg.rangeAll = true) (m : Mux) (e : Eid) :
    m.hasEndpoint cfg e = true ↔ ∃ r ∈ m.registered, e ∈ r.2 := by
  rw [Mux.hasEndpoint, bagContains_single, endpoints_eq cfg hall, List.contains_iff_mem, List.mem_flatMap]

theorem aload_isSome_iff {κ β : Type} [DecidableEq κ] (k : κ) (l : List (κ × β)) :
    (aload k l).isSome = true ↔ k ∈ l.map (·.1) := by
  induction l with
  | nil => simp [aload]
  | cons e t ih =>
    obtain ⟨k', v⟩ := e
    by_cases h : k' = k
    · simp [aload, h]
    · have h' : ¬ k = k' := fun x => h x.symm
      simp [aload, h, h', ih]

theorem astore_keys {κ β : Type} [DecidableEq κ] (k : κ) (v : β) (l : List (κ × β)) :
    (astore k v l).map (·.1) = if k ∈ l.map (·.1) then l.map (·.1) else l.map (·.1) ++ [k] := by
  induction l with
  | nil => simp [astore]
  | cons e t ih =>
    obtain ⟨k', v'⟩ := e
    by_cases h : k' = k
    · simp [astore, h]
    · have h' : ¬ k = k' := fun x => h x.symm
      simp only [astore, h, if_false, List.map_cons, ih, List.mem_cons, h', false_or]
      split <;> simp

theorem keysNodup_astore {κ β : Type} [DecidableEq κ] (k : κ) (v : β) (l : List (κ × β)) (h : keysNodup l) :
    keysNodup (astore k v l) := by
  unfold keysNodup at h ⊢
  rw [astore_keys]
  split
  · exact h
  · rename_i hk
    rw [List.nodup_append]
    refine ⟨h, by simp, ?_⟩
    intro a ha b hb
    simp at hb; subst hb
    intro hab; subst hab; exact hk ha

theorem keysNodup_adelete {κ β : Type} [DecidableEq κ] (k : κ) (l : List (κ × β)) (h : keysNodup l) :
    keysNodup (adelete k l) := by
  unfold keysNodup at h ⊢
  exact List.Nodup.sublist ((List.filter_sublist).map _) h

theorem keysNodup_nil {κ β : Type} : keysNodup ([] : List (κ × β)) := by
  simp [keysNodup]

theorem foldl_putMailbox_nodup (us : List Nat) (b : Bundle) (mb : List (Nat × List Bundle))
    (h : keysNodup mb) : keysNodup (us.foldl (fun mb u => putMailbox mb u b) mb) := by
  induction us generalizing mb with
  | nil => exact h
  | cons u t ih => exact ih _ (keysNodup_astore _ _ _ h)

theorem receive_wf (cfg : Cfg) (i : Nat) (a : Agent) (b : Bundle) (h : a.WF) :
    (a.receive cfg i b).1.WF := by
  cases a with
  | ping ep => exact h
  | mock eps => exact h
  | rest ra => exact ⟨h.1, foldl_putMailbox_nodup _ _ _ h.2⟩
  | ws conns => exact h

/-- The children after a delivery: the list is mapped, every child possibly handed the bundle. -/
theorem deliverChildren_fst (cfg : Cfg) (b : Bundle) (l : List (Nat × Agent)) :
    (deliverChildren cfg b l).1 = l.map (fun c =>
      (c.1, if bagContains (c.2.endpoints cfg) [b.dest] then (c.2.receive cfg c.1 b).1 else c.2)) := by
  induction l with
  | nil => rfl
  | cons c t ih =>
    obtain ⟨i, a⟩ := c
    simp only [deliverChildren, List.map_cons, ← ih]
    split <;> rfl

/-- Looking a key up in a list whose values were mapped (keys kept). -/
theorem aload_map_val {κ β γ : Type} [DecidableEq κ] (f : κ → β → γ) (k : κ) (l : List (κ × β)) :
    aload k (l.map (fun c => (c.1, f c.1 c.2))) = (aload k l).map (f k) := by
  induction l with
  | nil => rfl
  | cons c t ih =>
    obtain ⟨k', v⟩ := c
    by_cases h : k' = k
    · subst h; simp [aload]
    · simp [aload, h, ih]

theorem deliver_wf (cfg : Cfg) (m : Mux) (b : Bundle) (h : m.WF) : (m.deliver cfg b).1.WF := by
  obtain ⟨hk, hc⟩ := h
  simp only [Mux.deliver, deliverChildren_fst]
  refine ⟨?_, fun c hcm => ?_⟩
  · unfold keysNodup at hk ⊢
    rwa [List.map_map]
  · obtain ⟨c', hc', rfl⟩ := List.mem_map.mp hcm
    simp only
    split
    · exact receive_wf cfg c'.1 c'.2 b (hc c' hc')
    · exact hc c' hc'

theorem update_wf (m : Mux) (i : Nat) (f : Agent → Agent) (h : m.WF) (hf : ∀ a, a.WF → (f a).WF) :
    (m.update i f).WF := by
  obtain ⟨hk, hc⟩ := h
  constructor
  · unfold keysNodup at hk ⊢
    have : (m.update i f).children.map (·.1) = m.children.map (·.1) := by
      simp only [Mux.update, List.map_map]
      apply List.map_congr_left
      intro c _
      simp only [Function.comp]
      split <;> rfl
    rw [this]; exact hk
  · intro c hcm
    simp only [Mux.update, List.mem_map] at hcm
    obtain ⟨c', hc', rfl⟩ := hcm
    split
    · exact hf _ (hc c' hc')
    · exact hc c' hc'

theorem add_wf (m : Mux) (i : Nat) (a : Agent) (h : m.WF) (ha : a.WF) : (m.add i a).WF := by
  unfold Mux.add
  split
  · exact h
  · rename_i hnone
    obtain ⟨hk, hc⟩ := h
    have hi : i ∉ m.children.map (·.1) := by
      intro hmem
      exact hnone ((aload_isSome_iff i m.children).mpr hmem)
    constructor
    · unfold keysNodup at hk ⊢
      simp only [List.map_append, List.map_cons, List.map_nil]
      rw [List.nodup_append]
      refine ⟨hk, by simp, ?_⟩
      intro x hx y hy
      simp at hy; subst hy
      intro hxy; subst hxy; exact hi hx
    · intro c hcm
      simp only [List.mem_append, List.mem_singleton] at hcm
      rcases hcm with hcm | rfl
      · exact hc c hcm
      · exact ha

theorem aload_mem {κ β : Type} [DecidableEq κ] (k : κ) (l : List (κ × β)) (v : β) (h : aload k l = some v) :
    (k, v) ∈ l := by
  induction l with
  | nil => simp [aload] at h
  | cons e t ih =>
    obtain ⟨k', v'⟩ := e
    by_cases hk : k' = k
    · simp [aload, hk] at h; subst h; subst hk; simp
    · simp [aload, hk] at h; simp [ih h]

theorem step_wf (cfg : Cfg) (m : Mux) (op : Op) (h : m.WF) : (step cfg m op).1.WF := by
  cases op with
  | addPing a ep => exact add_wf m a _ h trivial
  | addMock a eps => exact add_wf m a _ h trivial
  | addRest a => exact add_wf m a _ h ⟨keysNodup_nil, keysNodup_nil⟩
  | addWs a => exact add_wf m a _ h keysNodup_nil
  | dropAgent a =>
    obtain ⟨hk, hc⟩ := h
    refine ⟨keysNodup_adelete a _ hk, ?_⟩
    intro c hcm
    exact hc c (List.mem_filter.mp hcm).1
  | restReg a c ep =>
    apply update_wf m a _ h
    intro x hx
    cases x with
    | rest ra => exact ⟨keysNodup_astore _ _ _ hx.1, hx.2⟩
    | _ => exact hx
  | restUnreg a c =>
    apply update_wf m a _ h
    intro x hx
    cases x with
    | rest ra => exact ⟨keysNodup_adelete _ _ hx.1, keysNodup_adelete _ _ hx.2⟩
    | _ => exact hx
  | restFetch a c =>
    simp only [step]
    split
    · rename_i ra hra
      apply update_wf m a _ h
      intro _ _
      have hmem := aload_mem a m.children _ hra
      have hwf : (Agent.rest ra).WF := h.2 _ hmem
      simp only [Rest.fetch]
      split
      · exact ⟨hwf.1, keysNodup_adelete _ _ hwf.2⟩
      · exact hwf
    · exact h
  | wsConnect a c ep =>
    apply update_wf m a _ h
    intro x hx
    cases x with
    | ws conns => exact keysNodup_astore _ _ _ hx
    | _ => exact hx
  | wsClose a c =>
    apply update_wf m a _ h
    intro x hx
    cases x with
    | ws conns => exact keysNodup_adelete _ _ hx
    | _ => exact hx
  | deliver b => exact deliver_wf cfg m b h

theorem empty_wf : (({} : Mux)).WF := ⟨keysNodup_nil, by intro c hc; cases hc⟩

theorem run_wf (cfg : Cfg) (m : Mux) (ops : List Op) (h : m.WF) : (run cfg m ops).WF := by
  induction ops generalizing m with
  | nil => exact h
  | cons op t ih => exact ih _ (step_wf cfg m op h)

theorem aload_astore {κ β : Type} [DecidableEq κ] (k k' : κ) (v : β) (l : List (κ × β)) :
    aload k' (astore k v l) = if k' = k then some v else aload k' l := by
  induction l with
  | nil => simp only [astore, aload, eq_comm]
  | cons e t ih =>
    obtain ⟨k₁, v₁⟩ := e
    by_cases h : k₁ = k
    · subst h
      by_cases h' : k₁ = k'
      · subst h'; simp [astore, aload]
      · have h'' : ¬ k' = k₁ := fun e => h' e.symm
        simp [astore, aload, h', h'']
    · by_cases h' : k₁ = k'
      · subst h'; simp [astore, aload, h]
      · simp only [astore, h, if_false, aload, h', ih]

theorem aload_adelete {κ β : Type} [DecidableEq κ] (k k' : κ) (l : List (κ × β)) :
    aload k' (adelete k l) = if k' = k then none else aload k' l := by
  induction l with
  | nil => simp [adelete, aload]
  | cons e t ih =>
    obtain ⟨k₁, v₁⟩ := e
    simp only [adelete] at ih
    by_cases h : k₁ = k
    · subst h
      by_cases h' : k₁ = k'
      · subst h'; simpa [adelete] using ih
      · have h'' : ¬ k' = k₁ := fun e => h' e.symm
        simpa [adelete, aload, h', h''] using ih
    · by_cases h' : k₁ = k'
      · subst h'; simp [adelete, aload, h]
      · simpa [adelete, h, aload, h'] using ih

theorem aload_eq_some_iff {κ β : Type} [DecidableEq κ] (k : κ) (v : β) (l : List (κ × β)) (h : keysNodup l) :
    aload k l = some v ↔ (k, v) ∈ l := by
  constructor
  · exact aload_mem k l v
  · intro hm
    induction l with
    | nil => cases hm
    | cons e t ih =>
      obtain ⟨k', v'⟩ := e
      have hnd : (k' :: t.map (·.1)).Nodup := h
      rw [List.nodup_cons] at hnd
      simp only [List.mem_cons, Prod.mk.injEq] at hm
      rcases hm with ⟨rfl, rfl⟩ | hm
      · simp [aload]
      · have hk : k' ≠ k := by
          intro e; subst e
          exact hnd.1 (List.mem_map.mpr ⟨(k', v), hm, rfl⟩)
        simp only [aload, hk, if_false]
        exact ih hnd.2 hm

/-- Appending `b` to the entries of the distinct keys `ks` (the load-append-store of a delivery). -/
theorem aload_foldl_append {κ : Type} [DecidableEq κ] (b : Bundle) (ks : List κ) (hnd : ks.Nodup) (k : κ) :
    ∀ l : List (κ × List Bundle),
      aload k (ks.foldl (fun l y => astore y ((aload y l).getD [] ++ [b]) l) l) =
        if k ∈ ks then some ((aload k l).getD [] ++ [b]) else aload k l := by
  induction ks with
  | nil => intro l; simp
  | cons y t ih =>
    intro l
    rw [List.nodup_cons] at hnd
    simp only [List.foldl_cons]
    rw [ih hnd.2]
    rw [aload_astore]
    by_cases hky : k = y
    · subst hky
      simp [hnd.1]
    · simp only [List.mem_cons, hky, false_or, if_false]

theorem deliverChildren_child (cfg : Cfg) (b : Bundle) (i : Nat) (l : List (Nat × Agent)) :
    aload i (deliverChildren cfg b l).1 =
      (aload i l).map (fun a =>
        if bagContains (a.endpoints cfg) [b.dest] then (a.receive cfg i b).1 else a) := by
  rw [deliverChildren_fst]
  exact aload_map_val
    (fun j a => if bagContains (a.endpoints cfg) [b.dest] then (a.receive cfg j b).1 else a) i l

theorem deliver_mailbox (cfg : Cfg) (hall : cfg.rangeAll = true) (m : Mux) (hwf : m.WF) (b : Bundle)
    (i : Nat) (ra : Rest) (h : m.child i = some (.rest ra)) :
    ∃ ra', (m.deliver cfg b).1.child i = some (.rest ra') ∧ ra'.clients = ra.clients ∧
      ∀ u, aload u ra'.mailbox =
        if aload u ra.clients = some b.dest then some ((aload u ra.mailbox).getD [] ++ [b])
        else aload u ra.mailbox := by
  have hra : (Agent.rest ra).WF := hwf.2 _ (aload_mem i m.children _ h)
  have hmatch : ∀ u, u ∈ ra.matching cfg b.dest ↔ aload u ra.clients = some b.dest := by
    intro u
    simp only [Rest.matching, hall, rangeVisit_all, List.mem_map, List.mem_filter, decide_eq_true_eq]
    rw [aload_eq_some_iff u b.dest ra.clients hra.1]
    constructor
    · rintro ⟨c, ⟨hc, hd⟩, rfl⟩; rw [← hd]; exact hc
    · intro hm; exact ⟨(u, b.dest), ⟨hm, rfl⟩, rfl⟩
  have hnd : (ra.matching cfg b.dest).Nodup := by
    simp only [Rest.matching, hall, rangeVisit_all]
    exact List.Nodup.sublist ((List.filter_sublist).map _) hra.1
  refine ⟨(ra.receive cfg b).1, ?_, rfl, ?_⟩
  · simp only [Mux.deliver, Mux.child, deliverChildren_child]
    have : aload i m.children = some (.rest ra) := h
    rw [this]
    simp only [Option.map_some, Agent.receive]
    split
    · rfl
    · rename_i hno
      -- nobody matches: receiving would not have changed anything
      have hnil : ra.matching cfg b.dest = [] := by
        cases hm : ra.matching cfg b.dest with
        | nil => rfl
        | cons u t =>
          exfalso; apply hno
          have hu : u ∈ ra.matching cfg b.dest := by rw [hm]; simp
          have := (hmatch u).mp hu
          have hmem := aload_mem u ra.clients _ this
          simp only [Agent.endpoints, Rest.endpoints, hall, rangeVisit_all, bagContains, List.any_eq_true,
            List.mem_map]
          exact ⟨b.dest, ⟨(u, b.dest), hmem, rfl⟩, by simp⟩
      simp [Rest.receive, hnil]
  · intro u
    simp only [Rest.receive, putMailbox]
    rw [aload_foldl_append b _ hnd u]
    by_cases hu : u ∈ ra.matching cfg b.dest
    · simp [hu, (hmatch u).mp hu]
    · have : ¬ aload u ra.clients = some b.dest := fun h => hu ((hmatch u).mpr h)
      simp [hu, this]

def crit : Thr → Bool
  | .dLocked _ | .dLoaded _ _ | .dStored _ | .fLocked | .fLoaded _ | .fDeleted _ => true
  | _ => false

/-- What a thread has read is still what the mailbox holds. -/
def consistent (s : Shared) : Thr → Prop
  | .dLoaded _ r => r = s.mbox
  | .fLoaded l => s.mbox = some l
  | _ => True

theorem consistent_of_noncrit (s : Shared) (t : Thr) (h : crit t = false) : consistent s t := by
  cases t <;> simp_all [crit, consistent]

structure Inv (l0 : List Bundle) (s : Shared) (ts : List Thr) : Prop where
  counts : ∀ x, (fetchedAll ts).count x + (s.mbox.getD []).count x =
                l0.count x + (storedAll ts).count x
  lock : ∀ j t, ts[j]? = some t → (crit t = true → s.lock = some j) ∧ consistent s t

theorem count_flatMap_set (f : Thr → List Bundle) (x : Bundle) :
    ∀ (ts : List Thr) (i : Nat) (t t' : Thr), ts[i]? = some t →
      ((ts.set i t').flatMap f).count x + (f t).count x =
        (ts.flatMap f).count x + (f t').count x := by
  intro ts
  induction ts with
  | nil => intro i t t' h; simp at h
  | cons a rest ih =>
    intro i t t' h
    cases i with
    | zero =>
      simp only [List.getElem?_cons_zero, Option.some.injEq] at h
      subst h
      simp only [List.set_cons_zero, List.flatMap_cons, List.count_append]
      omega
    | succ k =>
      simp only [List.getElem?_cons_succ] at h
      have := ih k t t' h
      simp only [List.set_cons_succ, List.flatMap_cons, List.count_append]
      omega

theorem flatMap_set_same (f : Thr → List Bundle) :
    ∀ (ts : List Thr) (i : Nat) (t t' : Thr), ts[i]? = some t → f t' = f t →
      (ts.set i t').flatMap f = ts.flatMap f := by
  intro ts
  induction ts with
  | nil => intro i t t' h; simp at h
  | cons a rest ih =>
    intro i t t' h hf
    cases i with
    | zero =>
      simp only [List.getElem?_cons_zero, Option.some.injEq] at h
      subst h
      simp [hf]
    | succ k =>
      simp only [List.getElem?_cons_succ] at h
      simp [ih k t t' h hf]

theorem idle_cases {t : Thr} (h : t.idle = true) : (∃ b, t = .dIdle b) ∨ t = .fIdle := by
  cases t <;> first | exact Or.inl ⟨_, rfl⟩ | exact Or.inr rfl | cases h

theorem done_cases {t : Thr} (h : t.done = true) : (∃ b, t = .dDone b) ∨ ∃ l, t = .fDone l := by
  cases t <;> first | exact Or.inl ⟨_, rfl⟩ | exact Or.inr ⟨_, rfl⟩ | cases h

/-- A thread can only move while the mutex is free or its own. -/
theorem stepThr_lock {i : Nat} {s : Shared} {t : Thr} {r : Shared × Thr} (hs : stepThr true i s t = some r)
    (hcrit : crit t = true → s.lock = some i) : s.lock = none ∨ s.lock = some i := by
  cases t with
  | dIdle b | fIdle =>
    simp only [stepThr, if_true] at hs
    split at hs
    · rename_i h; exact Or.inl h
    · cases hs
  | dDone b | fDone l => cases hs
  | _ => exact Or.inr (hcrit rfl)

/-- One micro-step seen from the moving thread alone: it keeps (or takes) the mutex while it is
inside the critical section, what it has read stays what the mailbox holds, and what it adds to
the fetch results or takes out of the mailbox balances what it stores. -/
theorem stepThr_spec {i : Nat} {s s' : Shared} {t t' : Thr} (hs : stepThr true i s t = some (s', t'))
    (hcrit : crit t = true → s.lock = some i) (hcons : consistent s t) :
    ((crit t' = true → s'.lock = some i) ∧ consistent s' t') ∧
    ∀ x, t'.fetched.count x + (s'.mbox.getD []).count x + t.stored.count x =
         t.fetched.count x + (s.mbox.getD []).count x + t'.stored.count x := by
  cases t with
  | dIdle b =>
    simp only [stepThr, if_true] at hs
    split at hs
    · cases hs; exact ⟨⟨fun _ => rfl, trivial⟩, fun _ => rfl⟩
    · cases hs
  | dLocked b => cases hs; exact ⟨⟨fun _ => hcrit rfl, rfl⟩, fun _ => rfl⟩
  | dLoaded b r =>
    cases hs
    refine ⟨⟨fun _ => hcrit rfl, trivial⟩, fun x => ?_⟩
    have hr : r = s.mbox := hcons
    subst hr
    simp only [Thr.fetched, Thr.stored, List.count_nil, Option.getD_some, List.count_append]
    omega
  | dStored b => cases hs; exact ⟨⟨(by intro h; cases h), trivial⟩, fun _ => rfl⟩
  | dDone b => cases hs
  | fIdle =>
    simp only [stepThr, if_true] at hs
    split at hs
    · cases hs; exact ⟨⟨fun _ => rfl, trivial⟩, fun _ => rfl⟩
    · cases hs
  | fLocked =>
    simp only [stepThr] at hs
    split at hs
    · rename_i l hl
      cases hs; exact ⟨⟨fun _ => hcrit rfl, hl⟩, fun _ => rfl⟩
    · cases hs; exact ⟨⟨fun _ => hcrit rfl, trivial⟩, fun _ => rfl⟩
  | fLoaded l =>
    cases hs
    have hl : s.mbox = some l := hcons
    refine ⟨⟨fun _ => hcrit rfl, trivial⟩, fun x => ?_⟩
    simp only [Thr.fetched, Thr.stored, List.count_nil, hl, Option.getD_some, Option.getD_none]
    omega
  | fDeleted l => cases hs; exact ⟨⟨(by intro h; cases h), trivial⟩, fun _ => rfl⟩
  | fDone l => cases hs

/-- A thread that can take a step is the only one that may be inside the critical section. -/
theorem others_noncrit {l0 s ts} (inv : Inv l0 s ts) {i t r} (hi : ts[i]? = some t)
    (hs : stepThr true i s t = some r) :
    ∀ j tj, j ≠ i → ts[j]? = some tj → crit tj = false := by
  intro j tj hne hj
  cases hc : crit tj with
  | false => rfl
  | true =>
    have hl := (inv.lock j tj hj).1 hc
    rcases stepThr_lock hs (inv.lock i t hi).1 with h | h <;> rw [hl] at h
    · cases h
    · exact absurd (Option.some.inj h) hne

theorem inv_step {l0 s ts} (inv : Inv l0 s ts) {i t s' t'} (hi : ts[i]? = some t)
    (hs : stepThr true i s t = some (s', t')) : Inv l0 s' (ts.set i t') := by
  have hothers := others_noncrit inv hi hs
  obtain ⟨hme, hloc⟩ := stepThr_spec hs (inv.lock i t hi).1 (inv.lock i t hi).2
  refine ⟨fun x => ?_, fun j tj hj => ?_⟩
  · have := count_flatMap_set Thr.fetched x ts i t t' hi
    have := count_flatMap_set Thr.stored x ts i t t' hi
    have := inv.counts x
    have := hloc x
    simp only [fetchedAll, storedAll] at *
    omega
  · rw [List.getElem?_set] at hj
    by_cases hij : i = j
    · subst hij
      have hlt : i < ts.length := (List.getElem?_eq_some_iff.mp hi).1
      simp only [if_true, hlt, Option.some.injEq] at hj
      subst hj; exact hme
    · simp only [hij, if_false] at hj
      have hnc := hothers j tj (fun h => hij h.symm) hj
      exact ⟨by simp [hnc], consistent_of_noncrit _ _ hnc⟩

theorem inv_run {l0 : List Bundle} (σ : List Nat) : ∀ (s : Shared) (ts : List Thr), Inv l0 s ts →
    Inv l0 (runSched true (s, ts) σ).1 (runSched true (s, ts) σ).2 := by
  induction σ with
  | nil => intro s ts h; exact h
  | cons i σ ih =>
    intro s ts h
    simp only [runSched]
    split
    · rename_i t hi
      split
      · rename_i s' t' hs
        exact ih _ _ (inv_step h hi hs)
      · exact ih _ _ h
    · exact ih _ _ h

theorem inv_init (mb : Option (List Bundle)) (ts : List Thr) (hidle : ∀ t ∈ ts, t.idle = true) :
    Inv (mb.getD []) { mbox := mb, lock := none } ts := by
  have hf : fetchedAll ts = [] := List.flatMap_eq_nil_iff.mpr (fun t ht => by
    rcases idle_cases (hidle t ht) with ⟨b, rfl⟩ | rfl <;> rfl)
  have hst : storedAll ts = [] := List.flatMap_eq_nil_iff.mpr (fun t ht => by
    rcases idle_cases (hidle t ht) with ⟨b, rfl⟩ | rfl <;> rfl)
  refine ⟨fun x => ?_, fun j t hj => ?_⟩
  · rw [hf, hst]
    exact (Nat.zero_add _).trans (Nat.add_zero _).symm
  · rcases idle_cases (hidle t (List.mem_of_getElem? hj)) with ⟨b, rfl⟩ | rfl <;>
      exact ⟨fun h => (Bool.false_ne_true h).elim, trivial⟩

theorem stepThr_bundle {locked i s t s' t'} (h : stepThr locked i s t = some (s', t')) :
    t'.bundle = t.bundle := by
  cases t with
  | dDone _ | fDone _ => cases h
  | dIdle b | fIdle =>
    cases locked
    · cases h; rfl
    · simp only [stepThr, if_true] at h
      split at h
      · cases h; rfl
      · cases h
  | fLocked =>
    simp only [stepThr] at h
    split at h <;> (cases h; rfl)
  | _ => cases h; rfl

theorem run_bundles (locked : Bool) (σ : List Nat) : ∀ (s : Shared) (ts : List Thr),
    bundlesAll (runSched locked (s, ts) σ).2 = bundlesAll ts := by
  induction σ with
  | nil => intro s ts; rfl
  | cons i σ ih =>
    intro s ts
    simp only [runSched]
    split
    · rename_i t hi
      split
      · rename_i s' t' hs
        rw [ih]
        exact flatMap_set_same Thr.bundle ts i t t' hi (stepThr_bundle hs)
      · exact ih _ _
    · exact ih _ _

theorem stored_eq_bundles_of_done (ts : List Thr) (h : ∀ t ∈ ts, t.done = true) :
    storedAll ts = bundlesAll ts := by
  unfold storedAll bundlesAll
  induction ts with
  | nil => rfl
  | cons a t ih =>
    rw [List.flatMap_cons, List.flatMap_cons, ih (fun x hx => h x (List.mem_cons_of_mem _ hx))]
    rcases done_cases (h a List.mem_cons_self) with ⟨b, rfl⟩ | ⟨l, rfl⟩ <;> rfl

theorem sched_perm (mb : Option (List Bundle)) (ts : List Thr) (hidle : ∀ t ∈ ts, t.idle = true)
    (σ : List Nat) :
    (fetchedAll (runSched true ({ mbox := mb, lock := none }, ts) σ).2 ++
        ((runSched true ({ mbox := mb, lock := none }, ts) σ).1.mbox.getD [])).Perm
      (mb.getD [] ++ storedAll (runSched true ({ mbox := mb, lock := none }, ts) σ).2) := by
  have inv := inv_run σ _ _ (inv_init mb ts hidle)
  rw [List.perm_iff_count]
  intro x
  have := inv.counts x
  simp only [List.count_append]
  omega

theorem statusReport_noForward (cfg : Cfg) (n : Node) (b : Bundle) :
    ∀ o ∈ statusReport cfg n b, o = .report b := by
  intro o ho
  unfold statusReport at ho
  split at ho
  · cases ho
  · split at ho
    · cases ho
    · simpa using ho

theorem localDelivery_outs (cfg : NCfg) (n : Node) (b : Bundle) (cons : List Constraint) :
    ∀ o ∈ (localDelivery cfg n b cons).2.1,
      o = .deletion b ∨ o = .report b ∨ ∃ r b', o = .handed r b' := by
  intro o ho
  unfold localDelivery at ho
  split at ho
  · simp at ho; exact Or.inl ho
  · have hAM : ∀ x ∈ (deliverAM cfg.toCfg n b (addLocal cons)).2.2.1,
        ∃ r b', x = .handed r b' := by
      intro x hx
      unfold deliverAM at hx
      split at hx
      · simp only [List.mem_map] at hx
        obtain ⟨h, _, rfl⟩ := hx; exact ⟨_, _, rfl⟩
      · cases hx
    dsimp only at ho
    by_cases hg : (cfg.reportGuard && !(deliverAM cfg.toCfg n b (addLocal cons)).1) = true
    · rw [if_pos hg] at ho
      exact Or.inr (Or.inr (hAM o ho))
    · rw [if_neg hg] at ho
      simp only [List.mem_append] at ho
      rcases ho with ho | ho
      · exact Or.inr (Or.inr (hAM o ho))
      · by_cases hr : b.reqDelivery = true
        · rw [if_pos hr] at ho
          exact Or.inr (Or.inl (statusReport_noForward _ _ _ o ho))
        · rw [if_neg hr] at ho; cases ho

/-- A bundle for a local endpoint is never given to `forward`. -/
theorem not_forwarded (cfg : NCfg) (n : Node) (b : Bundle) (cons : List Constraint)
    (h : n.hasEndpoint cfg.toCfg b.dest = true) :
    NotForwarded (dispatching cfg n b cons).2.1 = true := by
  simp only [dispatching, h, if_true, NotForwarded, List.all_eq_true]
  intro o ho
  rcases localDelivery_outs cfg n b cons o ho with rfl | rfl | ⟨r, b', rfl⟩ <;> rfl

theorem deliver_handed (cfg : Cfg) (hall : cfg.rangeAll = true) (m : Mux) (b : Bundle)
    (hep : m.hasEndpoint cfg b.dest = true) :
    ((m.deliver cfg b).2.map (fun h => Out.handed h.1 h.2)).any (Out.isHanded b) = true := by
  obtain ⟨r, hr, he⟩ := (hasEndpoint_iff cfg hall m b.dest).mp hep
  have hmem : r.1 ∈ registeredFor m.registered b.dest := by
    simp only [registeredFor, List.mem_map, List.mem_filter]
    exact ⟨r, ⟨hr, by simpa using he⟩, rfl⟩
  rw [deliver_out_eq cfg hall, List.any_eq_true]
  exact ⟨.handed r.1 b, List.mem_map.mpr ⟨(r.1, b), List.mem_map.mpr ⟨r.1, hmem, rfl⟩, rfl⟩,
    by simp [Out.isHanded]⟩

theorem report_only_after_handover (cfg : NCfg) (hall : cfg.rangeAll = true)
    (hguard : cfg.reportGuard = true) (n : Node) (b : Bundle) (cons : List Constraint) :
    ReportOnlyAfterHandover b (localDelivery cfg n b cons).2.1 = true := by
  unfold localDelivery
  split
  · simp [ReportOnlyAfterHandover]
  · simp only [hguard, Bool.true_and]
    unfold deliverAM
    by_cases hep : n.mux.hasEndpoint cfg.toCfg b.dest = true
    · simp only [hep, if_true, Bool.not_true, Bool.false_eq_true, if_false]
      simp only [ReportOnlyAfterHandover, Bool.or_eq_true, List.any_append]
      exact Or.inr (Or.inl (deliver_handed cfg.toCfg hall n.mux b hep))
    · simp [hep, ReportOnlyAfterHandover]

theorem retention_ok (cfg : NCfg) (hall : cfg.rangeAll = true) (hguard : cfg.reportGuard = true)
    (n : Node) (b : Bundle) (cons : List Constraint) :
    RetentionOk b (localDelivery cfg n b cons).2.1 (localDelivery cfg n b cons).2.2 = true := by
  unfold localDelivery
  split
  · simp [RetentionOk]
  · simp only [hguard, Bool.true_and]
    unfold deliverAM
    by_cases hep : n.mux.hasEndpoint cfg.toCfg b.dest = true
    · simp only [hep, if_true, Bool.not_true, Bool.false_eq_true, if_false]
      simp only [RetentionOk, Bool.or_eq_true, List.any_append]
      exact Or.inl (Or.inr (Or.inl (deliver_handed cfg.toCfg hall n.mux b hep)))
    · simp only [hep, Bool.false_eq_true, if_false, Bool.not_false, if_true, RetentionOk]
      have : Constraint.localEndpoint ∈ addLocal cons := by
        unfold addLocal
        by_cases hc : Constraint.localEndpoint ∈ cons
        · simp [hc]
        · simp [hc]
      simp [this]

/-- Every "delivered" report among the outputs is accompanied by a hand-over of that bundle. -/
def ReportsJustified (outs : List Out) : Prop :=
  ∀ b, Out.report b ∈ outs → ∃ r, Out.handed r b ∈ outs

theorem reportsJustified_append {o₁ o₂ : List Out} (h₁ : ReportsJustified o₁) (h₂ : ReportsJustified o₂) :
    ReportsJustified (o₁ ++ o₂) := by
  intro b hb
  simp only [List.mem_append] at hb ⊢
  rcases hb with hb | hb
  · obtain ⟨r, hr⟩ := h₁ b hb; exact ⟨r, Or.inl hr⟩
  · obtain ⟨r, hr⟩ := h₂ b hb; exact ⟨r, Or.inr hr⟩

theorem dispatching_reportsJustified (cfg : NCfg) (hall : cfg.rangeAll = true)
    (hguard : cfg.reportGuard = true) (n : Node) (b : Bundle) (cons : List Constraint) :
    ReportsJustified (dispatching cfg n b cons).2.1 := by
  intro b' hb'
  unfold dispatching at hb' ⊢
  split at hb'
  · rename_i hloc
    simp only [hloc, if_true]
    -- only `b` itself can be reported
    have hb : b' = b := by
      rcases localDelivery_outs cfg n b cons _ hb' with h | h | ⟨r, x, h⟩
      · cases h
      · cases h; rfl
      · cases h
    subst hb
    have h := report_only_after_handover cfg hall hguard n b' cons
    simp only [ReportOnlyAfterHandover, Bool.or_eq_true, Bool.not_eq_true', List.any_eq_true] at h
    rcases h with h | ⟨o, ho, hh⟩
    · have : (localDelivery cfg n b' cons).2.1.contains (Out.report b') = true := by
        simpa using hb'
      rw [this] at h; cases h
    · cases o with
      | handed r x =>
        simp only [Out.isHanded, beq_iff_eq] at hh
        subst hh; exact ⟨r, ho⟩
      | _ => simp [Out.isHanded] at hh
  · simp at hb'

theorem receive_reportsJustified (cfg : NCfg) (hall : cfg.rangeAll = true)
    (hguard : cfg.reportGuard = true) (n : Node) (b : Bundle) :
    ReportsJustified (receive cfg n b).2 := by
  unfold receive
  split
  · intro b' hb'; cases hb'
  · exact dispatching_reportsJustified cfg hall hguard n b [.dispatchPending]

theorem tick_reportsJustified (cfg : NCfg) (hall : cfg.rangeAll = true)
    (hguard : cfg.reportGuard = true) (n : Node) : ReportsJustified (tick cfg n).2 := by
  unfold tick
  suffices h : ∀ (l : List (Nat × Bundle × List Constraint)) (acc : Node × List Out),
      ReportsJustified acc.2 →
      ReportsJustified (l.foldl (fun acc e =>
        if pendingC e.2.2 then
          ((dispatching cfg acc.1 e.2.1 e.2.2).1.sync e.2.1 (dispatching cfg acc.1 e.2.1 e.2.2).2.2,
            acc.2 ++ (dispatching cfg acc.1 e.2.1 e.2.2).2.1)
        else acc) acc).2 from
    h n.store (n, []) (by intro b hb; cases hb)
  intro l
  induction l with
  | nil => intro acc h; exact h
  | cons e t ih =>
    intro acc h
    simp only [List.foldl_cons]
    apply ih
    split
    · exact reportsJustified_append h (dispatching_reportsJustified cfg hall hguard _ _ _)
    · exact h

end Dtn7.Delivery.Lemmas
