/-
C05, full strength: the retention invariant along EVERY history — no domain hypothesis — for the code as it
is (`Cur c`: sequence number first, stored numbers skipped, refused dispatching holds the bundle, expiry
of clock-less bundles counted from now), for every send oracle and every routing algorithm.

Why no hypothesis about the history is needed: with /repo 43cf7bc (`skipStored`) a submission is filed
under an ID that is not in the store (`assignSeq_free`), so it can neither disturb nor be disturbed by any
bundle the node holds; a reception under a known ID leaves the stored bundle alone (`receive_known`).
(`Dtn7.Lemmas.NodeC05` has the invariant for every variant of the code on the histories of `Domain`.)
-/
import Dtn7.Lemmas.NodeC05
import Dtn7.Lemmas.NodeSkip

namespace Dtn7.Node

/-- The code as it is (every variant flag of the model set as the regenerated facts say). -/
structure Cur (c : Cfg) : Prop where
  seq : c.seqFirst = true
  skip : c.skipStored = true
  hold : c.holdFix = true
  exp : c.expiryNow = true

/-- Bundles that agree in what the forwarding decisions and the expiry depend on. -/
def SameFwd (a b : Bundle) : Prop :=
  a.ts = b.ts ∧ a.dst = b.dst ∧ a.lifetime = b.lifetime ∧ a.hop = b.hop ∧ a.age = b.age

theorem SameFwd.refl (a : Bundle) : SameFwd a a := ⟨rfl, rfl, rfl, rfl, rfl⟩

theorem SameFwd.trans {a b c : Bundle} (h1 : SameFwd a b) (h2 : SameFwd b c) : SameFwd a c :=
  ⟨h1.1.trans h2.1, h1.2.1.trans h2.2.1, h1.2.2.1.trans h2.2.2.1, h1.2.2.2.1.trans h2.2.2.2.1,
   h1.2.2.2.2.trans h2.2.2.2.2⟩

theorem forwardable_congrF {a b : Bundle} (now : Nat) (h : SameFwd a b) (hf : forwardable now b) :
    forwardable now a := by
  unfold forwardable hopExceeded lifetimeExceeded ageExpired at *
  rw [h.1, h.2.2.1, h.2.2.2.1, h.2.2.2.2]
  exact hf

theorem calcExpires_congrF {a b : Bundle} (c : Cfg) (at_ : Nat) (h : SameFwd a b) :
    calcExpires c at_ a = calcExpires c at_ b := by
  unfold calcExpires
  rw [h.1, h.2.2.1, h.2.2.2.2]

/-- The store's expiry of the item does not end before the obligation's lifetime. -/
def ExpOk (ob : Obl) (it : Item) : Prop :=
  ∀ t, lifetimeOk t ob.acceptedAt ob.b = true → ¬ it.expires < t

/-- What the invariant says about one live obligation: under the obligation's ID the store holds a
waiting (pending, retention constraint of its own) copy of the bundle — for a submission the very bundle —
whose expiry does not end before the bundle's lifetime. -/
structure OblF (c : Cfg) (n : Node) (ob : Obl) : Prop where
  dst : hasEndpoint c ob.b.dst = false
  hop : hopRefused ob.b = false
  item : ∃ it, n.store.get ob.key = some it ∧ Stable it ∧ SameFwd it.bundle ob.b ∧
    (ob.strict = true → it.bundle.tag = ob.b.tag) ∧ ExpOk ob it

structure RInvF (c : Cfg) (s : SpecSt) (n : Node) : Prop where
  wf : WF n
  cfg : n.cfg = c
  now : s.now = n.now
  prev : s.prev = viewOf n
  obls : ∀ ob ∈ s.obls, OblF c n ob
  peers : s.peers = n.peers
  pnodup : (n.peers.map (·.addr)).Nodup

theorem RInvF.v {c : Cfg} {s : SpecSt} {n : Node} (h : RInvF c s n) : VInv c s n :=
  ⟨h.wf, h.cfg, h.now, h.prev, h.peers, h.pnodup⟩

theorem OblF.frame {c : Cfg} {n n' : Node} {ob : Obl} (h : OblF c n ob)
    (hg : n'.store.get ob.key = n.store.get ob.key) : OblF c n' ob :=
  ⟨h.dst, h.hop, by rw [hg]; exact h.item⟩

/-- The obligation is still met when its item was kept (pending, same bundle and expiry). -/
theorem OblF.of_kept {c : Cfg} {n n' : Node} {ob : Obl} {it : Item} (h : OblF c n ob)
    (hg : n.store.get ob.key = some it) (hk : Kept it (n'.store.get ob.key)) : OblF c n' ob := by
  rcases h.item with ⟨it0, hg0, _, hsb, htag, hexp⟩
  cases hg.symm.trans hg0
  rcases hk.stable with ⟨it', g', s', b', x'⟩
  exact ⟨h.dst, h.hop, it', g', s', by rw [b']; exact hsb, by rw [b']; exact htag,
    fun t ht => by rw [x']; exact hexp t ht⟩

/-- An item that satisfies the invariant is found by the Spec's lookup and is pending. -/
theorem retained1_okF {c : Cfg} {n : Node} {ob : Obl} (e : Event) (outs : List Output) (h : OblF c n ob) :
    retainedFail1 ⟨e, outs, viewOf n⟩ ob = none := by
  rcases h.item with ⟨it, hg, hst, _, htag, _⟩
  have hc : (!ob.strict || (itemView (ob.key, it)).bundle.tag == ob.b.tag) = true := by
    cases hs : ob.strict
    · simp
    · simp [itemView, htag hs]
  unfold retainedFail1 Obl.item
  simp only
  rw [viewOf_get, hg]
  simp only [Option.map_some, hc, if_true]
  simp [itemView, hst.1]

theorem discharged_of_okSentF {ob : Obl} {outs : List Output} {b0 : Bundle} (h : OkSent outs b0)
    (ht : ob.strict = true → b0.tag = ob.b.tag) (hk : b0.key = ob.key) : ob.discharged outs = true := by
  rcases h with ⟨p, b, hm, htag, hkey⟩
  unfold Obl.discharged
  apply List.any_eq_true.mpr
  refine ⟨_, hm, ?_⟩
  simp only [Bool.true_and]
  cases hs : ob.strict
  · simp [hkey, hk]
  · simp [hkey, hk, htag, ht hs]

theorem discharged_appendF {ob : Obl} {a b : List Output} (h : ob.discharged a = true) :
    ob.discharged (a ++ b) = true := by
  unfold Obl.discharged at *
  rw [List.any_append, h, Bool.true_or]

/-! ## From the facts about one step to the Spec clause and the invariant -/

structure CoreF (c : Cfg) (s : SpecSt) (o : Obs) (m : Node) : Prop where
  wf : WF m
  cfg : m.cfg = c
  now : m.now = nowAfter s.now o.ev
  view : o.view = viewOf m
  old : ∀ ob ∈ s.obls, ob.discharged o.outs = true ∨
    lifetimeOk (nowAfter s.now o.ev) ob.acceptedAt ob.b = false ∨ OblF c m ob
  new : ∀ ob, newObl c s o = some ob → ob.discharged o.outs = true ∨ OblF c m ob
  peers : m.peers = peersAfter s.peers o.ev
  pnodup : (m.peers.map (·.addr)).Nodup

theorem rinvF_of_core (c : Cfg) (s : SpecSt) (o : Obs) (m : Node) (h : CoreF c s o m) :
    retainedFail c s o = none ∧ RInvF c (specNext c s o) m := by
  have hall : ∀ ob ∈ oblsAfter c s o, OblF c m ob := by
    intro ob hob
    unfold oblsAfter at hob
    rcases List.mem_filter.mp hob with ⟨hmem, hcond⟩
    simp only [Bool.and_eq_true, Bool.not_eq_true'] at hcond
    rcases List.mem_append.mp hmem with h1 | h1
    · rcases h.old ob h1 with h2 | h2 | h2
      · rw [hcond.1] at h2; cases h2
      · rw [h2] at hcond; exact absurd hcond.2 (by simp)
      · exact h2
    · have hn : newObl c s o = some ob := by
        cases hno : newObl c s o with
        | none => simp [hno] at h1
        | some ob' => simp [hno] at h1; rw [h1]
      rcases h.new ob hn with h2 | h2
      · rw [hcond.1] at h2; cases h2
      · exact h2
  constructor
  · unfold retainedFail
    apply List.findSome?_eq_none_iff.mpr
    intro ob hob
    have := retained1_okF o.ev o.outs (hall ob hob)
    rw [← h.view] at this
    exact this
  · exact ⟨h.wf, h.cfg, h.now.symm, h.view, hall, h.peers.symm, h.pnodup⟩

section events
variable (c : Cfg) (env : Env) (s : SpecSt) (n : Node)

def obsStep (e : Event) : Obs := obsOf (e, (step env n e).2, (step env n e).1)

theorem obsStep_view (e : Event) : (obsStep env n e).view = viewOf (step env n e).1 := rfl
theorem obsStep_ev (e : Event) : (obsStep env n e).ev = e := rfl
theorem obsStep_outs (e : Event) :
    (obsStep env n e).outs = (stepCore env n e).2 ++ deletedKeys n.store (stepCore env n e).1.store := rfl
theorem step_store (e : Event) : (step env n e).1.store = (stepCore env n e).1.store := rfl
theorem step_cfg (e : Event) : (step env n e).1.cfg = (stepCore env n e).1.cfg := rfl
theorem step_now (e : Event) : (step env n e).1.now = (stepCore env n e).1.now := rfl
theorem step_peers (e : Event) : (step env n e).1.peers = (stepCore env n e).1.peers := rfl

theorem wf_step {e : Event} (w : WF (stepCore env n e).1) : WF (step env n e).1 := ⟨w.keyed, w.nodup⟩

theorem newObl_none_of (o : Obs) (h : ∀ b, o.ev ≠ .submit b) (h' : ∀ b r, o.ev ≠ .receive b r) :
    newObl c s o = none := by
  unfold newObl
  cases he : o.ev with
  | submit b => exact absurd he (h b)
  | receive b r => exact absurd he (h' b r)
  | _ => rfl

/-- `peerDown`, `restart`, `cleanTick` (`stepCore_quiet`): no new obligation; a store that is kept keeps every
obligation, and `cleanTick` deletes no item whose obligation still runs (`ExpOk`). -/
theorem coreF_quiet (e : Event) (he : (∃ a, e = .peerDown a) ∨ e = .restart ∨ ∃ t, e = .cleanTick t)
    (inv : RInvF c s n) : CoreF c s (obsStep env n e) (step env n e).1 := by
  rcases stepCore_quiet c env s n e he inv.v with ⟨w, hc, hn, hp, hpn, _, _⟩
  have hnew : newObl c s (obsStep env n e) = none :=
    newObl_none_of c s _ (by rcases he with ⟨a, rfl⟩ | rfl | ⟨t, rfl⟩ <;> exact fun _ h => by cases h)
      (by rcases he with ⟨a, rfl⟩ | rfl | ⟨t, rfl⟩ <;> exact fun _ _ h => by cases h)
  refine ⟨wf_step env n w, hc, hn, rfl, fun ob hob => ?_, fun ob hob => (by rw [hnew] at hob; cases hob), hp, hpn⟩
  have hok := inv.obls ob hob
  rcases he with ⟨a, rfl⟩ | rfl | ⟨t, rfl⟩
  · exact .inr (.inr (hok.frame rfl))
  · exact .inr (.inr (hok.frame rfl))
  · by_cases hl : lifetimeOk t ob.acceptedAt ob.b = true
    · right; right
      rcases hok.item with ⟨it, hg, _, _, _, hexp⟩
      refine hok.frame ?_
      rw [step_store, cleanTick_get]
      have : ob.key ∉ expiredKeys n.store t := by
        intro hmem
        unfold expiredKeys at hmem
        have := (List.mem_filter.mp hmem).2
        rw [hg] at this
        simp only [decide_eq_true_eq] at this
        exact hexp t hl this
      simp [this]
    · right; left
      simpa [nowAfter, obsStep_ev] using hl

/-- `peerUp` and `retryTick`: `checkPendingBundles` in a state with the store of `n`. -/
theorem coreF_pending (hfix : c.holdFix = true) (e : Event) (he : (∃ p, e = .peerUp p) ∨ e = .retryTick)
    (inv : RInvF c s n) : CoreF c s (obsStep env n e) (step env n e).1 := by
  rcases stepCore_checkPending env n e inv.pnodup he with ⟨n1, hs, hcfg, hnow, _, hp', hpn, hcore⟩
  have hev : nowAfter s.now e = s.now := by rcases he with ⟨p, rfl⟩ | rfl <;> rfl
  have h1 : ∀ b, e ≠ .submit b := by rcases he with ⟨p, rfl⟩ | rfl <;> exact fun _ h => by cases h
  have h2 : ∀ b r, e ≠ .receive b r := by rcases he with ⟨p, rfl⟩ | rfl <;> exact fun _ _ h => by cases h
  have hp : n1.peers = peersAfter s.peers e := by rw [hp', inv.peers]
  have w1 : WF n1 := ⟨by rw [hs]; exact inv.wf.keyed, by rw [hs]; exact inv.wf.nodup⟩
  have hm : (stepCore env n e).1 = (checkPending env n1).1 := by rw [hcore]
  have ho : (stepCore env n e).2 = (checkPending env n1).2 := by rw [hcore]
  unfold checkPending at hm ho
  rcases dispatchKeys_kstep env (pendingKeys n1.store) n1 w1 with ⟨w', e', _, _, _⟩
  refine ⟨wf_step env n (by rw [hm]; exact w'), by rw [step_cfg, hm]; exact (e'.cfg.trans hcfg).trans inv.cfg,
    ?_, rfl, ?_, ?_, by rw [step_peers, hm]; exact e'.peers.trans hp, by rw [step_peers, hm, e'.peers]; exact hpn⟩
  · rw [step_now, hm, obsStep_ev, hev, e'.now, hnow, inv.now]
  · intro ob hob
    rw [obsStep_ev]
    by_cases hl : lifetimeOk (nowAfter s.now e) ob.acceptedAt ob.b = true
    · have hok := inv.obls ob hob
      rcases hok.item with ⟨it, hg, hst, hsb, htag, hexp⟩
      have hg1 : n1.store.get ob.key = some it := by rw [hs]; exact hg
      have hfw : forwardable n1.now it.bundle := by
        rw [hnow, ← inv.now, ← hev]
        exact forwardable_congrF _ hsb (forwardable_of_ok _ _ _ hl hok.hop)
      have hdst : hasEndpoint n1.cfg it.bundle.dst = false := by
        rw [hcfg, inv.cfg, hsb.2.1]; exact hok.dst
      have := dispatchKeys_kept env ob.key (pendingKeys n1.store) n1 it w1
        (by rw [hcfg, inv.cfg]; exact hfix) hg1 hst (fun _ => ⟨hfw, hdst⟩)
      rcases this with h | h
      · left
        rw [obsStep_outs, ho]
        exact discharged_appendF (discharged_of_okSentF h htag (inv.wf.keyed _ _ hg))
      · right; right
        exact hok.of_kept hg (by rw [step_store, hm]; exact h)
    · right; left
      cases h : lifetimeOk (nowAfter s.now e) ob.acceptedAt ob.b
      · rfl
      · exact absurd h hl
  · intro ob hob
    rw [newObl_none_of c s _ (by rw [obsStep_ev]; exact h1) (by rw [obsStep_ev]; exact h2)] at hob
    cases hob

theorem coreF_receive (hc : Cur c) (b : Bundle) (r : Option Eid) (inv : RInvF c s n) :
    CoreF c s (obsStep env n (.receive b r)) (step env n (.receive b r)).1 := by
  have hstep := receive_kstep env b r n
  have hm : (stepCore env n (.receive b r)).1 = (receive env b r n).1 := rfl
  have ho : (stepCore env n (.receive b r)).2 = (receive env b r n).2 := rfl
  refine ⟨wf_step env n (hstep.wf inv.wf), by rw [step_cfg, hm]; exact hstep.only.env.cfg.trans inv.cfg, ?_, rfl, ?_, ?_,
    by rw [step_peers, hm, hstep.only.env.peers]; simp [peersAfter, inv.peers, obsStep_ev],
    by rw [step_peers, hm, hstep.only.env.peers]; exact inv.pnodup⟩
  · rw [step_now, hm, hstep.only.env.now, ← inv.now]; rfl
  · intro ob hob
    have hok := inv.obls ob hob
    right; right
    by_cases hk : ob.key = b.key
    · -- a reception under the ID of a waiting bundle leaves it waiting
      rcases hok.item with ⟨it, hg, hst, hsb, htag, hexpok⟩
      have hg' : n.store.get b.key = some it := by rw [← hk]; exact hg
      rcases receive_known env b r n it hg' hst with ⟨_, hkept⟩
      exact hok.of_kept hg (by rw [hk, step_store, hm]; exact hkept)
    · exact hok.frame (by rw [step_store, hm]; exact hstep.only.other _ hk)
  · intro ob hob
    unfold newObl at hob
    simp only [obsStep_ev] at hob
    split at hob
    · rename_i hcond
      cases hob
      simp only [Bool.and_eq_true, Bool.not_eq_true'] at hcond
      obtain ⟨⟨⟨⟨hdst, hlife⟩, hhop⟩, hdel⟩, hnone⟩ := hcond
      have hfresh : n.store.get b.key = none := by
        rw [inv.prev, viewOf_get] at hnone
        cases hg : n.store.get b.key with
        | none => rfl
        | some it => simp [hg] at hnone
      have hdst' : hasEndpoint n.cfg b.dst = false := by rw [inv.cfg]; exact hasEndpoint_false_of hdst
      have hf : forwardable n.now b := by rw [← inv.now]; exact forwardable_of_ok _ _ _ hlife hhop
      rcases receive_new env b r n (by rw [inv.cfg]; exact hc.hold) hfresh hdel hf hdst' with h | h
      · left
        rw [obsStep_outs, ho]
        exact discharged_appendF (discharged_of_okSentF h (fun h => by cases h) rfl)
      · right
        rcases h with ⟨it, hg, hst, hb, he⟩
        refine ⟨by rw [← inv.cfg]; exact hdst', hhop, it, by rw [step_store, hm]; exact hg, hst,
          by rw [hb]; exact SameFwd.refl _, (by intro h; exact Bool.noConfusion h), ?_⟩
        intro t ht
        rw [he, inv.cfg, ← inv.now]
        exact calcExpires_ok c hc.exp t s.now b ht
    · cases hob

theorem findSome?_eq_of {α β} (f : α → Option β) (v : β) : ∀ (l : List α),
    (∀ x ∈ l, f x = none ∨ f x = some v) → (∃ x ∈ l, f x = some v) → l.findSome? f = some v
  | [], _, h => by rcases h with ⟨x, hx, _⟩; cases hx
  | a :: l, hall, hex => by
    simp only [List.findSome?_cons]
    rcases hall a List.mem_cons_self with ha | ha
    · rw [ha]
      simp only
      apply findSome?_eq_of f v l (fun x hx => hall x (List.mem_cons_of_mem _ hx))
      rcases hex with ⟨x, hx, hfx⟩
      rcases List.mem_cons.mp hx with hxa | hxl
      · subst hxa; rw [ha] at hfx; cases hfx
      · exact ⟨x, hxl, hfx⟩
    · rw [ha]

/-- The ID the Spec reads off the observation of a submission is the ID the node assigned. -/
theorem filedKey_eq (prev : View) (o : Obs) (b b' : Bundle) (hb' : ∃ q, b' = { b with seq := q })
    (hnew : (prev.get b'.key).isNone = true)
    (houts : ∀ x ∈ o.outs, (∃ k, x = Output.deleted k) ∨ ∃ p ok, x = Output.sent p b' ok)
    (hitems : ∀ i ∈ o.view.items, (prev.get i.key).isNone = true → i.key = b'.key)
    (hsome : (∃ p ok, Output.sent p b' ok ∈ o.outs) ∨
      ∃ i ∈ o.view.items, i.key = b'.key ∧ i.bundle.tag = b.tag) :
    filedKey prev o b = b'.key := by
  rcases hb' with ⟨q, rfl⟩
  have hk : ({ b with seq := q } : Bundle).key = ⟨b.src, b.ts, q⟩ := rfl
  have hnk : isNewKey prev b ({ b with seq := q } : Bundle).key = true := by
    unfold isNewKey
    rw [hnew]
    simp [hk]
  have hsel : ∀ p ok, newKeyOf prev b (Output.sent p { b with seq := q } ok) = some ({ b with seq := q } : Bundle).key := by
    intro p ok
    simp only [newKeyOf, hnk, Bool.and_true, beq_self_eq_true, if_true]
  unfold filedKey
  by_cases hs : ∃ p ok, Output.sent p { b with seq := q } ok ∈ o.outs
  · rcases hs with ⟨p, ok, hm⟩
    have : o.outs.findSome? (newKeyOf prev b) = some ({ b with seq := q } : Bundle).key := by
      apply findSome?_eq_of
      · intro x hx
        rcases houts x hx with ⟨k, rfl⟩ | ⟨p', ok', rfl⟩
        · left; rfl
        · right; exact hsel p' ok'
      · exact ⟨_, hm, hsel p ok⟩
    rw [this]
  · have hnone : o.outs.findSome? (newKeyOf prev b) = none := by
      apply List.findSome?_eq_none_iff.mpr
      intro x hx
      rcases houts x hx with ⟨k, rfl⟩ | ⟨p', ok', rfl⟩
      · rfl
      · exact absurd ⟨p', ok', hx⟩ hs
    rw [hnone]
    simp only
    rcases hsome with h | ⟨i, hi, hik, hit⟩
    · exact absurd h hs
    · cases hf : o.view.items.find? (isNewItem prev b) with
      | none =>
        have := List.find?_eq_none.mp hf i hi
        exfalso
        apply this
        unfold isNewItem
        rw [hik, hnk, hit]
        simp
      | some j =>
        simp only
        have hj := List.find?_some hf
        have hjm := List.mem_of_find?_eq_some hf
        unfold isNewItem isNewKey at hj
        simp only [Bool.and_eq_true] at hj
        exact hitems j hjm hj.2.2

theorem coreF_submit (hc : Cur c) (b : Bundle) (inv : RInvF c s n) :
    CoreF c s (obsStep env n (.submit b)) (step env n (.submit b)).1 := by
  have hseq : n.cfg.seqFirst = true := by rw [inv.cfg]; exact hc.seq
  have hskip : n.cfg.skipStored = true := by rw [inv.cfg]; exact hc.skip
  rcases assignSeq_free b n hskip with ⟨⟨q, hq⟩, _, hfree⟩
  rcases sendBundle_only_any env b n inv.wf hseq hskip with ⟨hwf, honly, hnames⟩
  have hm : (stepCore env n (.submit b)).1 = (sendBundle env b n).1 := rfl
  have ho : (stepCore env n (.submit b)).2 = (sendBundle env b n).2 := rfl
  generalize hb' : (assignSeq b n).1 = b' at hq hfree honly hnames
  refine ⟨wf_step env n (e := .submit b) hwf, by rw [step_cfg, hm]; exact honly.env.cfg.trans inv.cfg, ?_, rfl, ?_, ?_,
    by rw [step_peers, hm, honly.env.peers]; simp [peersAfter, inv.peers, obsStep_ev],
    by rw [step_peers, hm, honly.env.peers]; exact inv.pnodup⟩
  · rw [step_now, hm, honly.env.now, ← inv.now]; rfl
  · -- the bundles the node holds are not touched: the new ID is not one of theirs
    intro ob hob
    right; right
    have hok := inv.obls ob hob
    refine hok.frame ?_
    rw [step_store, hm]
    apply honly.other
    intro hk
    rcases hok.item with ⟨it, hg, _⟩
    rw [hk, hfree] at hg
    cases hg
  · intro ob hob
    unfold newObl at hob
    simp only [obsStep_ev] at hob
    split at hob
    · rename_i hcond
      simp only [Bool.and_eq_true, Bool.not_eq_true', beq_iff_eq] at hcond
      obtain ⟨⟨⟨hsrc, hdst⟩, hlife⟩, hhop⟩ := hcond
      have hsrc' : hasEndpoint n.cfg b.src = true := by rw [inv.cfg]; simp [hasEndpoint, hsrc]
      have hdst' : hasEndpoint n.cfg b.dst = false := by rw [inv.cfg]; exact hasEndpoint_false_of hdst
      have hf : forwardable n.now b := by rw [← inv.now]; exact forwardable_of_ok _ _ _ hlife hhop
      have hkept := sendBundle_kept_any env b n (by rw [inv.cfg]; exact hc.hold) hseq hskip hsrc' hf hdst'
      rw [hb'] at hkept
      -- the Spec finds the assigned ID
      have hprevnone : (s.prev.get b'.key).isNone = true := by
        rw [inv.prev, viewOf_get, hfree]; rfl
      have hitems : ∀ i ∈ (obsStep env n (.submit b)).view.items, (s.prev.get i.key).isNone = true →
          i.key = b'.key := by
        intro i hi hnone
        rw [obsStep_view] at hi
        rcases mem_viewOf (wf_step env n (e := .submit b) hwf) hi with ⟨k, it, hg, rfl⟩
        simp only [itemView] at hnone ⊢
        by_cases hk : k = b'.key
        · exact hk
        · exfalso
          rw [step_store, hm, honly.other k hk] at hg
          rw [inv.prev, viewOf_get, hg] at hnone
          simp at hnone
      have houts : ∀ x ∈ (obsStep env n (.submit b)).outs,
          (∃ k, x = Output.deleted k) ∨ ∃ p ok, x = Output.sent p b' ok := by
        intro x hx
        rw [obsStep_outs, ho] at hx
        rcases List.mem_append.mp hx with h | h
        · exact Or.inr (hnames x h)
        · unfold deletedKeys at h
          rcases List.mem_map.mp h with ⟨kv, _, rfl⟩
          exact Or.inl ⟨_, rfl⟩
      have hsome : (∃ p ok, Output.sent p b' ok ∈ (obsStep env n (.submit b)).outs) ∨
          ∃ i ∈ (obsStep env n (.submit b)).view.items, i.key = b'.key ∧ i.bundle.tag = b.tag := by
        rcases hkept with ⟨p, bb, hmem, _, _⟩ | ⟨it, hg, _, hbe, _⟩
        · left
          rcases hnames _ hmem with ⟨p', ok', he⟩
          refine ⟨p', ok', ?_⟩
          rw [obsStep_outs, ho, ← he]
          exact List.mem_append_left _ hmem
        · right
          refine ⟨itemView (b'.key, it), ?_, rfl, ?_⟩
          · rw [obsStep_view]
            exact List.mem_map.mpr ⟨(b'.key, it), Store.mem_of_get (by rw [step_store, hm]; exact hg), rfl⟩
          · simp only [itemView, hbe, hq]
      have hfk := filedKey_eq s.prev (obsStep env n (.submit b)) b b' ⟨q, hq⟩ hprevnone houts hitems hsome
      rw [hfk] at hob
      cases hob
      rcases hkept with h | h
      · left
        rw [obsStep_outs, ho]
        exact discharged_appendF (discharged_of_okSentF h (fun _ => by rw [hq]) rfl)
      · right
        rcases h with ⟨it, hg, hst, hbe, he⟩
        have hsf : SameFwd b' b := by rw [hq]; exact SameFwd.refl _ |>.trans ⟨rfl, rfl, rfl, rfl, rfl⟩
        refine ⟨by rw [← inv.cfg]; exact hdst', hhop, it, by rw [step_store, hm]; exact hg, hst,
          by rw [hbe]; exact hsf, fun _ => by rw [hbe, hq], ?_⟩
        intro t ht
        rw [he, inv.cfg, ← inv.now, calcExpires_congrF c s.now hsf]
        exact calcExpires_ok c hc.exp t s.now b ht
    · cases hob

end events

theorem rinvF_step (c : Cfg) (hc : Cur c) (env : Env) (e : Event) (s : SpecSt) (n : Node) (inv : RInvF c s n) :
    retainedFail c s (obsOf (e, (step env n e).2, (step env n e).1)) = none ∧
    RInvF c (specNext c s (obsOf (e, (step env n e).2, (step env n e).1))) (step env n e).1 := by
  apply rinvF_of_core c s _ _
  cases e with
  | submit b => exact coreF_submit c env s n hc b inv
  | receive b r => exact coreF_receive c env s n hc b r inv
  | peerUp p => exact coreF_pending c env s n hc.hold _ (Or.inl ⟨p, rfl⟩) inv
  | peerDown a => exact coreF_quiet c env s n _ (Or.inl ⟨a, rfl⟩) inv
  | retryTick => exact coreF_pending c env s n hc.hold _ (Or.inr rfl) inv
  | cleanTick t => exact coreF_quiet c env s n _ (Or.inr (Or.inr ⟨t, rfl⟩)) inv
  | restart => exact coreF_quiet c env s n _ (Or.inr (Or.inl rfl)) inv

theorem retained_run_full (c : Cfg) (hc : Cur c) (env : Env) :
    ∀ (h : List Event) (s : SpecSt) (n : Node) (i : Nat), RInvF c s n →
    firstFail retainedFail c s i ((trace env n h).map obsOf) = none
  | [], _, _, _, _ => rfl
  | e :: h, s, n, i, inv => by
    simp only [trace, List.map_cons, firstFail]
    rcases rinvF_step c hc env e s n inv with ⟨h1, h2⟩
    rw [h1]
    simp only
    exact retained_run_full c hc env h _ _ (i + 1) h2

theorem rinvF_init (c : Cfg) (now : Nat) : RInvF c (SpecSt.init now) (init c now) := by
  refine ⟨⟨?_, ?_⟩, rfl, rfl, rfl, ?_, rfl, ?_⟩
  · intro k it h; simp [init, Store.get] at h
  · simp [init, Store.keys]
  · intro ob h; simp [SpecSt.init] at h
  · simp [init]

end Dtn7.Node
