/-
Event-level lemmas: what one event does to the item of one bundle.
-/
import Dtn7.Lemmas.NodeFwd

namespace Dtn7.Node

/-- An item that waits for its next retry. -/
def Stable (it : Item) : Prop := it.pending = true ∧ it.cons.pendingRule = true ∧ it.cons.le = false

theorem Kept.stable {it : Item} {o : Option Item} (h : Kept it o) :
    ∃ it', o = some it' ∧ Stable it' ∧ it'.bundle = it.bundle ∧ it'.expires = it.expires := by
  rcases h with ⟨it', h1, h2, h3, h4, h5, h6⟩
  exact ⟨it', h1, ⟨h2, h5, h6⟩, h3, h4⟩

theorem Kept.of_stable {it : Item} (h : Stable it) : Kept it (some it) :=
  ⟨it, rfl, h.1, rfl, rfl, h.2.1, h.2.2⟩

theorem pendingRule_rp {c : Cons} (h : c.pendingRule = true) : c.rp = false := by
  unfold Cons.pendingRule at h
  cases hr : c.rp <;> simp_all

theorem OkSent.append_left {a b : List Output} {t : Bundle} (h : OkSent a t) : OkSent (a ++ b) t := by
  rcases h with ⟨p, bb, hm, ht⟩
  exact ⟨p, bb, List.mem_append_left _ hm, ht⟩

theorem OkSent.append_right {a b : List Output} {t : Bundle} (h : OkSent b t) : OkSent (a ++ b) t := by
  rcases h with ⟨p, bb, hm, ht⟩
  exact ⟨p, bb, List.mem_append_right _ hm, ht⟩

theorem newDesc_of_some {n : Node} {k : Key} {it : Item} (h : n.store.get k = some it) :
    newDesc n k = ⟨k, it.receiver, it.cons, none⟩ := by
  unfold newDesc; rw [h]

theorem newDesc_of_none {n : Node} {k : Key} (h : n.store.get k = none) : newDesc n k = ⟨k, none, Cons.empty, none⟩ := by
  unfold newDesc; rw [h]

theorem newDesc_key (n : Node) (k : Key) : (newDesc n k).key = k := by
  unfold newDesc; cases n.store.get k <;> rfl

theorem newDesc_bndl (n : Node) (k : Key) : (newDesc n k).bndl = none := by
  unfold newDesc; cases n.store.get k <;> rfl

theorem newDesc_cons (n : Node) (k : Key) (it : Item) (h : n.store.get k = some it) :
    (newDesc n k).cons = it.cons := by
  rw [newDesc_of_some h]

theorem descTag_newDesc (n : Node) (k : Key) (it : Item) : descTag (newDesc n k) it = it.bundle := by
  unfold descTag; rw [newDesc_bndl]

/-! ## checkPendingBundles -/

theorem retry_kstep (env : Env) (n : Node) (k : Key) (w : WF n) : KStep k n (dispatching env (newDesc n k) n).1 := by
  have hd := dispatching_only env (newDesc n k) n w (by intro b h; rw [newDesc_bndl] at h; cases h)
  rw [newDesc_key] at hd
  exact hd

theorem dispatchKeys_kstep (env : Env) : ∀ (ks : List Key) (n : Node), WF n →
    WF (dispatchKeys env ks n).1 ∧ SameEnv n (dispatchKeys env ks n).1 ∧
    (∀ k, k ∉ ks → (dispatchKeys env ks n).1.store.get k = n.store.get k) ∧
    (dispatchKeys env ks n).1.idk = n.idk ∧
    (∀ k, k ∉ ks → lookupMeta (dispatchKeys env ks n).1.spray k = lookupMeta n.spray k)
  | [], n, w => ⟨w, SameEnv.refl n, fun _ _ => rfl, rfl, fun _ _ => rfl⟩
  | k₁ :: ks, n, w => by
    simp only [dispatchKeys]
    have hd := retry_kstep env n k₁ w
    rcases dispatchKeys_kstep env ks _ (hd.wf w) with ⟨w', e', o', i', s'⟩
    refine ⟨w', hd.only.env.trans e', ?_, i'.trans hd.idk, ?_⟩
    · intro k hk
      have hk1 : k ≠ k₁ := fun e => hk (e ▸ List.mem_cons_self)
      have hk2 : k ∉ ks := fun e => hk (List.mem_cons_of_mem _ e)
      rw [o' k hk2, hd.only.other k hk1]
    · intro k hk
      have hk1 : k ≠ k₁ := fun e => hk (e ▸ List.mem_cons_self)
      have hk2 : k ∉ ks := fun e => hk (List.mem_cons_of_mem _ e)
      rw [s' k hk2, hd.only.spray k hk1]

/-- Retention across `checkPendingBundles`: a waiting item under `k` is sent successfully or still waits after the
whole run. The retries of other keys do not touch it (`retry_kstep`); its own retry sends it or keeps it
(`dispatching_kept`), and once it was sent successfully the rest of the run only appends outputs. -/
theorem dispatchKeys_kept (env : Env) (k : Key) : ∀ (ks : List Key) (n : Node) (it : Item),
    WF n → n.cfg.holdFix = true → n.store.get k = some it → Stable it →
    (loadable n.now it.bundle = true → forwardable n.now it.bundle ∧ hasEndpoint n.cfg it.bundle.dst = false) →
    OkSent (dispatchKeys env ks n).2 it.bundle ∨ Kept it ((dispatchKeys env ks n).1.store.get k)
  | [], n, it, _, _, hg, hs, _ => by
    right
    simp only [dispatchKeys]
    rw [hg]
    exact Kept.of_stable hs
  | k₁ :: ks, n, it, w, hfix, hg, hs, hl => by
    simp only [dispatchKeys]
    have hd := retry_kstep env n k₁ w
    have hcfg := hd.only.env.cfg
    have hnow := hd.only.env.now
    by_cases hk : k₁ = k
    · subst hk
      have hkept := dispatching_kept env (newDesc n k₁) n it hfix (by rw [newDesc_key]; exact hg)
        (by rw [newDesc_cons n k₁ it hg]; exact pendingRule_rp hs.2.1)
        (by rw [newDesc_cons n k₁ it hg]; exact hs.2.2)
        (Or.inr ⟨newDesc_bndl n k₁, hs.1, newDesc_cons n k₁ it hg, hs.2.1, hl⟩)
      rw [newDesc_key] at hkept
      rw [descTag_newDesc] at hkept
      rcases hkept with h | h
      · exact Or.inl h.append_left
      · rcases h.stable with ⟨it', g', s', b', e'⟩
        have := dispatchKeys_kept env k₁ ks _ it' (hd.wf w) (by rw [hcfg]; exact hfix) g' s'
          (by rw [hcfg, hnow, b']; exact hl)
        rw [b'] at this
        rcases this with h2 | h2
        · exact Or.inl h2.append_right
        · exact Or.inr (h2.of_eq b' e')
    · have hsame : (dispatching env (newDesc n k₁) n).1.store.get k = some it := by
        rw [hd.only.other k (fun e => hk e.symm)]; exact hg
      have := dispatchKeys_kept env k ks _ it (hd.wf w) (by rw [hcfg]; exact hfix) hsame hs
        (by rw [hcfg, hnow]; exact hl)
      rcases this with h2 | h2
      · exact Or.inl h2.append_right
      · exact Or.inr h2

/-! ## submit -/

theorem idkUpdate_fresh (b : Bundle) (n : Node) (hl : lookupNat n.idk (b.src, b.ts) = none) (hs : b.seq = 0) :
    idkUpdate b n = (b, n.setIdk (setNat n.idk (b.src, b.ts) 0)) := by
  have hb : ({ b with seq := 0 } : Bundle) = b := by
    cases b with
    | mk tag src ts seq dst prev lt hop age del bs =>
      simp only at hs
      subst hs
      rfl
  unfold idkUpdate
  simp only [hl, hb]

theorem idkSkip_absent (fuel : Nat) (b : Bundle) (n : Node) (h : n.store.get b.key = none) :
    idkSkip fuel b n = (b, n) := by
  cases fuel with
  | zero => rfl
  | succ f => unfold idkSkip; simp [h]

theorem assignSeq_fresh (b : Bundle) (n : Node) (hl : lookupNat n.idk (b.src, b.ts) = none) (hs : b.seq = 0)
    (hfresh : n.store.get b.key = none) :
    assignSeq b n = (b, n.setIdk (setNat n.idk (b.src, b.ts) 0)) := by
  unfold assignSeq
  simp only [idkUpdate_fresh b n hl hs]
  split
  · exact idkSkip_absent _ _ _ (by simpa using hfresh)
  · rfl

/-- The sequence-number assignment of a bundle whose (source, time) pair is new, whose sequence
number is 0 and whose ID is free leaves the bundle as it is; only the IdKeeper changes (if the assignment
happens here). -/
theorem seqStep (c : Bool) (b : Bundle) (n : Node)
    (hidk : lookupNat n.idk (b.src, b.ts) = none ∧ b.seq = 0) (hfresh : n.store.get b.key = none) :
    ∃ x, (if c = true then assignSeq b n else (b, n)) = (b, n.setIdk x) ∧ (c = false → x = n.idk) ∧
      (x = n.idk ∨ x = setNat n.idk (b.src, b.ts) 0) := by
  cases c
  · exact ⟨n.idk, rfl, fun _ => rfl, Or.inl rfl⟩
  · exact ⟨_, by simp only [if_true]; exact assignSeq_fresh b n hidk.1 hidk.2 hfresh, (fun h => by cases h), Or.inr rfl⟩

/-- The same for `transmit`, which assigns the number when `SendBundle` has not (`seqFirst = false`). -/
theorem seqStep' (c : Bool) (b : Bundle) (n : Node)
    (hidk : c = true ∨ (lookupNat n.idk (b.src, b.ts) = none ∧ b.seq = 0)) :
    ∃ x, (if c = true then (b, n) else idkUpdate b n) = (b, n.setIdk x) ∧
      (x = n.idk ∨ x = setNat n.idk (b.src, b.ts) 0) := by
  cases c
  · rcases hidk with h | h
    · cases h
    · exact ⟨_, by simp only [Bool.false_eq_true, if_false]; exact idkUpdate_fresh b n h.1 h.2, Or.inr rfl⟩
  · exact ⟨n.idk, rfl, Or.inl rfl⟩

/-- What a stored, waiting copy of the bundle `b` looks like. -/
def Holds (n : Node) (b : Bundle) (exp : Nat) : Prop :=
  ∃ it, n.store.get b.key = some it ∧ Stable it ∧ it.bundle = b ∧ it.expires = exp

theorem Holds.of_kept {n : Node} {b : Bundle} {exp : Nat} {it : Item}
    (h : Kept it (n.store.get b.key)) (hb : it.bundle = b) (he : it.expires = exp) : Holds n b exp := by
  rcases h.stable with ⟨it', g', s', b', e'⟩
  exact ⟨it', g', s', b'.trans hb, e'.trans he⟩

theorem transmit_kept (env : Env) (d : Desc) (b : Bundle) (n : Node) (it : Item)
    (hfix : n.cfg.holdFix = true) (hg : n.store.get d.key = some it)
    (hidk : n.cfg.seqFirst = true ∨ (lookupNat n.idk (b.src, b.ts) = none ∧ b.seq = 0))
    (hrp : d.cons.rp = false) (hle : d.cons.le = false)
    (hsrc : hasEndpoint n.cfg b.src = true) (hf : forwardable n.now b) (hdst : hasEndpoint n.cfg b.dst = false) :
    OkSent (transmit env d b n).2 b ∨ Kept it ((transmit env d b n).1.store.get d.key) := by
  unfold transmit
  simp only
  rcases seqStep' n.cfg.seqFirst b n hidk with ⟨x, hx, _⟩
  rw [hx]
  simp only
  have hne : ({ d.cons with dp := true } : Cons).isEmpty = false := by simp [Cons.isEmpty]
  have h1 := sync_update { d with bndl := some b, cons := { d.cons with dp := true } } (n.setIdk x) it hg hne
  have hcfg : (sync { d with bndl := some b, cons := { d.cons with dp := true } } (n.setIdk x)).cfg = n.cfg :=
    (sync_env _ _).cfg
  have hnow : (sync { d with bndl := some b, cons := { d.cons with dp := true } } (n.setIdk x)).now = n.now :=
    (sync_env _ _).now
  rw [hcfg]
  simp only [hsrc, Bool.not_true, Bool.false_eq_true, if_false]
  have := dispatching_kept env { d with bndl := some b, cons := { d.cons with dp := true } }
    (sync { d with bndl := some b, cons := { d.cons with dp := true } } (n.setIdk x)) _
    (by rw [hcfg]; exact hfix) h1 hrp hle
    (Or.inl ⟨b, rfl, by rw [hnow]; exact hf, by rw [hcfg]; exact hdst⟩)
  simp only [descTag] at this
  rcases this with h | h
  · exact Or.inl h
  · exact Or.inr (h.of_eq rfl rfl)

/-- The effect of a submission on everything but the item of its bundle ID. -/
structure SubStep (k : Key) (b : Bundle) (n n' : Node) : Prop where
  wf : WF n → WF n'
  env : SameEnv n n'
  other : ∀ k', k' ≠ k → n'.store.get k' = n.store.get k'
  spray : ∀ k', k' ≠ k → lookupMeta n'.spray k' = lookupMeta n.spray k'
  idk : ∀ st, (lookupNat n'.idk st).isSome = true → (lookupNat n.idk st).isSome = true ∨ st = (b.src, b.ts)

theorem KStep.subStep {k : Key} {b : Bundle} {n n' : Node} (h : KStep k n n') : SubStep k b n n' :=
  ⟨h.wf, h.only.env, h.only.other, h.only.spray, fun st hs => Or.inl (by rw [h.idk] at hs; exact hs)⟩

theorem SubStep.only {k : Key} {b : Bundle} {n n' : Node} (h : SubStep k b n n') : OnlyKey k n n' :=
  ⟨h.env, h.other, h.spray⟩

theorem SubStep.trans {k : Key} {b : Bundle} {n₁ n₂ n₃ : Node} (h1 : SubStep k b n₁ n₂) (h2 : SubStep k b n₂ n₃) :
    SubStep k b n₁ n₃ :=
  ⟨fun w => h2.wf (h1.wf w), h1.env.trans h2.env, fun k' hk => (h2.other k' hk).trans (h1.other k' hk),
   fun k' hk => (h2.spray k' hk).trans (h1.spray k' hk),
   fun st hs => by
    rcases h2.idk st hs with h | h
    · exact h1.idk st h
    · exact Or.inr h⟩

theorem lookupNat_setNat {α} [DecidableEq α] (l : List (α × Nat)) (a x : α) (v : Nat) :
    lookupNat (setNat l a v) x = if a = x then some v else lookupNat l x := by
  induction l with
  | nil => simp [setNat, lookupNat]
  | cons p l ih =>
    obtain ⟨a', v'⟩ := p
    by_cases h : a' = a
    · subst h
      by_cases hx : a' = x
      · simp [setNat, lookupNat, hx]
      · simp [setNat, lookupNat, hx]
    · by_cases hx : a' = x
      · subst hx
        have : ¬ a = a' := fun e => h e.symm
        simp [setNat, lookupNat, h, this]
      · simp [setNat, lookupNat, h, hx, ih]

theorem subStep_idk (k : Key) (b : Bundle) (n : Node) (x : List ((Eid × Nat) × Nat))
    (hx : x = n.idk ∨ x = setNat n.idk (b.src, b.ts) 0) : SubStep k b n (n.setIdk x) := by
  refine ⟨fun w => wf_idk w x, ⟨rfl, rfl, rfl, rfl⟩, fun _ _ => rfl, fun _ _ => rfl, ?_⟩
  intro st hs
  simp only [setIdk_idk] at hs
  rcases hx with h | h
  · left; rw [h] at hs; exact hs
  · rw [h, lookupNat_setNat] at hs
    by_cases he : (b.src, b.ts) = st
    · right; exact he.symm
    · left; simpa [he] using hs

theorem setIdk_bstep (b : Bundle) (k : Key) (n : Node) (x : List ((Eid × Nat) × Nat)) : BStep b k n (n.setIdk x) :=
  ⟨fun it' h => Or.inl ⟨it', h, Like.refl _⟩⟩

theorem transmit_step (env : Env) (d : Desc) (b : Bundle) (n : Node) (hk : b.key = d.key)
    (hidk : n.cfg.seqFirst = true ∨ (lookupNat n.idk (b.src, b.ts) = none ∧ b.seq = 0)) :
    SubStep d.key b n (transmit env d b n).1 ∧ BStep b d.key n (transmit env d b n).1 ∧
    ∀ o ∈ (transmit env d b n).2, ∃ p ok, o = Output.sent p b ok := by
  unfold transmit
  dsimp only
  rcases seqStep' n.cfg.seqFirst b n hidk with ⟨x, hx, hxx⟩
  rw [hx]
  dsimp only
  have hc : Carries { d with bndl := some b, cons := { d.cons with dp := true } } b := Carries.of_eq rfl hk
  have s0 := subStep_idk d.key b n x hxx
  have k1 := sync_step hc (n.setIdk x)
  split
  · have k := k1.trans (bundleDeletion_step hc _)
    exact ⟨s0.trans k.toKStep.subStep, (setIdk_bstep b d.key n x).trans k.toBStep, fun o ho => nomatch ho⟩
  · have k := k1.trans (dispatching_step env _ b _ (Or.inl rfl) hk)
    exact ⟨s0.trans k.toKStep.subStep, (setIdk_bstep b d.key n x).trans k.toBStep,
      dispatching_names' env _ b _ rfl⟩

/-- The body of `SendBundle` after the sequence number is assigned, for any descriptor of the bundle:
`Sync`, `NotifyNewBundle`, `transmit`. -/
theorem accept_step (env : Env) (b : Bundle) (d : Desc) (n : Node) (hk : d.key = b.key) (hb : d.bndl = some b)
    (hidk : n.cfg.seqFirst = true ∨ (lookupNat n.idk (b.src, b.ts) = none ∧ b.seq = 0)) :
    SubStep b.key b n (transmit env d b (notifyNew d.key b (sync d n))).1 ∧
    BStep b b.key n (transmit env d b (notifyNew d.key b (sync d n))).1 ∧
    ∀ o ∈ (transmit env d b (notifyNew d.key b (sync d n))).2, ∃ p ok, o = Output.sent p b ok := by
  obtain ⟨dk, dr, dc, db⟩ := d
  dsimp only at hk hb ⊢
  subst hk hb
  have k12 : Step b b.key n (notifyNew b.key b (sync ⟨b.key, dr, dc, some b⟩ n)) :=
    (sync_step (d := ⟨b.key, dr, dc, some b⟩) (Carries.of_eq rfl rfl) n).trans (notifyNew_rt b.key b _).step
  have t := transmit_step env ⟨b.key, dr, dc, some b⟩ b (notifyNew b.key b (sync ⟨b.key, dr, dc, some b⟩ n)) rfl
    (by rw [k12.only.env.cfg, k12.idk]; exact hidk)
  exact ⟨k12.toKStep.subStep.trans t.1, k12.toBStep.trans t.2.1, t.2.2⟩

theorem sendBundle_step (env : Env) (b : Bundle) (n : Node)
    (hidk : lookupNat n.idk (b.src, b.ts) = none ∧ b.seq = 0) (hfresh : n.store.get b.key = none) :
    SubStep b.key b n (sendBundle env b n).1 ∧ BStep b b.key n (sendBundle env b n).1 ∧
    ∀ o ∈ (sendBundle env b n).2, ∃ p ok, o = Output.sent p b ok := by
  unfold sendBundle
  dsimp only
  rcases seqStep n.cfg.seqFirst b n hidk hfresh with ⟨x, hx, hx0, hxx⟩
  rw [hx]
  dsimp only
  unfold newDescFromBundle
  dsimp only
  have a := accept_step env b { newDesc (n.setIdk x) b.key with bndl := some b } (n.setIdk x)
    (newDesc_key _ _) rfl (by
      cases hsf : n.cfg.seqFirst
      · right; rw [setIdk_idk, hx0 hsf]; exact hidk
      · left; exact hsf)
  exact ⟨(subStep_idk b.key b n x hxx).trans a.1, (setIdk_bstep b b.key n x).trans a.2.1, a.2.2⟩

theorem sendBundle_kstep (env : Env) (b : Bundle) (n : Node)
    (hidk : lookupNat n.idk (b.src, b.ts) = none ∧ b.seq = 0) (hfresh : n.store.get b.key = none) :
    SubStep b.key b n (sendBundle env b n).1 :=
  (sendBundle_step env b n hidk hfresh).1

theorem sendBundle_bstep (env : Env) (b : Bundle) (n : Node)
    (hidk : lookupNat n.idk (b.src, b.ts) = none ∧ b.seq = 0) (hfresh : n.store.get b.key = none) :
    BStep b b.key n (sendBundle env b n).1 ∧ ∀ o ∈ (sendBundle env b n).2, ∃ p ok, o = Output.sent p b ok :=
  (sendBundle_step env b n hidk hfresh).2

/-! ## receive -/

theorem pendingRule_nonempty {c : Cons} (h : c.pendingRule = true) : c.isEmpty = false := by
  unfold Cons.pendingRule at h
  unfold Cons.isEmpty
  cases c with
  | mk dp fp rp ci le => cases dp <;> cases fp <;> cases rp <;> cases ci <;> cases le <;> simp_all

theorem receive_step (env : Env) (b : Bundle) (r : Option Eid) (n : Node) :
    Step b b.key n (receive env b r n).1 := by
  unfold receive
  dsimp only
  unfold newDescFromBundle
  dsimp only
  have hDk := newDesc_key n b.key
  generalize newDesc n b.key = D at hDk ⊢
  obtain ⟨Dk, Dr, Dc, Db⟩ := D
  dsimp only at hDk
  subst hDk
  dsimp only
  have hc : ∀ r c, Carries { key := b.key, receiver := r, cons := c, bndl := some b } b :=
    fun _ _ => Carries.of_eq rfl rfl
  have k12 := (sync_step (hc Dr Dc) n).trans (sync_step (hc r Dc) _)
  split
  · exact k12
  · have k123 := k12.trans (sync_step (hc r { Dc with dp := true }) _)
    split
    · exact k123.trans (bundleDeletion_step (hc r { Dc with dp := true }) _)
    · exact (k123.trans (notifyNew_rt b.key b _).step).trans
        (dispatching_step env { key := b.key, receiver := r, cons := { Dc with dp := true }, bndl := some b } b _
          (Or.inl rfl) rfl)

theorem receive_kstep (env : Env) (b : Bundle) (r : Option Eid) (n : Node) :
    KStep b.key n (receive env b r n).1 :=
  (receive_step env b r n).toKStep

/-- The three `Sync`s at the beginning of the reception of a bundle the node does not know (no item, or
an item without constraints): afterwards the store holds exactly the received copy. -/
theorem receive_fresh (b : Bundle) (r : Option Eid) (n : Node) (D : Desc)
    (he : D.cons.isEmpty = true) :
    ∃ itm, (sync { key := b.key, receiver := r, cons := { D.cons with dp := true }, bndl := some b }
      (sync { key := b.key, receiver := r, cons := D.cons, bndl := some b }
        (sync { key := b.key, receiver := D.receiver, cons := D.cons, bndl := some b } n))).store.get b.key = some itm ∧
      itm.bundle = b ∧ itm.rt = Routing.empty := by
  have hne : ({ D.cons with dp := true } : Cons).isEmpty = false := by simp [Cons.isEmpty]
  cases hg : n.store.get b.key with
  | none =>
    have hs1 : sync { key := b.key, receiver := D.receiver, cons := D.cons, bndl := some b } n = push b n :=
      sync_push _ _ b hg rfl
    rw [hs1]
    have hg1 := push_get_absent b n hg
    have hg2 := sync_delete { key := b.key, receiver := r, cons := D.cons, bndl := some b } (push b n) _ hg1 he
    have hs3 := sync_push { key := b.key, receiver := r, cons := { D.cons with dp := true }, bndl := some b } _ b hg2 rfl
    rw [hs3]
    exact ⟨_, push_get_absent b _ hg2, rfl, rfl⟩
  | some it =>
    have hg1 := sync_delete { key := b.key, receiver := D.receiver, cons := D.cons, bndl := some b } n it hg he
    have hs2 := sync_push { key := b.key, receiver := r, cons := D.cons, bndl := some b } _ b hg1 rfl
    rw [hs2]
    have hg2 := push_get_absent b _ hg1
    have hg3 := sync_update { key := b.key, receiver := r, cons := { D.cons with dp := true }, bndl := some b } _ _ hg2 hne
    exact ⟨_, hg3, rfl, rfl⟩

/-- `receive`, case by case: a bundle whose ID is stored with constraints is ignored (its descriptor is
synchronized twice); otherwise (no item, or one without constraints) the store afterwards holds exactly the
received copy, which is deleted (a block demands it) or announced to the algorithm and dispatched. -/
theorem receive_cases (env : Env) (b : Bundle) (r : Option Eid) (n : Node) :
    (∃ it, n.store.get b.key = some it ∧ it.cons.isEmpty = false ∧
      receive env b r n =
        (sync ⟨b.key, r, it.cons, some b⟩ (sync ⟨b.key, it.receiver, it.cons, some b⟩ n), [])) ∨
    ((∀ it, n.store.get b.key = some it → it.cons.isEmpty = true) ∧
      ∃ (cs : Cons) (m : Node) (itm : Item), Step b b.key n m ∧ m.store.get b.key = some itm ∧
      itm.bundle = b ∧ itm.rt = Routing.empty ∧
      (bundleDeletion ⟨b.key, r, cs, some b⟩ m).store.get b.key = none ∧
      receive env b r n =
        if b.delBlock then (bundleDeletion ⟨b.key, r, cs, some b⟩ m, [])
        else dispatching env ⟨b.key, r, cs, some b⟩ (notifyNew b.key b m)) := by
  -- the descriptor read from the store has no constraint: the bundle is accepted as new
  have hnew : ∀ (Dr : Option Eid) (Dc : Cons), newDesc n b.key = ⟨b.key, Dr, Dc, none⟩ → Dc.isEmpty = true →
      ∃ (cs : Cons) (m : Node) (itm : Item), Step b b.key n m ∧ m.store.get b.key = some itm ∧
      itm.bundle = b ∧ itm.rt = Routing.empty ∧
      (bundleDeletion ⟨b.key, r, cs, some b⟩ m).store.get b.key = none ∧
      receive env b r n =
        if b.delBlock then (bundleDeletion ⟨b.key, r, cs, some b⟩ m, [])
        else dispatching env ⟨b.key, r, cs, some b⟩ (notifyNew b.key b m) := by
    intro Dr Dc hnd he
    rcases receive_fresh b r n ⟨b.key, Dr, Dc, none⟩ he with ⟨itm, hgm, hbm, hrt⟩
    have hc : ∀ r c, Carries (⟨b.key, r, c, some b⟩ : Desc) b := fun _ _ => Carries.of_eq rfl rfl
    refine ⟨{ Dc with dp := true }, _, itm,
      ((sync_step (hc Dr Dc) n).trans (sync_step (hc r Dc) _)).trans (sync_step (hc r { Dc with dp := true }) _),
      hgm, hbm, hrt, ?_, ?_⟩
    · have hle : Dc.le = false := by
        unfold Cons.isEmpty at he
        cases h : Dc.le <;> simp_all
      exact sync_delete ⟨b.key, r, ({ Dc with dp := true } : Cons).purge, some b⟩ _ itm hgm
        (by simp [Cons.purge, Cons.isEmpty, Cons.empty, hle])
    · unfold receive newDescFromBundle
      simp only [hnd, he, Bool.not_true, Bool.false_eq_true, if_false]
  cases hg : n.store.get b.key with
  | none => exact Or.inr ⟨fun _ h => (nomatch h), hnew none Cons.empty (newDesc_of_none hg) rfl⟩
  | some it =>
    have hnd := newDesc_of_some hg
    by_cases he : it.cons.isEmpty = true
    · exact Or.inr ⟨fun _ h => (by cases h; exact he), hnew _ _ hnd he⟩
    · have he' : it.cons.isEmpty = false := by simpa using he
      refine Or.inl ⟨it, rfl, he', ?_⟩
      unfold receive newDescFromBundle
      simp only [hnd, he', Bool.not_false, if_true]

/-- A duplicate of a waiting bundle is ignored; the bundle keeps waiting. -/
theorem receive_known (env : Env) (b : Bundle) (r : Option Eid) (n : Node) (it : Item)
    (hg : n.store.get b.key = some it) (hs : Stable it) :
    (receive env b r n).2 = [] ∧ Kept it ((receive env b r n).1.store.get b.key) := by
  have hne := pendingRule_nonempty hs.2.1
  rcases receive_cases env b r n with ⟨it', g, _, heq⟩ | ⟨hemp, _⟩
  · rw [hg] at g
    cases g
    rw [heq]
    have h1 := sync_update ⟨b.key, it.receiver, it.cons, some b⟩ n it hg hne
    exact ⟨rfl, _, sync_update ⟨b.key, r, it.cons, some b⟩ _ _ h1 hne, hs.2.1, rfl, rfl, hs.2.1, hs.2.2⟩
  · rw [hemp it hg] at hne; cases hne

/-- A bundle with a new ID that nothing refuses is kept (or transmitted at once). -/
theorem receive_new (env : Env) (b : Bundle) (r : Option Eid) (n : Node) (hfix : n.cfg.holdFix = true)
    (hfresh : n.store.get b.key = none) (hdel : b.delBlock = false)
    (hf : forwardable n.now b) (hdst : hasEndpoint n.cfg b.dst = false) :
    OkSent (receive env b r n).2 b ∨ Holds (receive env b r n).1 b (calcExpires n.cfg n.now b) := by
  unfold receive
  simp only
  unfold newDescFromBundle
  simp only [newDesc_of_none hfresh]
  -- first Sync: push; second Sync (receiver set): no constraints yet, so the item is deleted again
  have hs1 : sync { key := b.key, receiver := none, cons := Cons.empty, bndl := some b } n = push b n :=
    sync_push _ _ b hfresh rfl
  rw [hs1]
  have hg1 : (push b n).store.get b.key = some (newItem n.cfg n.now b) := push_get_absent b n hfresh
  have hemp : Cons.empty.isEmpty = true := rfl
  have hg2 := sync_delete { key := b.key, receiver := r, cons := Cons.empty, bndl := some b } (push b n) _ hg1 hemp
  have henv2 : SameEnv n (sync { key := b.key, receiver := r, cons := Cons.empty, bndl := some b } (push b n)) :=
    (push_only b n).env.trans (sync_env _ _)
  simp only [hemp, Bool.not_true, Bool.false_eq_true, if_false]
  -- third Sync: pushed again
  have hs3 : sync { key := b.key, receiver := r, cons := { Cons.empty with dp := true }, bndl := some b }
      (sync { key := b.key, receiver := r, cons := Cons.empty, bndl := some b } (push b n)) =
      push b (sync { key := b.key, receiver := r, cons := Cons.empty, bndl := some b } (push b n)) :=
    sync_push _ _ b hg2 rfl
  rw [hs3]
  have hg3 := push_get_absent b _ hg2
  rw [henv2.cfg, henv2.now] at hg3
  have henv3 : SameEnv n (push b (sync { key := b.key, receiver := r, cons := Cons.empty, bndl := some b } (push b n))) :=
    henv2.trans (push_only b _).env
  simp only [hdel, Bool.false_eq_true, if_false]
  have hnn := notifyNew_rt b.key b (push b (sync { key := b.key, receiver := r, cons := Cons.empty, bndl := some b } (push b n)))
  rcases hnn.item _ hg3 with ⟨it4, g4, b4, e4, _, _, _⟩
  have hcfg : (notifyNew b.key b (push b (sync { key := b.key, receiver := r, cons := Cons.empty, bndl := some b } (push b n)))).cfg = n.cfg :=
    hnn.only.env.cfg.trans henv3.cfg
  have hnow : (notifyNew b.key b (push b (sync { key := b.key, receiver := r, cons := Cons.empty, bndl := some b } (push b n)))).now = n.now :=
    hnn.only.env.now.trans henv3.now
  have := dispatching_kept env { key := b.key, receiver := r, cons := { Cons.empty with dp := true }, bndl := some b }
    _ it4 (by rw [hcfg]; exact hfix) g4 rfl rfl
    (Or.inl ⟨b, rfl, by rw [hnow]; exact hf, by rw [hcfg]; exact hdst⟩)
  simp only [descTag] at this
  rcases this with h | h
  · exact Or.inl h
  · exact Or.inr (Holds.of_kept h b4 e4)

end Dtn7.Node
