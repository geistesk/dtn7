/-
The update formulas on EXACT rationals satisfy the `Laws` (Mathlib: ordered-field lemmas only).
-/
import Dtn7.Lemmas.Prophet
import Mathlib.Algebra.Order.Ring.Rat

namespace Dtn7.Lemmas.Prophet
open Dtn7.Prophet

/-- "is a probability" on exact rationals -/
def ProbQ (v : Rat) : Prop := 0 ≤ v ∧ v ≤ 1

/-- Moving `x` towards 1 by the fraction `t` of the remaining distance stays between `x` and 1:
the shape of the encounter and the transitivity update. -/
theorem mix {x t : Rat} (x1 : x ≤ 1) (t0 : 0 ≤ t) (t1 : t ≤ 1) :
    x ≤ x + (1 - x) * t ∧ x + (1 - x) * t ≤ 1 :=
  ⟨le_add_of_nonneg_right (mul_nonneg (sub_nonneg.2 x1) t0),
   calc x + (1 - x) * t ≤ x + (1 - x) :=
          add_le_add (le_refl x) (mul_le_of_le_one_right (sub_nonneg.2 x1) t1)
     _ = 1 := add_sub_cancel x 1⟩

theorem probQ_mul {a c : Rat} (ha : ProbQ a) (hc : ProbQ c) : ProbQ (a * c) :=
  ⟨mul_nonneg ha.1 hc.1, mul_le_one₀ ha.2 hc.1 hc.2⟩

theorem ratLaws : Laws ratOps (· ≤ ·) ProbQ where
  le_refl := fun a => le_refl a
  le_trans := fun _ _ _ h1 h2 => le_trans h1 h2
  dom_zero := ⟨le_refl _, by decide⟩
  enc := by
    rintro c p ⟨c0, c1⟩ ⟨p0, p1⟩
    have := mix p1 c0 c1
    exact ⟨⟨le_trans p0 this.1, this.2⟩, this.1⟩
  age := by
    rintro g p ⟨g0, g1⟩ ⟨p0, p1⟩
    have h : p * g ≤ p := mul_le_of_le_one_right p0 g1
    exact ⟨⟨mul_nonneg p0 g0, le_trans h p1⟩, h⟩
  trans := by
    rintro b p a c hb ⟨p0, p1⟩ ha hc
    obtain ⟨k0, k1⟩ := probQ_mul (probQ_mul ha hc) hb
    have := mix p1 k0 k1
    have e : transVal ratOps b p a c = p + (1 - p) * (a * c * b) := by
      simp only [transVal, ratOps, mul_assoc]
    rw [e]
    exact ⟨⟨le_trans p0 this.1, this.2⟩, this.1⟩

end Dtn7.Lemmas.Prophet
