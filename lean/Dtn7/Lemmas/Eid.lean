import Dtn7.Model.Eid
import Dtn7.Lemmas.Cbor

namespace Dtn7.Eid.Lemmas
open Dtn7.Cbor Dtn7.Cbor.Lemmas Dtn7.Eid

theorem parseSsp_some {ssp node demux : Bytes} (h : parseSsp ssp = some (node, demux)) :
    ssp = sspOf node demux ∧ node ≠ [] ∧ node.all isNodeChar = true ∧ noNewline demux = true := by
  unfold parseSsp at h
  match ssp, h with
  | a :: b :: t, h =>
    simp only at h
    split at h
    · rename_i hab
      split at h
      · rename_i c d hd
        split at h
        · rename_i hc
          simp only [Option.some.injEq, Prod.mk.injEq] at h
          obtain ⟨hn, hdm⟩ := h
          subst hdm
          have hsplit := List.takeWhile_append_dropWhile (p := isNodeChar) (l := t)
          rw [hd, hn] at hsplit
          refine ⟨?_, ?_, ?_, hc.2.2⟩
          · unfold sspOf; rw [hab.1, hab.2, hc.1] at *; rw [← hsplit]
          · rw [← hn]; exact hc.2.1
          · rw [← hn]; exact List.all_takeWhile
        · simp at h
      · simp at h
    · simp at h

theorem parseSsp_sspOf (node demux : Bytes) (hc : (Eid.dtn node demux).Canonical) :
    parseSsp (sspOf node demux) = some (node, demux) := by
  obtain ⟨h1, h2, h3⟩ := hc
  have hs : isNodeChar slash = false := by decide
  have htw := takeWhile_sep node demux slash h2 hs
  have hdw := dropWhile_sep node demux slash h2 hs
  unfold sspOf parseSsp
  simp only [and_self, ↓reduceIte, hdw, htw, h3, ne_eq, h1, not_false_eq_true]

/-- A dtn endpoint in the parser's normal form passes `CheckValid`. -/
theorem valid_of_canonical_dtn (node demux : Bytes) (hc : (Eid.dtn node demux).Canonical) :
    (Eid.dtn node demux).valid = true := by
  show (parseSsp (sspOf node demux)).isSome = true
  rw [parseSsp_sspOf node demux hc]; rfl

theorem dtnTextOk_of_valid (node demux : Bytes) (h : (Eid.dtn node demux).valid = true) :
    dtnTextOk node demux = true := by
  unfold Eid.valid at h
  cases hp : parseSsp (sspOf node demux) with
  | none => simp [hp] at h
  | some nd =>
    obtain ⟨n, d⟩ := nd
    obtain ⟨heq, hne, hall, hnl⟩ := parseSsp_some hp
    have htxt : node ++ slash :: demux = n ++ slash :: d := by
      unfold sspOf at heq; simpa using heq
    have hallN : ∀ a ∈ n, (fun c => c != slash) a = true := by
      intro a ha
      have := List.all_eq_true.mp hall a ha
      simp only [bne_iff_ne, ne_eq]
      intro hs; rw [hs] at this; revert this; decide
    unfold dtnTextOk
    simp only [htxt]
    rw [takeWhile_sep n d slash (List.all_eq_true.mpr hallN) (by simp),
      dropWhile_sep n d slash (List.all_eq_true.mpr hallN) (by simp)]
    have hne' : n.isEmpty = false := by cases n <;> simp_all
    have hsl : (slash != newline) = true := by decide
    simp only [hne', Bool.not_false, hall, Bool.and_self, List.all_cons, hsl, Bool.true_and]
    exact hnl

/-- **`CheckValid` ⇒ Spec validity**, for every endpoint structure. -/
theorem wf_of_valid (e : Eid) (h : e.valid = true) : e.WellFormed := by
  cases e with
  | none => trivial
  | dtn node demux => exact dtnTextOk_of_valid node demux h
  | ipn n s =>
    unfold Eid.valid at h
    simp only [Bool.and_eq_true, decide_eq_true_eq] at h
    exact h

/-- `EndpointID.UnmarshalCbor` after the two-element array head and the scheme number. -/
theorem decEid_scheme (sc : Nat) (hsc : sc < 2 ^ 64) (rest : Bytes) :
    decEid (encArray 2 ++ encUInt sc ++ rest) =
      if sc = schemeDtn then decDtn rest else if sc = schemeIpn then decIpn rest else .error (.other 15) := by
  rw [decEid, List.append_assoc, decArray_encArray 2 _ (by decide), bindP_ok, if_neg (by decide),
    decUInt_encUInt sc _ hsc, bindP_ok]

theorem decEid_encEidRaw (e : Eid) (hc : e.Canonical) (hb : e.Bounded) (rest : Bytes) :
    decEid (encEidRaw e ++ rest) = .ok (e, rest) := by
  cases e with
  | none =>
    rw [encEidRaw, List.append_assoc (encArray 2 ++ encUInt schemeDtn), decEid_scheme _ (by decide),
      if_pos rfl, decDtn, encUInt, decHead_encHead majUInt 0 rest (by decide) (by decide)]
    rfl
  | dtn node demux =>
    have hlen : (sspOf node demux).length ≤ maxInt32 := hb
    have hn : (sspOf node demux).length < 2 ^ 64 := by unfold maxInt32 at hlen; omega
    rw [encEidRaw, List.append_assoc (encArray 2 ++ encUInt schemeDtn), decEid_scheme _ (by decide),
      if_pos rfl, decDtn, encText, List.append_assoc, decHead_encHead majText _ _ (by decide) hn]
    dsimp only
    rw [if_neg (by decide), if_pos rfl, readRaw_append _ _ hlen, bindP_ok, parseSsp_sspOf node demux hc]
  | ipn n s =>
    rw [encEidRaw, List.append_assoc (encArray 2 ++ encUInt schemeIpn), decEid_scheme _ (by decide),
      if_neg (by decide), if_pos rfl, decIpn, List.append_assoc, List.append_assoc,
      decArray_encArray 2 _ (by decide), bindP_ok, if_neg (by decide), decUInt_encUInt n _ hb.1, bindP_ok,
      decUInt_encUInt s _ hb.2, bindP_ok]

end Dtn7.Eid.Lemmas
