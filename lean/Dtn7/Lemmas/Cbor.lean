import Dtn7.Model.Cbor

namespace Dtn7.Cbor.Lemmas
open Dtn7.Cbor

theorem toNat_ofNat_lt (x : Nat) (h : x < 256) : (UInt8.ofNat x).toNat = x := by
  simp [Nat.mod_eq_of_lt h]

theorem beBytes_length (k n : Nat) : (beBytes k n).length = k := by
  induction k with
  | zero => rfl
  | succ k ih => simp [beBytes, ih]

theorem foldl_beBytes (k n acc : Nat) :
    (beBytes k n).foldl (fun a b => a * 256 + b.toNat) acc = acc * 256 ^ k + n % 256 ^ k := by
  induction k generalizing acc with
  | zero => simp [beBytes, Nat.mod_one]
  | succ k ih =>
    simp only [beBytes, List.foldl_cons]
    rw [ih]
    have hb : (UInt8.ofNat (n / 256 ^ k % 256)).toNat = n / 256 ^ k % 256 :=
      toNat_ofNat_lt _ (Nat.mod_lt _ (by decide))
    rw [hb]
    have hm : n % 256 ^ (k + 1) = n % 256 ^ k + 256 ^ k * (n / 256 ^ k % 256) := by
      rw [Nat.pow_succ, Nat.mod_mul]
    rw [hm, Nat.pow_succ, Nat.add_mul, Nat.mul_assoc, Nat.mul_comm 256 (256 ^ k),
      Nat.mul_comm (n / 256 ^ k % 256) (256 ^ k)]
    omega

theorem beVal_beBytes (k n : Nat) (h : n < 256 ^ k) : beVal (beBytes k n) = n := by
  unfold beVal
  rw [foldl_beBytes]
  simp [Nat.mod_eq_of_lt h]

theorem foldl_beVal_lt (bs : Bytes) (acc : Nat) :
    bs.foldl (fun a b => a * 256 + b.toNat) acc < (acc + 1) * 256 ^ bs.length := by
  induction bs generalizing acc with
  | nil => simp
  | cons b bs ih =>
    simp only [List.foldl_cons, List.length_cons, Nat.pow_succ]
    have hb : b.toNat < 256 := b.toNat_lt
    have h := ih (acc * 256 + b.toNat)
    have : (acc * 256 + b.toNat + 1) * 256 ^ bs.length ≤ (acc + 1) * (256 ^ bs.length * 256) := by
      have : acc * 256 + b.toNat + 1 ≤ (acc + 1) * 256 := by omega
      calc (acc * 256 + b.toNat + 1) * 256 ^ bs.length
          ≤ ((acc + 1) * 256) * 256 ^ bs.length := Nat.mul_le_mul_right _ this
        _ = (acc + 1) * (256 ^ bs.length * 256) := by
            rw [Nat.mul_assoc, Nat.mul_comm 256 (256 ^ bs.length)]
    omega

theorem beVal_lt (bs : Bytes) : beVal bs < 256 ^ bs.length := by
  have := foldl_beVal_lt bs 0
  simpa [beVal] using this

theorem headLen_cases (n : Nat) :
    n < 24 ∧ headLen n = 1 ∨ 24 ≤ n ∧ n < 2 ^ 8 ∧ headLen n = 2 ∨ 2 ^ 8 ≤ n ∧ n < 2 ^ 16 ∧ headLen n = 3 ∨
    2 ^ 16 ≤ n ∧ n < 2 ^ 32 ∧ headLen n = 5 ∨ 2 ^ 32 ≤ n ∧ headLen n = 9 := by
  unfold headLen
  by_cases h0 : n < 24
  · rw [if_pos h0]; exact .inl ⟨h0, rfl⟩
  rw [if_neg h0]
  by_cases h1 : n < 2 ^ 8
  · rw [if_pos h1]; exact .inr (.inl ⟨by omega, h1, rfl⟩)
  rw [if_neg h1]
  by_cases h2 : n < 2 ^ 16
  · rw [if_pos h2]; exact .inr (.inr (.inl ⟨by omega, h2, rfl⟩))
  rw [if_neg h2]
  by_cases h3 : n < 2 ^ 32
  · rw [if_pos h3]; exact .inr (.inr (.inr (.inl ⟨by omega, h3, rfl⟩)))
  · rw [if_neg h3]; exact .inr (.inr (.inr (.inr ⟨by omega, rfl⟩)))

theorem headLen_pos (n : Nat) : 1 ≤ headLen n := by
  have := headLen_cases n
  omega

theorem headLen_small (n : Nat) (h : n < 24) : headLen n = 1 := by
  have := headLen_cases n
  omega

theorem headLen_mono {n m : Nat} (h : n ≤ m) : headLen n ≤ headLen m := by
  have hn := headLen_cases n
  have hm := headLen_cases m
  simp only [Nat.reducePow] at hn hm
  omega

theorem headLen_of_lt {n k : Nat} (hk : k = 1 ∨ k = 2 ∨ k = 4 ∨ k = 8) (h : n < 256 ^ k) :
    headLen n ≤ 1 + k := by
  have hn := headLen_cases n
  rcases hk with rfl | rfl | rfl | rfl <;> simp only [Nat.reducePow] at h hn <;> omega

/-- Additional information `a` and number `k` of argument bytes that `WriteMajors` chooses for `n`. -/
theorem encHead_cases (maj n : Nat) :
    ∃ a k, encHead maj n = UInt8.ofNat (maj * 32 + a) :: beBytes k n ∧ headLen n = 1 + k ∧
      (n < 24 ∧ a = n ∧ k = 0 ∨
       24 ≤ a ∧ a ≤ 27 ∧ k = 2 ^ (a - 24) ∧ (n < 2 ^ 64 → n < 256 ^ k)) := by
  unfold encHead headLen
  by_cases h0 : n < 24
  · rw [if_pos h0, if_pos h0]; exact ⟨n, 0, rfl, rfl, .inl ⟨h0, rfl, rfl⟩⟩
  rw [if_neg h0, if_neg h0]
  by_cases h1 : n < 2 ^ 8
  · rw [if_pos h1, if_pos h1]; exact ⟨24, 1, rfl, rfl, .inr ⟨by omega, by omega, rfl, fun _ => h1⟩⟩
  rw [if_neg h1, if_neg h1]
  by_cases h2 : n < 2 ^ 16
  · rw [if_pos h2, if_pos h2]; exact ⟨25, 2, rfl, rfl, .inr ⟨by omega, by omega, rfl, fun _ => h2⟩⟩
  rw [if_neg h2, if_neg h2]
  by_cases h3 : n < 2 ^ 32
  · rw [if_pos h3, if_pos h3]; exact ⟨26, 4, rfl, rfl, .inr ⟨by omega, by omega, rfl, fun _ => h3⟩⟩
  · rw [if_neg h3, if_neg h3]; exact ⟨27, 8, rfl, rfl, .inr ⟨by omega, by omega, rfl, fun h => h⟩⟩

theorem encHead_length (maj n : Nat) : (encHead maj n).length = headLen n := by
  obtain ⟨a, k, he, hl, _⟩ := encHead_cases maj n
  rw [he, hl, List.length_cons, beBytes_length, Nat.add_comm]

/-- A head never starts with the break byte or the indefinite-array byte. -/
theorem encHead_head_ne (maj n : Nat) (hm : maj < 8) :
    ∃ b t, encHead maj n = b :: t ∧ b.toNat ≠ 0xFF ∧ b.toNat ≠ 0x9F := by
  obtain ⟨a, k, he, _, ha⟩ := encHead_cases maj n
  have hb : (UInt8.ofNat (maj * 32 + a)).toNat = maj * 32 + a := toNat_ofNat_lt _ (by omega)
  exact ⟨_, _, he, by omega, by omega⟩

/-- A successful `ReadMajors`: the input is the initial byte `b`, the argument bytes `w` and the rest. -/
theorem decHead_eq_ok {bs : Bytes} {m n : Nat} {r : Bytes} :
    decHead bs = .ok (m, n, r) ↔ ∃ b w, bs = b :: (w ++ r) ∧ b.toNat ≠ 0x9F ∧ b.toNat ≠ 0xFF ∧
      m = b.toNat / 32 ∧
      (b.toNat % 32 ≤ 23 ∧ w = [] ∧ n = b.toNat % 32 ∨
       23 < b.toNat % 32 ∧ b.toNat % 32 ≤ 27 ∧ w.length = 2 ^ (b.toNat % 32 - 24) ∧ n = beVal w) := by
  constructor
  · intro h
    cases bs with
    | nil => cases h
    | cons b rest =>
      refine ⟨b, ?_⟩
      rw [decHead] at h
      by_cases h1 : b.toNat = 0x9F
      · rw [if_pos h1] at h; cases h
      rw [if_neg h1] at h
      by_cases h2 : b.toNat = 0xFF
      · rw [if_pos h2] at h; cases h
      rw [if_neg h2] at h
      by_cases h3 : b.toNat % 32 ≤ 23
      · rw [if_pos h3] at h; cases h
        exact ⟨[], rfl, h1, h2, rfl, .inl ⟨h3, rfl, rfl⟩⟩
      rw [if_neg h3] at h
      by_cases h4 : b.toNat % 32 ≤ 27
      · rw [if_pos h4] at h
        by_cases h5 : rest.length < 2 ^ (b.toNat % 32 - 24)
        · rw [if_pos h5] at h; cases h
        rw [if_neg h5] at h; cases h
        exact ⟨rest.take _, by rw [List.take_append_drop], h1, h2, rfl,
          .inr ⟨by omega, h4, by rw [List.length_take]; omega, rfl⟩⟩
      · rw [if_neg h4] at h; cases h
  · rintro ⟨b, w, rfl, h1, h2, rfl, ⟨h3, rfl, rfl⟩ | ⟨h3, h4, hw, rfl⟩⟩
    · rw [decHead, if_neg h1, if_neg h2, if_pos h3]; rfl
    · rw [decHead, if_neg h1, if_neg h2, if_neg (by omega), if_pos h4, ← hw,
        if_neg (by rw [List.length_append]; omega), List.take_left, List.drop_left]

theorem decHead_eq_break {bs : Bytes} :
    decHead bs = .error .flagBreak ↔ ∃ b t, bs = b :: t ∧ b.toNat = 0xFF := by
  constructor
  · intro h
    cases bs with
    | nil => cases h
    | cons b t =>
      refine ⟨b, t, rfl, Decidable.byContradiction fun h2 => ?_⟩
      by_cases h1 : b.toNat = 0x9F
      · rw [decHead, if_pos h1] at h; cases h
      · rw [decHead, if_neg h1, if_neg h2] at h
        dsimp only at h
        split at h
        · cases h
        · split at h
          · split at h <;> cases h
          · cases h
  · rintro ⟨b, t, rfl, hb⟩
    rw [decHead, if_neg (by omega), if_pos hb]

/-- **Head round trip**: reading what `WriteMajors` wrote yields the same major type and argument
and leaves exactly the bytes that followed. -/
theorem decHead_encHead (maj n : Nat) (rest : Bytes) (hm : maj < 8) (hn : n < 2 ^ 64) :
    decHead (encHead maj n ++ rest) = .ok (maj, n, rest) := by
  obtain ⟨a, k, he, _, ha⟩ := encHead_cases maj n
  have ha27 : a ≤ 27 := by omega
  have hb : (UInt8.ofNat (maj * 32 + a)).toNat = maj * 32 + a := toNat_ofNat_lt _ (by omega)
  have hdiv : (maj * 32 + a) / 32 = maj := by omega
  have hmod : (maj * 32 + a) % 32 = a := by omega
  rw [he]
  refine decHead_eq_ok.mpr ⟨_, beBytes k n, rfl, ?_⟩
  rw [hb, hdiv, hmod, beBytes_length]
  refine ⟨by omega, by omega, rfl, ?_⟩
  rcases ha with ⟨h, rfl, rfl⟩ | ⟨h1, _, rfl, hlt⟩
  · exact .inl ⟨by omega, rfl, rfl⟩
  · exact .inr ⟨by omega, ha27, rfl, (beVal_beBytes _ n (hlt hn)).symm⟩

theorem decExpect_encHead (maj n : Nat) (rest : Bytes) (hm : maj < 8) (hn : n < 2 ^ 64) :
    decExpect maj (encHead maj n ++ rest) = .ok (n, rest) := by
  simp [decExpect, decHead_encHead maj n rest hm hn]

theorem readRaw_append (d rest : Bytes) (h : d.length ≤ maxInt32) :
    readRaw d.length (d ++ rest) = .ok (d, rest) := by
  unfold readRaw
  have : ¬ d.length > maxInt32 := by omega
  simp [this]

theorem decBytes_encBytes (d rest : Bytes) (h : d.length ≤ maxInt32) :
    decBytes (encBytes d ++ rest) = .ok (d, rest) := by
  unfold decBytes encBytes
  have hn : d.length < 2 ^ 64 := by unfold maxInt32 at h; omega
  rw [List.append_assoc, decExpect_encHead majBytes d.length (d ++ rest) (by decide) hn]
  exact readRaw_append d rest h

theorem decText_encText (d rest : Bytes) (h : d.length ≤ maxInt32) :
    decText (encText d ++ rest) = .ok (d, rest) := by
  unfold decText encText
  have hn : d.length < 2 ^ 64 := by unfold maxInt32 at h; omega
  rw [List.append_assoc, decExpect_encHead majText d.length (d ++ rest) (by decide) hn]
  exact readRaw_append d rest h

theorem decUInt_encUInt (n : Nat) (rest : Bytes) (hn : n < 2 ^ 64) :
    decUInt (encUInt n ++ rest) = .ok (n, rest) :=
  decExpect_encHead majUInt n rest (by decide) hn

theorem decArray_encArray (n : Nat) (rest : Bytes) (hn : n < 2 ^ 64) :
    decArray (encArray n ++ rest) = .ok (n, rest) :=
  decExpect_encHead majArray n rest (by decide) hn

/-- `ReadRawBytes` never pre-allocates more than 1 MiB on the word of a length field. -/
theorem readRawPrealloc_le (l : Nat) : readRawPrealloc l ≤ 1024 * 1024 := by
  unfold readRawPrealloc; split
  · omega
  · split <;> omega

/-- Scanning a text up to its separator: everything before `x` satisfies `p`, `x` does not. -/
theorem takeWhile_sep {α} {p : α → Bool} (l r : List α) (x : α) (hl : l.all p = true) (hx : p x = false) :
    (l ++ x :: r).takeWhile p = l := by
  rw [List.takeWhile_append_of_pos (by simpa [List.all_eq_true] using hl)]
  simp [hx]

theorem dropWhile_sep {α} {p : α → Bool} (l r : List α) (x : α) (hl : l.all p = true) (hx : p x = false) :
    (l ++ x :: r).dropWhile p = x :: r := by
  rw [List.dropWhile_append_of_pos (by simpa [List.all_eq_true] using hl)]
  simp [hx]

end Dtn7.Cbor.Lemmas
