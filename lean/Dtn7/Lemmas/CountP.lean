/-
A strict version of `List.countP_mono_left`, for the counting arguments about the loop of `updateUnless`
(`Dtn7.Lemmas.IdKeeper`, `Dtn7.Lemmas.NodeSkip`).
-/

theorem List.countP_lt_of_mem {α} {p q : α → Bool} (hpq : ∀ x, p x = true → q x = true) {a : α} :
    ∀ {l : List α}, a ∈ l → q a = true → p a = false → l.countP p < l.countP q
  | x :: l, h, hq, hp => by
    have hle : l.countP p ≤ l.countP q := List.countP_mono_left (fun x _ => hpq x)
    rcases List.mem_cons.mp h with rfl | h
    · simp only [List.countP_cons, hq, hp, if_true, Bool.false_eq_true, if_false]; omega
    · have ih := List.countP_lt_of_mem hpq h hq hp
      simp only [List.countP_cons]
      cases hx : p x
      · simp only [Bool.false_eq_true, if_false]; split <;> omega
      · simp only [hpq x hx, if_true]; omega
