import Dtn7.Model.Bbc
import Dtn7.Lemmas.BbcFrag

namespace Dtn7.Bbc.Lemmas
open Dtn7.Cbor (Bytes)
open Dtn7.Wire.Lemmas (find?_filter_ne)
open Dtn7.Bbc

theorem mk_fields (tid seq : UInt8) (s e f : Bool) (p : Bytes) (h : seq.toNat < 32) :
    (mkFrag tid seq s e f p).tid = tid ∧ (mkFrag tid seq s e f p).seq = seq ∧ (mkFrag tid seq s e f p).start = s ∧
    (mkFrag tid seq s e f p).fin = e ∧ (mkFrag tid seq s e f p).fail = f ∧ (mkFrag tid seq s e f p).payload = p := by
  have := ident_fields seq s e f
  refine ⟨rfl, ?_, this.2.1, this.2.2.1, this.2.2.2, rfl⟩
  show ((mkIdent seq s e f) >>> 3) &&& 0x1F = seq
  rw [this.1]
  exact and_1F_of_lt seq.toBitVec h

theorem nextSeq_small : ∀ k, k < 16 → nextSeq (UInt8.ofNat k) = UInt8.ofNat ((k + 1) % 16) := by decide

theorem nextSeq_ofNat (i : Nat) : nextSeq (UInt8.ofNat (i % 16)) = seqOf i := by
  rw [nextSeq_small (i % 16) (Nat.mod_lt _ (by decide))]
  unfold seqOf
  congr 1
  omega

theorem nextSeq_seqOf (i : Nat) : nextSeq (seqOf i) = seqOf (i + 1) := by
  unfold seqOf
  rw [nextSeq_ofNat (i + 1)]
  rfl

theorem seqOf_toNat (i : Nat) : (seqOf i).toNat = (i + 1) % 16 := by
  unfold seqOf
  exact Dtn7.Cbor.Lemmas.toNat_ofNat_lt _ (by omega)

theorem seqOf_eq_iff (i j : Nat) : seqOf i = seqOf j ↔ (i + 1) % 16 = (j + 1) % 16 := by
  constructor
  · intro h
    have := congrArg UInt8.toNat h
    rwa [seqOf_toNat, seqOf_toNat] at this
  · intro h
    unfold seqOf; rw [h]

theorem concatPayload_append (a b : List Frag) : concatPayload (a ++ b) = concatPayload a ++ concatPayload b := by
  induction a with
  | nil => rfl
  | cons f a ih => simp [concatPayload, ih]

/-- The loop invariant of the sender: started at position `i` (previous number `i mod 16`, START iff `i = 0`)
on a non-empty rest it emits a well-shaped tail of a train whose total length is `i +` what it emits. -/
theorem trainFuel_ok (tid : UInt8) (p : Nat) (hp : 0 < p) :
    ∀ (fuel i : Nat) (start : Bool) (seq : UInt8) (pl : Bytes), start = (i == 0) → seq = UInt8.ofNat (i % 16) →
      pl ≠ [] → pl.length ≤ fuel →
      trainFuel tid p fuel start seq pl ≠ [] ∧ (∀ f ∈ trainFuel tid p fuel start seq pl, f.payload.length ≤ p) ∧
        concatPayload (trainFuel tid p fuel start seq pl) = pl ∧
        shapeFrom tid (i + (trainFuel tid p fuel start seq pl).length) i (trainFuel tid p fuel start seq pl) = true := by
  intro fuel
  induction fuel with
  | zero =>
    intro i start seq pl _ _ hne hl
    exact absurd (List.length_eq_zero_iff.mp (Nat.le_zero.mp hl)) hne
  | succ fuel ih =>
    intro i start seq pl hst hseq hne hl
    subst hst hseq
    have hs : (seqOf i).toNat < 32 := by rw [seqOf_toNat]; omega
    simp only [trainFuel, nextSeq_ofNat]
    by_cases hle : pl.length ≤ p
    · rw [if_pos hle]
      obtain ⟨h1, h2, h3, h4, h5, h6⟩ := mk_fields tid (seqOf i) (i == 0) true false pl hs
      refine ⟨by simp, ?_, ?_, ?_⟩
      · intro f hf
        rw [List.mem_singleton.mp hf, h6]; exact hle
      · simp [concatPayload, h6]
      · simp [shapeFrom, h1, h2, h3, h4, h5]
    · rw [if_neg hle]
      have hdrop : pl.drop p ≠ [] := fun hnil => by
        have := congrArg List.length hnil
        rw [List.length_drop, List.length_nil] at this
        omega
      obtain ⟨g1, g2, g3, g4⟩ := ih (i + 1) false (seqOf i) (pl.drop p) rfl rfl hdrop
        (by rw [List.length_drop]; omega)
      generalize trainFuel tid p fuel false (seqOf i) (pl.drop p) = tl at g1 g2 g3 g4 ⊢
      obtain ⟨h1, h2, h3, h4, h5, h6⟩ := mk_fields tid (seqOf i) (i == 0) false false (pl.take p) hs
      refine ⟨by simp, ?_, ?_, ?_⟩
      · intro f hf
        rcases List.mem_cons.mp hf with hf | hf
        · rw [hf, h6, List.length_take]; omega
        · exact g2 f hf
      · simp only [concatPayload, h6, g3, List.take_append_drop]
      · have hlen : 0 < tl.length := Nat.pos_of_ne_zero (fun h => g1 (List.length_eq_zero_iff.mp h))
        have hne1 : (i + 1 == i + (tl.length + 1)) = false := by
          rw [beq_eq_false_iff_ne]; omega
        rw [show i + 1 + tl.length = i + (tl.length + 1) by omega] at g4
        simp [shapeFrom, h1, h2, h3, h4, h5, hne1, g4]

theorem shape_at (tid : UInt8) (n : Nat) : ∀ (t : List Frag) (i j : Nat) (f : Frag),
    shapeFrom tid n i t = true → t[j]? = some f →
      f.tid = tid ∧ f.seq = seqOf (i + j) ∧ f.start = (i + j == 0) ∧ f.fin = (i + j + 1 == n) ∧ f.fail = false := by
  intro t
  induction t with
  | nil => intro i j f _ h; simp at h
  | cons g t ih =>
    intro i j f hs hj
    simp only [shapeFrom, Bool.and_eq_true, beq_iff_eq, Bool.not_eq_eq_eq_not, Bool.not_true] at hs
    obtain ⟨⟨⟨⟨⟨a1, a2⟩, a3⟩, a4⟩, a5⟩, a6⟩ := hs
    cases j with
    | zero =>
      simp only [List.getElem?_cons_zero, Option.some.injEq] at hj
      subst hj
      exact ⟨a1, a2, a3, a4, a5⟩
    | succ j =>
      simp only [List.getElem?_cons_succ] at hj
      have := ih (i + 1) j f a6 hj
      have e : i + 1 + j = i + (j + 1) := by omega
      rw [e] at this
      exact this

theorem concat_take_succ (t : List Frag) (l : Nat) (f : Frag) (h : t[l]? = some f) :
    concatPayload (t.take (l + 1)) = concatPayload (t.take l) ++ f.payload := by
  induction t generalizing l with
  | nil => simp at h
  | cons g t ih =>
    cases l with
    | zero =>
      simp only [List.getElem?_cons_zero, Option.some.injEq] at h
      subst h; simp [concatPayload]
    | succ l =>
      simp only [List.getElem?_cons_succ] at h
      simp only [List.take_succ_cons, concatPayload, ih l h, List.append_assoc]

/-- Entry of the table after positions `0 … l` were accepted. -/
def stAt (t : List Frag) (l : Nat) : Option RxSt := some ⟨concatPayload (t.take (l + 1)), seqOf l⟩

/-- What comes out when the END fragment completes `pl`. -/
def endOut (decodes : Bytes → Bool) (tid : UInt8) (seq : UInt8) (pl : Bytes) : Out :=
  if decodes pl then .deliver tid pl else .failFrag tid seq

section steps
variable (decodes : Bytes → Bool) (tid : UInt8) (t : List Frag) (hs : shapeFrom tid t.length 0 t = true)
include hs

theorem step_start (f : Frag) (h0 : t[0]? = some f) (hn : 2 ≤ t.length) :
    rx decodes none f = (stAt t 0, []) := by
  obtain ⟨_, a2, a3, a4, a5⟩ := shape_at tid t.length t 0 0 f hs h0
  have hfin : f.fin = false := by rw [a4]; simp; omega
  have hst : f.start = true := by rw [a3]; rfl
  simp only [rx, a5, hst, hfin, Bool.false_eq_true, ↓reduceIte, Bool.not_true, stAt, a2]
  have := concat_take_succ t 0 f h0
  simp only [List.take_zero, concatPayload, List.nil_append] at this
  rw [this]

theorem step_single (f : Frag) (h0 : t[0]? = some f) (hn : t.length = 1) :
    rx decodes none f = (none, [endOut decodes tid (seqOf 0) (concatPayload t)]) := by
  obtain ⟨a1, a2, a3, a4, a5⟩ := shape_at tid t.length t 0 0 f hs h0
  have hfin : f.fin = true := by rw [a4, hn]; rfl
  have hst : f.start = true := by rw [a3]; rfl
  have ht : t = [f] := by
    cases t with
    | nil => simp at hn
    | cons g t' =>
      simp only [List.length_cons] at hn
      have : t' = [] := List.length_eq_zero_iff.mp (by omega)
      subst this
      simp only [List.getElem?_cons_zero, Option.some.injEq] at h0
      rw [h0]
  simp only [rx, a5, hst, hfin, Bool.false_eq_true, ↓reduceIte, Bool.not_true, endOut, a1, a2]
  rw [ht]
  simp [concatPayload]

theorem step_reject_none (j : Nat) (f : Frag) (hj : t[j]? = some f) (hj0 : j ≠ 0) :
    rx decodes none f = (none, [.failFrag tid (seqOf j)]) := by
  obtain ⟨a1, a2, a3, _, a5⟩ := shape_at tid t.length t 0 j f hs hj
  have hst : f.start = false := by rw [a3]; simp [hj0]
  simp only [Nat.zero_add] at a2
  simp only [rx, a5, hst, Bool.false_eq_true, ↓reduceIte, Bool.not_false, a1, a2]

theorem step_next (l : Nat) (f : Frag) (hj : t[l + 1]? = some f) (hl : l + 2 < t.length) :
    rx decodes (stAt t l) f = (stAt t (l + 1), []) := by
  obtain ⟨_, a2, a3, a4, a5⟩ := shape_at tid t.length t 0 (l + 1) f hs hj
  simp only [Nat.zero_add] at a2 a3 a4
  have hst : f.start = false := by rw [a3]; simp
  have hfin : f.fin = false := by rw [a4]; simp; omega
  have hseq : (seqOf (l + 1) != nextSeq (seqOf l)) = false := by rw [nextSeq_seqOf]; simp
  simp only [rx, stAt, a5, hst, hfin, a2, hseq, Bool.false_eq_true, ↓reduceIte]
  rw [concat_take_succ t (l + 1) f hj]

theorem step_end (l : Nat) (f : Frag) (hj : t[l + 1]? = some f) (hl : l + 2 = t.length) :
    rx decodes (stAt t l) f = (none, [endOut decodes tid (seqOf (l + 1)) (concatPayload t)]) := by
  obtain ⟨a1, a2, a3, a4, a5⟩ := shape_at tid t.length t 0 (l + 1) f hs hj
  simp only [Nat.zero_add] at a2 a3 a4
  have hst : f.start = false := by rw [a3]; simp
  have hfin : f.fin = true := by rw [a4, ← hl]; simp
  have hseq : (seqOf (l + 1) != nextSeq (seqOf l)) = false := by rw [nextSeq_seqOf]; simp
  have hc : concatPayload (t.take (l + 1)) ++ f.payload = concatPayload t := by
    rw [← concat_take_succ t (l + 1) f hj, hl, List.take_length]
  simp only [rx, stAt, a5, hst, hfin, a2, hseq, Bool.false_eq_true, ↓reduceIte, hc, endOut, a1]

/-- In the state "0 … l accepted" any position other than `l + 1` that is less than 16 away is refused. -/
theorem step_reject_some (l j : Nat) (f : Frag) (hj : t[j]? = some f) (hne : j ≠ l + 1)
    (hw : l ≤ j + 14 ∧ j ≤ l + 16) :
    rx decodes (stAt t l) f = (none, [.failFrag tid (seqOf j)]) := by
  obtain ⟨a1, a2, a3, _, a5⟩ := shape_at tid t.length t 0 j f hs hj
  simp only [Nat.zero_add] at a2 a3
  have hseq : (seqOf j != nextSeq (seqOf l)) = true := by
    rw [nextSeq_seqOf]
    simp only [bne_iff_ne, ne_eq, seqOf_eq_iff]
    omega
  simp only [rx, stAt, a5, a2, hseq, Bool.false_eq_true, ↓reduceIte, a1]

end steps

theorem runSt_append (decodes : Bytes → Bool) (st : Option RxSt) (a b : List Frag) :
    runSt decodes st (a ++ b) =
      ((runSt decodes (runSt decodes st a).1 b).1, (runSt decodes st a).2 ++ (runSt decodes (runSt decodes st a).1 b).2) := by
  induction a generalizing st with
  | nil => simp [runSt]
  | cons f a ih =>
    simp only [List.cons_append, runSt, ih, List.append_assoc]

theorem pick_append (t : List Frag) (a b : List Nat) : pick t (a ++ b) = pick t a ++ pick t b := by
  simp [pick, List.filterMap_append]

theorem pick_cons (t : List Frag) (j : Nat) (r : List Nat) (f : Frag) (h : t[j]? = some f) :
    pick t (j :: r) = f :: pick t r := by
  simp [pick, h]

/-- Positions `l+1, …, l+m` accepted silently as long as END is not among them. -/
theorem run_consecutive (decodes : Bytes → Bool) (tid : UInt8) (t : List Frag)
    (hs : shapeFrom tid t.length 0 t = true) (m : Nat) : ∀ l, l + m + 1 < t.length →
    runSt decodes (stAt t l) (pick t (List.range' (l + 1) m)) = (stAt t (l + m), []) := by
  induction m with
  | zero => intro l _; simp [pick, runSt]
  | succ m ih =>
    intro l hl
    have hlt : l + 1 < t.length := by omega
    obtain ⟨f, hf⟩ : ∃ f, t[l + 1]? = some f := ⟨t[l + 1], List.getElem?_eq_getElem hlt⟩
    rw [List.range'_succ, pick_cons t _ _ f hf]
    simp only [runSt, step_next decodes tid t hs l f hf (by omega)]
    have := ih (l + 1) (by omega)
    rw [this]
    simp only [List.nil_append]
    congr 2
    omega

/-- Positions `0, …, m−1` (`1 ≤ m < n`): state "0 … m−1 accepted", nothing came out. -/
theorem run_prefix (decodes : Bytes → Bool) (tid : UInt8) (t : List Frag)
    (hs : shapeFrom tid t.length 0 t = true) (m : Nat) (hm : 1 ≤ m) (hlt : m < t.length) :
    runSt decodes none (pick t (List.range' 0 m)) = (stAt t (m - 1), []) := by
  obtain ⟨f, hf⟩ : ∃ f, t[0]? = some f := ⟨t[0]'(by omega), List.getElem?_eq_getElem (by omega)⟩
  cases m with
  | zero => omega
  | succ m =>
    rw [List.range'_succ, pick_cons t _ _ f hf]
    simp only [runSt, step_start decodes tid t hs f hf (by omega)]
    have := run_consecutive decodes tid t hs m 0 (by omega)
    simp only [Nat.zero_add] at this
    rw [this]
    simp

/-- **bbc_roundtrip**: the whole train, in order, into an empty table. -/
theorem run_whole (decodes : Bytes → Bool) (tid : UInt8) (t : List Frag) (hne : t ≠ [])
    (hs : shapeFrom tid t.length 0 t = true) :
    runSt decodes none (pick t (List.range' 0 t.length)) =
      (none, [endOut decodes tid (seqOf (t.length - 1)) (concatPayload t)]) := by
  have hpos : 0 < t.length := Nat.pos_of_ne_zero (fun h => hne (List.length_eq_zero_iff.mp h))
  by_cases h1 : t.length = 1
  · obtain ⟨f, hf⟩ : ∃ f, t[0]? = some f := ⟨t[0]'(by omega), List.getElem?_eq_getElem (by omega)⟩
    rw [h1]
    show runSt decodes none (pick t [0]) = _
    rw [pick_cons t _ _ f hf]
    simp only [runSt, step_single decodes tid t hs f hf h1, pick, List.filterMap_nil, List.append_nil]
  · obtain ⟨l, hl⟩ : ∃ l, t.length = l + 2 := ⟨t.length - 2, by omega⟩
    obtain ⟨f, hf⟩ : ∃ f, t[l + 1]? = some f := ⟨t[l + 1]'(by omega), List.getElem?_eq_getElem (by omega)⟩
    rw [hl, List.range'_concat, pick_append, runSt_append, run_prefix decodes tid t hs (l + 1) (by omega) (by omega)]
    simp only [Nat.zero_add, Nat.one_mul, Nat.add_sub_cancel]
    rw [pick_cons t _ _ f hf]
    simp only [runSt, step_end decodes tid t hs l f hf hl.symm, pick, List.filterMap_nil, List.append_nil,
      List.nil_append]
    rfl

theorem range'_shift (n : Nat) : ∀ s, List.range' (s + 1) n = (List.range' s n).map (· + 1) := by
  induction n with
  | zero => intro s; rfl
  | succ n ih => intro s; simp only [List.range'_succ, List.map_cons, ih (s + 1)]

theorem pick_range (t : List Frag) : pick t (List.range' 0 t.length) = t := by
  unfold pick
  induction t with
  | nil => simp
  | cons f t ih =>
    rw [List.length_cons, List.range'_succ]
    simp only [List.filterMap_cons, List.getElem?_cons_zero]
    congr 1
    rw [range'_shift t.length 0, List.filterMap_map]
    simpa [Function.comp_def] using ih

/-- Invariant: the open entry (if any) holds exactly the first `l+1` payload pieces, `l` being the position
received last, and END is still to come. -/
def Inv (t : List Frag) (st : Option RxSt) (prev : Option Nat) : Prop :=
  (st = none) ∨ (∃ l, prev = some l ∧ l + 1 < t.length ∧ st = stAt t l)

def linked (prev : Option Nat) (is : List Nat) : Bool :=
  match prev with
  | some l => windowOk (l :: is)
  | none => windowOk is

theorem windowOk_tail (i : Nat) (r : List Nat) (h : windowOk (i :: r) = true) : windowOk r = true := by
  cases r with
  | nil => rfl
  | cons j r' =>
    simp only [windowOk, Bool.and_eq_true] at h
    exact h.2

theorem safe_gen (decodes : Bytes → Bool) (tid : UInt8) (t : List Frag)
    (hs : shapeFrom tid t.length 0 t = true) : ∀ (is : List Nat) (st : Option RxSt) (prev : Option Nat),
    (∀ j ∈ is, j < t.length) → Inv t st prev → linked prev is = true →
    ∀ o ∈ (runSt decodes st (pick t is)).2, o.isDeliver = true → o = .deliver tid (concatPayload t) := by
  intro is
  induction is with
  | nil => intro st prev _ _ _ o ho; simp [pick, runSt] at ho
  | cons j is ih =>
    intro st prev hin hinv hlink o ho hdel
    have hjlt : j < t.length := hin j (by simp)
    obtain ⟨f, hf⟩ : ∃ f, t[j]? = some f := ⟨t[j], List.getElem?_eq_getElem hjlt⟩
    rw [pick_cons t j is f hf] at ho
    simp only [runSt, List.mem_append] at ho
    have hin' : ∀ k ∈ is, k < t.length := fun k hk => hin k (by simp [hk])
    -- the window condition from position j onwards
    have hlinkj : linked (some j) is = true := by
      cases prev with
      | none => exact hlink
      | some l => exact windowOk_tail l (j :: is) hlink
    -- a step that leaves no open entry: what it emits is a failure fragment or the whole payload, and the rest
    -- of the run starts afresh
    have closed : ∀ x : Out, (x.isDeliver = true → x = .deliver tid (concatPayload t)) →
        (o ∈ [x] ∨ o ∈ (runSt decodes none (pick t is)).2) → o = .deliver tid (concatPayload t) := by
      intro x hx ho
      rcases ho with ho | ho
      · rw [List.mem_singleton.mp ho] at hdel ⊢; exact hx hdel
      · exact ih none none hin' (Or.inl rfl) (windowOk_tail j is hlinkj) o ho hdel
    -- a step that opens or extends the entry emits nothing
    have opened : ∀ l, l + 1 < t.length → j = l →
        (o ∈ ([] : List Out) ∨ o ∈ (runSt decodes (stAt t l) (pick t is)).2) → o = .deliver tid (concatPayload t) := by
      intro l hl hjl ho
      rcases ho with ho | ho
      · cases ho
      · exact ih (stAt t l) (some l) hin' (Or.inr ⟨l, rfl, hl, rfl⟩) (hjl ▸ hlinkj) o ho hdel
    have endOut_ok : ∀ q, (endOut decodes tid q (concatPayload t)).isDeliver = true →
        endOut decodes tid q (concatPayload t) = .deliver tid (concatPayload t) := by
      intro q h
      unfold endOut at h ⊢
      by_cases hd : decodes (concatPayload t) = true
      · rw [if_pos hd]
      · rw [if_neg hd] at h; cases h
    have failFrag_no : ∀ q, (Out.failFrag tid q).isDeliver = true → Out.failFrag tid q = .deliver tid (concatPayload t) :=
      fun _ h => nomatch h
    rcases hinv with hnone | ⟨l, hprev, hl, hst⟩
    · -- no open entry
      subst hnone
      by_cases hj0 : j = 0
      · subst hj0
        by_cases h1 : t.length = 1
        · rw [step_single decodes tid t hs f hf h1] at ho
          exact closed _ (endOut_ok _) ho
        · rw [step_start decodes tid t hs f hf (by omega)] at ho
          exact opened 0 (by omega) rfl ho
      · rw [step_reject_none decodes tid t hs j f hf hj0] at ho
        exact closed _ (failFrag_no _) ho
    · -- entry open after position l
      subst hst hprev
      have hw : l ≤ j + 14 ∧ j ≤ l + 16 := by
        simp only [linked, windowOk, Bool.and_eq_true, decide_eq_true_eq] at hlink
        exact ⟨hlink.1.1, hlink.1.2⟩
      by_cases hnext : j = l + 1
      · subst hnext
        by_cases hend : l + 2 = t.length
        · rw [step_end decodes tid t hs l f hf hend] at ho
          exact closed _ (endOut_ok _) ho
        · rw [step_next decodes tid t hs l f hf (by omega)] at ho
          exact opened (l + 1) (by omega) rfl ho
      · rw [step_reject_some decodes tid t hs l j f hf hnext hw] at ho
        exact closed _ (failFrag_no _) ho

/-- **bbc_safe**: of a well-shaped train ANY selection of fragments may arrive — lost, repeated, out of order, as long
as consecutive arrivals are fewer than 16 positions apart (`windowOk`) — and everything the receiver delivers is
the train's payload. -/
theorem safe (decodes : Bytes → Bool) (tid : UInt8) (t : List Frag)
    (hs : shapeFrom tid t.length 0 t = true) (is : List Nat) (hin : ∀ j ∈ is, j < t.length)
    (hw : windowOk is = true) :
    ∀ o ∈ run decodes none (pick t is), o.isDeliver = true → o = .deliver tid (concatPayload t) :=
  safe_gen decodes tid t hs is none none hin (Or.inl rfl) hw

/-! ### a single fault is signalled (outside the two D29 classes) -/

theorem mem_run_of_mem_first (decodes : Bytes → Bool) (st : Option RxSt) (f : Frag) (r : List Frag) (o : Out)
    (h : o ∈ (rx decodes st f).2) : o ∈ (runSt decodes st (f :: r)).2 := by
  simp only [runSt, List.mem_append]; exact Or.inl h

/-- After positions `0 … m−1` (`m < n`), a position `j` that is not the expected one (and less than 16 away)
makes the receiver broadcast a failure fragment. `hw` is the `windowOk` condition between `m − 1`, the position
the open entry stands at, and `j`, written without the subtraction. -/
theorem signalled_after_prefix (decodes : Bytes → Bool) (tid : UInt8) (t : List Frag)
    (hs : shapeFrom tid t.length 0 t = true) (m j : Nat) (r : List Nat) (hm : m < t.length) (hj : j < t.length)
    (hne : j ≠ m) (hw : m ≤ j + 15 ∧ j + 1 ≤ m + 16) :
    ∃ o ∈ (runSt decodes none (pick t (List.range' 0 m ++ j :: r))).2, o.isFailFrag = true := by
  obtain ⟨f, hf⟩ : ∃ f, t[j]? = some f := ⟨t[j], List.getElem?_eq_getElem hj⟩
  rw [pick_append, runSt_append, pick_cons t j r f hf]
  refine ⟨.failFrag tid (seqOf j), ?_, rfl⟩
  apply List.mem_append_right
  apply mem_run_of_mem_first
  by_cases hm0 : m = 0
  · subst hm0
    simp only [List.range'_zero, pick, List.filterMap_nil, runSt]
    rw [step_reject_none decodes tid t hs j f hf hne]
    simp
  · rw [run_prefix decodes tid t hs m (by omega) hm]
    simp only
    rw [step_reject_some decodes tid t hs (m - 1) j f hf (by omega) (by omega)]
    simp

/-- After the whole train, any further position except 0 is refused with a failure fragment. -/
theorem signalled_after_whole (decodes : Bytes → Bool) (tid : UInt8) (t : List Frag) (hne : t ≠ [])
    (hs : shapeFrom tid t.length 0 t = true) (j : Nat) (r : List Nat) (hj : j < t.length) (hj0 : j ≠ 0) :
    ∃ o ∈ (runSt decodes none (pick t (List.range' 0 t.length ++ j :: r))).2, o.isFailFrag = true := by
  obtain ⟨f, hf⟩ : ∃ f, t[j]? = some f := ⟨t[j], List.getElem?_eq_getElem hj⟩
  rw [pick_append, runSt_append, pick_cons t j r f hf, run_whole decodes tid t hne hs]
  refine ⟨.failFrag tid (seqOf j), ?_, rfl⟩
  apply List.mem_append_right
  apply mem_run_of_mem_first
  simp only
  rw [step_reject_none decodes tid t hs j f hf hj0]
  simp

/-- **bbc_single_fault_signalled**, outside the two classes `Fault.silent` (D29: the END fragment lost, the only
fragment repeated): one dropped, repeated or swapped fragment makes the receiver broadcast a failure fragment. -/
theorem single_fault_signalled (decodes : Bytes → Bool) (tid : UInt8) (t : List Frag) (hne : t ≠ [])
    (hs : shapeFrom tid t.length 0 t = true) (fault : Fault) (hv : fault.valid t.length)
    (hsil : ¬ fault.silent t.length) :
    ∃ o ∈ run decodes none (pick t (fault.apply t.length)), o.isFailFrag = true := by
  unfold run
  cases fault with
  | drop d =>
    simp only [Fault.valid, Fault.silent] at hv hsil
    simp only [Fault.apply]
    have e : t.length - d - 1 = (t.length - d - 2) + 1 := by omega
    rw [e, List.range'_succ]
    exact signalled_after_prefix decodes tid t hs d (d + 1) _ hv (by omega) (by omega) (by omega)
  | dup d =>
    simp only [Fault.valid, Fault.silent] at hv hsil
    simp only [Fault.apply]
    by_cases hlast : d + 1 = t.length
    · have e1 : t.length - d = 1 := by omega
      rw [e1, hlast]
      show ∃ o ∈ (runSt decodes none (pick t (List.range' 0 t.length ++ d :: []))).2, _
      exact signalled_after_whole decodes tid t hne hs d [] hv (by omega)
    · have e : t.length - d = (t.length - d - 1) + 1 := by omega
      rw [e, List.range'_succ]
      exact signalled_after_prefix decodes tid t hs (d + 1) d _ (by omega) hv (by omega) (by omega)
  | swap d =>
    simp only [Fault.valid] at hv
    simp only [Fault.apply, List.append_assoc, List.cons_append, List.nil_append]
    exact signalled_after_prefix decodes tid t hs d (d + 1) _ (by omega) hv (by omega) (by omega)

theorem get_put (t : Table) (k k' : UInt8) (v : Option RxSt) :
    (t.put k v).get k' = if k' = k then v else t.get k' := by
  cases v with
  | none => simp only [Table.put, Table.get, find?_filter_ne]; split <;> rfl
  | some v =>
    simp only [Table.put, Table.get, List.find?_cons, find?_filter_ne]
    by_cases h : k' = k
    · simp only [h, beq_self_eq_true, if_true, Option.map_some]
    · have : (k == k') = false := by simpa using Ne.symm h
      simp only [this, h, if_false]

theorem endOut_tid (decodes : Bytes → Bool) (tid q : UInt8) (pl : Bytes) :
    (endOut decodes tid q pl).tid = tid := by
  unfold endOut; split <;> rfl

/-- Whatever `rx` emits carries the fragment's transmission id: every branch emits nothing or one output built
from `f.tid`. -/
theorem rx_out_tid (decodes : Bytes → Bool) (st : Option RxSt) (f : Frag) :
    ∀ o ∈ (rx decodes st f).2, o.tid = f.tid := by
  have one : ∀ (x : Out) (s : Option RxSt), x.tid = f.tid → ∀ o ∈ (s, [x]).2, o.tid = f.tid :=
    fun x _ hx o ho => by rw [List.mem_singleton.mp ho]; exact hx
  have nil : ∀ s : Option RxSt, ∀ o ∈ (s, ([] : List Out)).2, o.tid = f.tid := fun _ o ho => nomatch ho
  unfold rx
  by_cases h1 : f.fail = true
  · rw [if_pos h1]; exact one _ _ rfl
  rw [if_neg h1]
  cases st with
  | none =>
    dsimp only
    by_cases h2 : (!f.start) = true
    · rw [if_pos h2]; exact one _ _ rfl
    rw [if_neg h2]
    by_cases h3 : f.fin = true
    · rw [if_pos h3]; exact one _ _ (endOut_tid ..)
    · rw [if_neg h3]; exact nil _
  | some t =>
    dsimp only
    by_cases h2 : (f.seq != nextSeq t.prev) = true
    · rw [if_pos h2]; exact one _ _ rfl
    rw [if_neg h2]
    by_cases h3 : f.start = true
    · rw [if_pos h3]; exact one _ _ rfl
    rw [if_neg h3]
    by_cases h4 : f.fin = true
    · rw [if_pos h4]; exact one _ _ (endOut_tid ..)
    · rw [if_neg h4]; exact nil _

/-- For every interleaving, what the connector emits for transmission id `k` is exactly what a receiver that
only ever saw the fragments with id `k` emits. -/
theorem runTable_project (decodes : Bytes → Bool) (k : UInt8) (fs : List Frag) (tab : Table) :
    (runTable decodes tab fs).filter (·.tid == k) = run decodes (tab.get k) (fs.filter (·.tid == k)) := by
  induction fs generalizing tab with
  | nil => rfl
  | cons f fs ih =>
    simp only [runTable, step, List.filter_append]
    by_cases hk : f.tid = k
    · have h1 : (f.tid == k) = true := by simp [hk]
      simp only [List.filter_cons, h1, ↓reduceIte]
      unfold run
      simp only [runSt]
      rw [ih, hk, get_put, if_pos rfl]
      have : (rx decodes (tab.get k) f).2.filter (·.tid == k) = (rx decodes (tab.get k) f).2 := by
        rw [List.filter_eq_self]
        intro o ho
        have := rx_out_tid decodes (tab.get k) f o ho
        simp [this, hk]
      rw [this]
      rfl
    · have h1 : (f.tid == k) = false := by simp [hk]
      simp only [List.filter_cons, h1, Bool.false_eq_true, ↓reduceIte]
      rw [ih, get_put, if_neg (fun h => hk h.symm)]
      have : (rx decodes (tab.get f.tid) f).2.filter (·.tid == k) = [] := by
        rw [List.filter_eq_nil_iff]
        intro o ho
        have := rx_out_tid decodes (tab.get f.tid) f o ho
        simp [this, hk]
      rw [this]
      rfl

/-- Safety and concurrency together, from any table that has no open entry for `tid` (the other entries do not
matter). -/
theorem safe_concurrent (decodes : Bytes → Bool) (tid : UInt8) (t : List Frag)
    (hs : shapeFrom tid t.length 0 t = true) (is : List Nat) (hin : ∀ j ∈ is, j < t.length)
    (hw : windowOk is = true) (tab : Table) (htab : tab.get tid = none)
    (fs : List Frag) (hsel : fs.filter (·.tid == tid) = pick t is) :
    ∀ o ∈ runTable decodes tab fs, o.tid = tid → o.isDeliver = true → o = .deliver tid (concatPayload t) := by
  intro o ho htid hdel
  have hmem : o ∈ (runTable decodes tab fs).filter (·.tid == tid) := by
    simp [List.mem_filter, ho, htid]
  rw [runTable_project decodes tid fs tab, hsel, htab] at hmem
  exact safe decodes tid t hs is hin hw o hmem hdel

end Dtn7.Bbc.Lemmas
