/-
Fragmentation followed by reassembly (model level): the fragments `fragment` produces are genuine
fragments (`FragOf`) of the payload they were cut from — also when the input is itself a fragment — and
they cover it, so reassembly in any order returns the original payload and blocks.
-/
import Dtn7.Lemmas.Fragment
import Dtn7.Lemmas.Reassemble

namespace Dtn7.Frag

/-- A model fragment as reassembly sees it. -/
def Frag.toR (f : Frag) : RFrag := ⟨true, f.off, f.total, f.data, f.carried.map (·.type)⟩

namespace Lemmas

theorem partitions_cover : ∀ (l : List (Nat × Nat)) (s e : Nat), partitions s e l = true →
    s ≤ e ∧ (∀ on ∈ l, s ≤ on.1 ∧ on.1 + on.2 ≤ e) ∧
      ∀ k, s ≤ k → k < e → ∃ on ∈ l, on.1 ≤ k ∧ k < on.1 + on.2 := by
  intro l
  induction l with
  | nil =>
    intro s e h
    simp [partitions] at h; subst h
    exact ⟨Nat.le_refl _, by simp, fun k h1 h2 => by omega⟩
  | cons on l ih =>
    intro s e h
    obtain ⟨o, n⟩ := on
    simp only [partitions, Bool.and_eq_true, beq_iff_eq] at h
    obtain ⟨ho, hr⟩ := h
    subst ho
    obtain ⟨h1, h2, h3⟩ := ih _ _ hr
    refine ⟨by omega, ?_, ?_⟩
    · intro q hq
      rcases List.mem_cons.mp hq with rfl | hq
      · exact ⟨Nat.le_refl _, h1⟩
      · have := h2 q hq; omega
    · intro k hk1 hk2
      by_cases hk : k < o + n
      · exact ⟨(o, n), by simp, hk1, hk⟩
      · obtain ⟨q, hq, r⟩ := h3 k (by omega) hk2
        exact ⟨q, by simp [hq], r⟩

theorem slice_of_slice (p : List UInt8) (a n j c : Nat) :
    (((p.drop a).take n).drop j).take c = (p.drop (a + j)).take (min c (n - j)) := by
  rw [List.drop_take, List.drop_drop, List.take_take]

theorem chunk_fragOf (p d : List UInt8) (B j cap : Nat) (hd : d = (p.drop B).take d.length)
    (hj : j < d.length) (hcap : 1 ≤ cap) :
    (d.drop j).take cap = (p.drop (B + j)).take ((d.drop j).take cap).length ∧
      B + j + ((d.drop j).take cap).length ≤ B + d.length ∧ 1 ≤ ((d.drop j).take cap).length := by
  have hlen : ((d.drop j).take cap).length = min cap (d.length - j) := by
    rw [List.length_take, List.length_drop]
  rw [hlen]
  refine ⟨?_, by omega, by omega⟩
  generalize d.length = L at hd
  rw [hd, slice_of_slice]

/-- What `fragment` returns for an input whose payload is the slice `[base, base + |payload|)` of `p`
(`base` = the input's own offset if it is a fragment and offsets are absolute, 0 otherwise): every
result is a genuine fragment of `p` inside that range. -/
theorem fragment_fragOf (c : Cfg) (x : In) (p : List UInt8) (fs : List Frag)
    (hp : x.payload = (p.drop (base c x)).take x.payload.length)
    (hin : base c x + x.payload.length ≤ p.length) (ht : tot c x = p.length)
    (h : fragment c x = .frags fs) :
    ∀ f ∈ fs, FragOf p f.toR ∧ base c x ≤ f.off ∧
      f.off + f.data.length ≤ base c x + x.payload.length ∧ 1 ≤ f.data.length := by
  intro f hf
  obtain ⟨j, _, hj, hov, _, rfl⟩ := loop_mem _ _ _ _ _ _ _ (fragment_frags _ _ _ h) f hf
  obtain ⟨h1, h2, h3⟩ := chunk_fragOf p x.payload (base c x) j _ hp hj (Nat.sub_pos_of_lt hov)
  exact ⟨⟨rfl, ht, Nat.le_trans h2 hin, h1⟩, Nat.le_add_right _ _, h2, h3⟩

/-- With absolute offsets (the repair of D2), the fragments cut from the fragment `[off, off + n)` of
`p` are genuine fragments of `p` inside `[off, off + n)`. -/
theorem refragment_absolute (c : Cfg) (habs : c.absolute = true) (x : In) (p : List UInt8) (fs : List Frag)
    (hfr : x.isFragment = true) (hp : x.payload = (p.drop x.off).take x.payload.length)
    (hin : x.off + x.payload.length ≤ p.length) (ht : x.total = p.length) (h : fragment c x = .frags fs) :
    ∀ f ∈ fs, FragOf p f.toR ∧ x.off ≤ f.off ∧ f.off + f.data.length ≤ x.off + x.payload.length := by
  have hb : base c x = x.off := by simp [base, hfr, habs]
  have htt : tot c x = p.length := by simp [tot, hfr, habs, ht]
  intro f hf
  have := fragment_fragOf c x p fs (by rw [hb]; exact hp) (by rw [hb]; exact hin) htt h f hf
  rw [hb] at this
  exact ⟨this.1, this.2.1, this.2.2.1⟩

theorem fragment_reassemble (c : Cfg) (x : In) (fs : List Frag) (hnf : x.isFragment = false)
    (h : fragment c x = .frags fs) (hne : fs ≠ []) (s : List RFrag) (hperm : s.Perm (fs.map Frag.toR))
    (hs : SortedOff s) : reassembleSorted true s = .ok x.payload (x.blocks.map (·.type)) := by
  have hb : base c x = 0 := by simp [base, hnf]
  have ht : tot c x = x.payload.length := by simp [tot, hnf]
  have hloop := fragment_frags _ _ _ h
  have hfo := fragment_fragOf c x x.payload fs (by simp [hb]) (by omega) ht h
  have hsne : s ≠ [] := fun e => hne (List.map_eq_nil_iff.mp (e ▸ hperm).symm.eq_nil)
  have hcov : Covers (fs.map Frag.toR) x.payload.length := by
    have hp := loop_partition _ _ _ _ _ _ _ hloop (by omega)
    rw [hb] at hp
    simp only [Nat.zero_add, Nat.zero_le, Nat.min_eq_left] at hp
    obtain ⟨_, h2, h3⟩ := partitions_cover _ _ _ hp
    refine ⟨fun f hf => ?_, fun k hk => ?_⟩
    · obtain ⟨g, hg, rfl⟩ := List.mem_map.mp hf
      exact (h2 (g.off, g.data.length) (List.mem_map.mpr ⟨g, hg, rfl⟩)).2
    · obtain ⟨on, hon, r⟩ := h3 k (Nat.zero_le _) hk
      obtain ⟨g, hg, rfl⟩ := List.mem_map.mp hon
      exact ⟨g.toR, List.mem_map.mpr ⟨g, hg, rfl⟩, r⟩
  apply reassembleSorted_exact x.payload _ s hsne hs
  · intro f hf
    obtain ⟨g, hg, rfl⟩ := List.mem_map.mp (hperm.mem_iff.mp hf)
    exact (hfo g hg).1
  · exact (covers_perm hperm _).mpr hcov
  · intro f hf h0
    obtain ⟨g, hg, rfl⟩ := List.mem_map.mp (hperm.mem_iff.mp hf)
    obtain ⟨j, _, _, _, _, rfl⟩ := loop_mem _ _ _ _ _ _ _ hloop g hg
    simp only [Frag.toR, hb, Nat.zero_add] at h0 ⊢
    subst h0
    simp [carried]

end Lemmas
end Dtn7.Frag
