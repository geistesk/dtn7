import Dtn7.Model.Forward

/-!
C06. `forward` rewrites at most the first block of each of three classes (hop count, bundle age, previous
node) through `mapFirst`, or appends a previous-node block; `filter_mapFirst_other` and
`filter_mapFirst_same` say what that does to any class of blocks, so every clause of `FaithfulCopy` is a
statement about `filter`. `run_spec`: whatever a run hands to a convergence sender is `transform` of the
bundle as processed on reception, for that run's residence time and clock.
-/
namespace Dtn7.Forward.Lemmas

theorem hopIncrement_fixed (l c : UInt8) :
    hopIncrement Cfg.fixed l c =
      if c = 255 then (c, true) else (c + 1, decide (c + 1 > l)) := by
  simp [hopIncrement, Cfg.fixed]

theorem toNat_succ_of_ne (c : UInt8) (h : c ≠ 255) : (c + 1).toNat = c.toNat + 1 := by
  have h1 : c.toNat < 256 := c.toNat_lt
  have h2 : c.toNat ≠ 255 := fun e => h (UInt8.toNat_inj.mp (by simpa using e))
  rw [UInt8.toNat_add]
  have : (1 : UInt8).toNat = 1 := rfl
  rw [this]
  omega

theorem hopIncrement_exceeded_iff (l c : UInt8) :
    (hopIncrement Cfg.fixed l c).2 = true ↔ c.toNat + 1 > l.toNat := by
  rw [hopIncrement_fixed]
  by_cases h : c = 255
  · subst h
    have : l.toNat < 256 := l.toNat_lt
    simp
    have : (255 : UInt8).toNat = 255 := rfl
    omega
  · simp only [h, if_false, decide_eq_true_eq]
    rw [gt_iff_lt, UInt8.lt_iff_toNat_lt, toNat_succ_of_ne c h]

theorem hopIncrement_ok (l c : UInt8) (h : (hopIncrement Cfg.fixed l c).2 = false) :
    (hopIncrement Cfg.fixed l c).1.toNat = c.toNat + 1 ∧ c.toNat + 1 ≤ l.toNat := by
  have hne : ¬ (c.toNat + 1 > l.toNat) := by
    intro hgt
    have := (hopIncrement_exceeded_iff l c).mpr hgt
    rw [h] at this
    exact Bool.noConfusion this
  have hc : c ≠ 255 := by
    intro e
    subst e
    have : l.toNat < 256 := l.toNat_lt
    have h255 : (255 : UInt8).toNat = 255 := rfl
    omega
  refine ⟨?_, by omega⟩
  rw [hopIncrement_fixed]
  simp only [hc, if_false]
  exact toNat_succ_of_ne c hc

/-- The reset after the sends restores the received count. -/
theorem hopDecrement_increment (l c : UInt8) (h : (hopIncrement Cfg.fixed l c).2 = false) :
    hopDecrement (hopIncrement Cfg.fixed l c).1 = c := by
  have hc : c ≠ 255 := by
    intro e
    subst e
    simp [hopIncrement_fixed] at h
  rw [hopIncrement_fixed]
  simp only [hc, if_false, hopDecrement]
  exact UInt8.add_sub_cancel c 1

theorem isHop_not_others (b : Block) (h : isHop b = true) :
    isAge b = false ∧ isPrev b = false ∧ isPayload b = false := by
  unfold isHop at h
  unfold isAge isPrev isPayload
  split at h <;> simp_all

theorem isAge_not_others (b : Block) (h : isAge b = true) :
    isHop b = false ∧ isPrev b = false ∧ isPayload b = false := by
  unfold isAge at h
  unfold isHop isPrev isPayload
  split at h <;> simp_all

theorem isPrev_not_others (b : Block) (h : isPrev b = true) :
    isHop b = false ∧ isAge b = false ∧ isPayload b = false := by
  unfold isPrev at h
  unfold isHop isAge isPayload
  split at h <;> simp_all

theorem isHop_setHopCount (c : UInt8) (b : Block) (h : isHop b = true) : isHop (setHopCount c b) = true := by
  unfold isHop at h ⊢
  unfold setHopCount
  split at h <;> simp_all
theorem isAge_setAge (a : Nat) (b : Block) (h : isAge b = true) : isAge (setAge a b) = true := by
  unfold isAge at h ⊢
  unfold setAge
  split at h <;> simp_all
theorem isPrev_setPrev (n : Bytes) (b : Block) (h : isPrev b = true) : isPrev (setPrev n b) = true := by
  unfold isPrev at h ⊢
  unfold setPrev
  split at h <;> simp_all

/-- A class `q` that neither the touched block nor its replacement belongs to is not affected. -/
theorem filter_mapFirst_other (p q : Block → Bool) (f : Block → Block)
    (h : ∀ b, p b = true → q b = false ∧ q (f b) = false) (bs : List Block) :
    (mapFirst p f bs).filter q = bs.filter q := by
  induction bs with
  | nil => rfl
  | cons b bs ih =>
    unfold mapFirst
    by_cases hp : p b = true
    · simp [hp, (h b hp).1, (h b hp).2]
    · simp [hp, List.filter_cons, ih]

/-- Within its own class the first element is replaced. -/
theorem filter_mapFirst_same (p : Block → Bool) (f : Block → Block)
    (hf : ∀ b, p b = true → p (f b) = true) (bs : List Block) :
    (mapFirst p f bs).filter p =
      match bs.filter p with
      | [] => []
      | h :: t => f h :: t := by
  induction bs with
  | nil => rfl
  | cons b bs ih =>
    unfold mapFirst
    by_cases hp : p b = true
    · simp [hp, hf b hp]
    · simp [hp, ih]

theorem firstHop_filter (bs : List Block) :
    firstHop bs = match bs.filter isHop with
      | [] => none
      | h :: _ => (match h.value with | .hop l c => some (l, c) | _ => none) := by
  induction bs with
  | nil => rfl
  | cons b bs ih =>
    unfold firstHop
    cases hv : b.value <;> simp [isHop, hv, ih]

theorem firstAge_filter (bs : List Block) :
    firstAge bs = match bs.filter isAge with
      | [] => none
      | h :: _ => (match h.value with | .age a => some a | _ => none) := by
  induction bs with
  | nil => rfl
  | cons b bs ih =>
    unfold firstAge
    cases hv : b.value <;> simp [isAge, hv, ih]

theorem perm_eq_of_length_le_one {α} (l₁ l₂ : List α) (h : l₁.Perm l₂) (hl : l₂.length ≤ 1) : l₁ = l₂ := by
  match l₂, hl with
  | [], _ => exact List.Perm.eq_nil h
  | [a], _ => exact List.perm_singleton.mp h

theorem insertBlk_perm (x : Block) (l : List Block) : (insertBlk x l).Perm (x :: l) := by
  induction l with
  | nil => exact List.Perm.refl _
  | cons y ys ih =>
    unfold insertBlk
    by_cases h : blkLess x y = true
    · simp [h]
    · simp only [h]
      exact (List.Perm.cons y ih).trans (List.Perm.swap x y ys)

theorem sortBlocks_perm (l : List Block) : (sortBlocks l).Perm l := by
  induction l with
  | nil => exact List.Perm.refl _
  | cons b bs ih =>
    unfold sortBlocks
    exact (insertBlk_perm b (sortBlocks bs)).trans (List.Perm.cons b ih)

/-- The measure of the search for a free block number: how many numbers in use are `≥ n`. A step from
a used `n` to `n + 1` lowers it. -/
theorem filter_succ_lt (used : List Nat) (n : Nat) (hmem : n ∈ used) :
    (used.filter (fun u => decide (n + 1 ≤ u))).length < (used.filter (fun u => decide (n ≤ u))).length := by
  have e : used.filter (fun u => decide (n + 1 ≤ u)) =
      (used.filter (fun u => decide (n ≤ u))).filter (fun u => decide (u ≠ n)) := by
    rw [List.filter_filter]
    exact List.filter_congr (fun u _ => by by_cases h : n + 1 ≤ u <;> simp [h] <;> omega)
  rw [e, List.length_filter_lt_length_iff_exists]
  exact ⟨n, List.mem_filter.mpr ⟨hmem, by simp⟩, by simp⟩

/-- The loop of `AddExtensionBlock` ends on a number no block uses, as soon as the fuel exceeds the
measure of `filter_succ_lt` (`freeNum` gives it `used.length + 1`). -/
theorem freeNumFuel_not_mem (used : List Nat) :
    ∀ (fuel n : Nat), (used.filter (fun u => decide (n ≤ u))).length < fuel →
      freeNumFuel fuel n used ∉ used := by
  intro fuel
  induction fuel with
  | zero => intro n h; exact absurd h (Nat.not_lt_zero _)
  | succ fuel ih =>
    intro n h
    unfold freeNumFuel
    by_cases hc : used.contains n = true
    · rw [if_pos hc]
      have := filter_succ_lt used n (List.contains_iff_mem.mp hc)
      exact ih _ (by omega)
    · rw [if_neg hc]
      exact fun hmem => hc (List.contains_iff_mem.mpr hmem)

theorem freeNum_not_mem (start : Nat) (used : List Nat) : freeNum start used ∉ used := by
  unfold freeNum
  apply freeNumFuel_not_mem
  have := List.length_filter_le (fun u => decide (start ≤ u)) used
  omega

theorem isHop_iff (b : Block) : isHop b = true ↔ ∃ l c, b.value = .hop l c := by
  unfold isHop
  cases b.value <;> simp
theorem isAge_iff (b : Block) : isAge b = true ↔ ∃ a, b.value = .age a := by
  unfold isAge
  cases b.value <;> simp
theorem isPrev_iff (b : Block) : isPrev b = true ↔ ∃ e, b.value = .prevNode e := by
  unfold isPrev
  cases b.value <;> simp

theorem head_of_filter {p : Block → Bool} {bs : List Block} {x : Block} {t : List Block}
    (h : bs.filter p = x :: t) : p x = true := by
  have : x ∈ bs.filter p := by rw [h]; exact List.mem_cons_self
  exact (List.mem_filter.mp this).2

theorem stepHop_ok {cfg : Cfg} {bs bs1 : List Block} (h : stepHop cfg bs = .ok bs1) :
    (firstHop bs = none ∧ bs1 = bs) ∨
    ∃ l c, firstHop bs = some (l, c) ∧ (hopIncrement cfg l c).2 = false ∧
      bs1 = mapFirst isHop (setHopCount (hopIncrement cfg l c).1) bs := by
  unfold stepHop at h
  split at h
  · rename_i hf
    cases h
    exact Or.inl ⟨hf, rfl⟩
  · rename_i l c hf
    simp only at h
    split at h
    · cases h
    · rename_i hex
      cases h
      exact Or.inr ⟨l, c, hf, by simpa using hex, rfl⟩

theorem stepAge_ok {cfg : Cfg} {lt el : Nat} {bs bs2 : List Block} (h : stepAge cfg lt el bs = .ok bs2) :
    (firstAge bs = none ∧ bs2 = bs) ∨
    ∃ a, firstAge bs = some a ∧ (a + ageDelta cfg el) % 2 ^ 64 < lt ∧
      bs2 = mapFirst isAge (setAge ((a + ageDelta cfg el) % 2 ^ 64)) bs := by
  unfold stepAge at h
  split at h
  · rename_i hf
    cases h
    exact Or.inl ⟨hf, rfl⟩
  · rename_i a hf
    simp only at h
    split at h
    · cases h
    · rename_i hlt
      cases h
      exact Or.inr ⟨a, hf, Nat.lt_of_not_le hlt, rfl⟩

theorem stepHop_filter (cfg : Cfg) (q : Block → Bool) (hq : ∀ b, isHop b = true → q b = false)
    (bs bs1 : List Block) (h : stepHop cfg bs = .ok bs1) : bs1.filter q = bs.filter q := by
  rcases stepHop_ok h with ⟨_, rfl⟩ | ⟨l, c, _, _, rfl⟩
  · rfl
  · exact filter_mapFirst_other isHop q _ (fun b hb => ⟨hq b hb, hq _ (isHop_setHopCount _ b hb)⟩) bs

theorem stepHop_nil (cfg : Cfg) (bs bs1 : List Block) (hn : bs.filter isHop = [])
    (h : stepHop cfg bs = .ok bs1) : bs1 = bs := by
  rcases stepHop_ok h with ⟨_, rfl⟩ | ⟨l, c, hf, _, _⟩
  · rfl
  · rw [firstHop_filter, hn] at hf
    cases hf

theorem stepHop_cons (cfg : Cfg) (bs bs1 : List Block) (x : Block) (t : List Block) (l c : UInt8)
    (hc : bs.filter isHop = x :: t) (hv : x.value = .hop l c) (h : stepHop cfg bs = .ok bs1) :
    (hopIncrement cfg l c).2 = false ∧
      bs1.filter isHop = setHopCount (hopIncrement cfg l c).1 x :: t := by
  have hf : firstHop bs = some (l, c) := by rw [firstHop_filter, hc]; simp [hv]
  rcases stepHop_ok h with ⟨hn, _⟩ | ⟨l', c', hf', hex, rfl⟩
  · rw [hf] at hn
    cases hn
  · rw [hf] at hf'
    cases hf'
    exact ⟨hex, by rw [filter_mapFirst_same isHop _ (fun b hb => isHop_setHopCount _ b hb), hc]⟩

theorem stepAge_filter (cfg : Cfg) (lt el : Nat) (q : Block → Bool) (hq : ∀ b, isAge b = true → q b = false)
    (bs bs2 : List Block) (h : stepAge cfg lt el bs = .ok bs2) : bs2.filter q = bs.filter q := by
  rcases stepAge_ok h with ⟨_, rfl⟩ | ⟨a, _, _, rfl⟩
  · rfl
  · exact filter_mapFirst_other isAge q _ (fun b hb => ⟨hq b hb, hq _ (isAge_setAge _ b hb)⟩) bs

theorem stepAge_nil (cfg : Cfg) (lt el : Nat) (bs bs2 : List Block) (hn : bs.filter isAge = [])
    (h : stepAge cfg lt el bs = .ok bs2) : bs2 = bs := by
  rcases stepAge_ok h with ⟨_, rfl⟩ | ⟨a, hf, _, _⟩
  · rfl
  · rw [firstAge_filter, hn] at hf
    cases hf

theorem stepAge_cons (cfg : Cfg) (lt el : Nat) (bs bs2 : List Block) (x : Block) (t : List Block) (a : Nat)
    (hc : bs.filter isAge = x :: t) (hv : x.value = .age a) (h : stepAge cfg lt el bs = .ok bs2) :
    (a + ageDelta cfg el) % 2 ^ 64 < lt ∧
      bs2.filter isAge = setAge ((a + ageDelta cfg el) % 2 ^ 64) x :: t := by
  have hf : firstAge bs = some a := by rw [firstAge_filter, hc]; simp [hv]
  rcases stepAge_ok h with ⟨hn, _⟩ | ⟨a', hf', hlt, rfl⟩
  · rw [hf] at hn
    cases hn
  · rw [hf] at hf'
    cases hf'
    exact ⟨hlt, by rw [filter_mapFirst_same isAge _ (fun b hb => isAge_setAge _ b hb), hc]⟩

theorem any_isPrev_iff (bs : List Block) : bs.any isPrev = true ↔ bs.filter isPrev ≠ [] := by
  induction bs with
  | nil => simp
  | cons b bs ih =>
    by_cases hb : isPrev b = true
    · simp [hb]
    · simp [hb, ih]

/-- The block `AddExtensionBlock` appends for the previous node. -/
def newPrev (node : Bytes) (bs : List Block) : Block :=
  ⟨freeNum 2 (bs.map (·.num)), 0, 0, .prevNode node⟩

theorem addExtensionBlock_prev (node : Bytes) (bs : List Block) :
    addExtensionBlock bs ⟨0, 0, 0, .prevNode node⟩ = sortBlocks (bs ++ [newPrev node bs]) := by
  simp [addExtensionBlock, newPrev, Block.type, Value.type]

theorem stepPrev_filter_perm (node : Bytes) (q : Block → Bool) (hq : ∀ b, isPrev b = true → q b = false)
    (bs : List Block) : ((stepPrev node bs).filter q).Perm (bs.filter q) := by
  unfold stepPrev
  by_cases ha : bs.any isPrev = true
  · simp only [ha, if_true]
    rw [filter_mapFirst_other isPrev q _ (fun b hb => ⟨hq b hb, hq _ (isPrev_setPrev _ b hb)⟩) bs]
  · simp only [ha]
    rw [addExtensionBlock_prev]
    have hp : ((sortBlocks (bs ++ [newPrev node bs])).filter q).Perm ((bs ++ [newPrev node bs]).filter q) :=
      (sortBlocks_perm _).filter q
    have hn : q (newPrev node bs) = false := hq _ (by simp [isPrev, newPrev])
    have : (bs ++ [newPrev node bs]).filter q = bs.filter q := by
      simp [List.filter_append, hn]
    rw [this] at hp
    exact hp

theorem transform_ok (cfg : Cfg) (node : Bytes) (b : Bundle) (el now : Nat) (s : Bundle)
    (h : transform cfg node b el now = .ok s) :
    ∃ bs1 bs2, stepHop cfg b.blocks = .ok bs1 ∧ isLifetimeExceeded b.primary bs1 now = false ∧
      stepAge cfg b.primary.lifetime el bs1 = .ok bs2 ∧
      s = { b with blocks := stepPrev node bs2 } := by
  unfold transform at h
  split at h
  · cases h
  · rename_i bs1 h1
    split at h
    · cases h
    · rename_i hl
      split at h
      · cases h
      · rename_i bs2 h2
        cases h
        exact ⟨bs1, bs2, h1, by simpa using hl, h2, rfl⟩

theorem transform_filter_perm (cfg : Cfg) (node : Bytes) (b : Bundle) (el now : Nat) (s : Bundle)
    (q : Block → Bool) (hq : ∀ x, isSpecial x = true → q x = false)
    (h : transform cfg node b el now = .ok s) :
    (s.blocks.filter q).Perm (b.blocks.filter q) := by
  obtain ⟨bs1, bs2, h1, _, h2, hs⟩ := transform_ok cfg node b el now s h
  subst hs
  have e1 := stepHop_filter cfg q (fun x hx => hq x (by simp [isSpecial, hx])) _ _ h1
  have e2 := stepAge_filter cfg _ _ q (fun x hx => hq x (by simp [isSpecial, hx])) _ _ h2
  have e3 := stepPrev_filter_perm node q (fun x hx => hq x (by simp [isSpecial, hx])) bs2
  simp only
  rw [e2, e1] at e3
  exact e3

theorem transform_primary (cfg : Cfg) (node : Bytes) (b : Bundle) (el now : Nat) (s : Bundle)
    (h : transform cfg node b el now = .ok s) : s.primary = b.primary := by
  obtain ⟨_, _, _, _, _, hs⟩ := transform_ok cfg node b el now s h
  subst hs
  rfl

theorem transform_hop (node : Bytes) (b : Bundle) (el now : Nat) (s : Bundle)
    (h : transform Cfg.fixed node b el now = .ok s) (h1 : (b.blocks.filter isHop).length ≤ 1) :
    hopOk (b.blocks.filter isHop) (s.blocks.filter isHop) = true := by
  obtain ⟨bs1, bs2, hs1, _, hs2, hs⟩ := transform_ok _ node b el now s h
  subst hs
  have e2 := stepAge_filter _ _ _ isHop (fun x hx => (isAge_not_others x hx).1) _ _ hs2
  have e3 := stepPrev_filter_perm node isHop (fun x hx => (isPrev_not_others x hx).1) bs2
  rw [e2] at e3
  simp only
  cases hb : b.blocks.filter isHop with
  | nil =>
    have := stepHop_nil _ _ _ hb hs1
    subst this
    rw [hb] at e3
    rw [List.Perm.eq_nil e3]
    rfl
  | cons x t =>
    cases t with
    | cons y t' => rw [hb] at h1; simp at h1
    | nil =>
      obtain ⟨l, c, hv⟩ := (isHop_iff x).mp (head_of_filter hb)
      obtain ⟨hex, hf⟩ := stepHop_cons _ _ _ x [] l c hb hv hs1
      rw [hf] at e3
      rw [List.perm_singleton.mp e3]
      obtain ⟨hn, hle⟩ := hopIncrement_ok l c hex
      simp [hopOk, hv, setHopCount, hn, hle]

/-- `forward` passes the hop count guard only if `count + 1 ≤ limit`. -/
theorem transform_hop_le (node : Bytes) (b : Bundle) (el now : Nat) (s : Bundle) (l c : UInt8)
    (h : transform Cfg.fixed node b el now = .ok s) (hf : firstHop b.blocks = some (l, c)) :
    c.toNat + 1 ≤ l.toNat := by
  obtain ⟨bs1, _, hs1, _, _, _⟩ := transform_ok _ node b el now s h
  rcases stepHop_ok hs1 with ⟨hn, _⟩ | ⟨l', c', hf', hex, _⟩
  · rw [hf] at hn
    cases hn
  · rw [hf] at hf'
    cases hf'
    exact (hopIncrement_ok l c hex).2

theorem transform_age (node : Bytes) (b : Bundle) (el now : Nat) (s : Bundle)
    (h : transform Cfg.fixed node b el now = .ok s) (h2 : (b.blocks.filter isAge).length ≤ 1)
    (hw : ∀ a, firstAge b.blocks = some a → a + el / 1000000 < 2 ^ 64) :
    ageOk el el (b.blocks.filter isAge) (s.blocks.filter isAge) = true := by
  obtain ⟨bs1, bs2, hs1, _, hs2, hs⟩ := transform_ok _ node b el now s h
  subst hs
  have e1 := stepHop_filter _ isAge (fun x hx => (isHop_not_others x hx).1) _ _ hs1
  have e3 := stepPrev_filter_perm node isAge (fun x hx => (isPrev_not_others x hx).2.1) bs2
  simp only
  cases hb : b.blocks.filter isAge with
  | nil =>
    rw [hb] at e1
    have := stepAge_nil _ _ _ _ _ e1 hs2
    subst this
    rw [e1] at e3
    rw [List.Perm.eq_nil e3]
    rfl
  | cons x t =>
    cases t with
    | cons y t' => rw [hb] at h2; simp at h2
    | nil =>
      rw [hb] at e1
      obtain ⟨a, hv⟩ := (isAge_iff x).mp (head_of_filter hb)
      obtain ⟨_, hf⟩ := stepAge_cons _ _ _ _ _ x [] a e1 hv hs2
      rw [hf] at e3
      rw [List.perm_singleton.mp e3]
      have hfa : firstAge b.blocks = some a := by rw [firstAge_filter, hb]; simp [hv]
      have hlt := hw a hfa
      have hd : ageDelta Cfg.fixed el = el / 1000000 := by simp [ageDelta, Cfg.fixed]
      rw [hd, Nat.mod_eq_of_lt hlt]
      simp [ageOk, hv, setAge]

theorem transform_age_lt (node : Bytes) (b : Bundle) (el now : Nat) (s : Bundle) (a : Nat)
    (h : transform Cfg.fixed node b el now = .ok s) (hf : firstAge b.blocks = some a)
    (hw : a + el / 1000000 < 2 ^ 64) : a + el / 1000000 < b.primary.lifetime := by
  obtain ⟨bs1, bs2, hs1, _, hs2, _⟩ := transform_ok _ node b el now s h
  have e1 := stepHop_filter _ isAge (fun x hx => (isHop_not_others x hx).1) _ _ hs1
  have hf1 : firstAge bs1 = some a := by rw [firstAge_filter, e1, ← firstAge_filter]; exact hf
  rcases stepAge_ok hs2 with ⟨hn, _⟩ | ⟨a', hf', hlt, _⟩
  · rw [hf1] at hn
    cases hn
  · rw [hf1] at hf'
    cases hf'
    have hd : ageDelta Cfg.fixed el = el / 1000000 := by simp [ageDelta, Cfg.fixed]
    rwa [hd, Nat.mod_eq_of_lt hw] at hlt

theorem transform_not_expired (node : Bytes) (b : Bundle) (el now : Nat) (s : Bundle)
    (h : transform Cfg.fixed node b el now = .ok s) :
    (b.primary.created ≠ 0 → now ≤ b.primary.created + b.primary.lifetime) ∧
    (b.primary.created = 0 → ∃ a, firstAge b.blocks = some a ∧ a ≤ b.primary.lifetime) := by
  obtain ⟨bs1, _, hs1, hl, _, _⟩ := transform_ok _ node b el now s h
  have e1 := stepHop_filter _ isAge (fun x hx => (isHop_not_others x hx).1) _ _ hs1
  have hf1 : firstAge bs1 = firstAge b.blocks := by rw [firstAge_filter, e1, ← firstAge_filter]
  unfold isLifetimeExceeded at hl
  rw [hf1] at hl
  constructor
  · intro hc
    simp [hc] at hl
    exact hl
  · intro hc
    simp [hc] at hl
    cases hfa : firstAge b.blocks with
    | none => simp [hfa] at hl
    | some a =>
      simp [hfa] at hl
      exact ⟨a, rfl, hl⟩

theorem transform_prev (node : Bytes) (b : Bundle) (el now : Nat) (s : Bundle)
    (h : transform Cfg.fixed node b el now = .ok s) (h3 : (b.blocks.filter isPrev).length ≤ 1) :
    prevOk node s.blocks (b.blocks.filter isPrev) (s.blocks.filter isPrev) = true := by
  obtain ⟨bs1, bs2, hs1, _, hs2, hs⟩ := transform_ok _ node b el now s h
  subst hs
  have e1 := stepHop_filter _ isPrev (fun x hx => (isHop_not_others x hx).2.1) _ _ hs1
  have e2 := stepAge_filter _ _ _ isPrev (fun x hx => (isAge_not_others x hx).2.1) _ _ hs2
  rw [e1] at e2
  simp only
  cases hb : b.blocks.filter isPrev with
  | nil =>
    -- no previous-node block came in: one is appended under a number nobody uses, and sorting only permutes
    rw [hb] at e2
    have hany : ¬ (bs2.any isPrev = true) := fun ha => (any_isPrev_iff bs2).mp ha e2
    have hsp : stepPrev node bs2 = sortBlocks (bs2 ++ [newPrev node bs2]) := by
      unfold stepPrev
      rw [if_neg hany, addExtensionBlock_prev]
    rw [hsp]
    have hp := sortBlocks_perm (bs2 ++ [newPrev node bs2])
    have hnp : isPrev (newPrev node bs2) = true := by simp [isPrev, newPrev]
    have hf : (sortBlocks (bs2 ++ [newPrev node bs2])).filter isPrev = [newPrev node bs2] := by
      have := hp.filter isPrev
      have h' : List.filter isPrev [newPrev node bs2] = [newPrev node bs2] := by simp [hnp]
      rw [List.filter_append, e2, h', List.nil_append] at this
      exact List.perm_singleton.mp this
    rw [hf]
    have hnum : ∀ x ∈ bs2, (x.num == (newPrev node bs2).num) = false := by
      intro x hx
      have hfree := freeNum_not_mem 2 (bs2.map (·.num))
      have : x.num ∈ bs2.map (·.num) := List.mem_map.mpr ⟨x, hx, rfl⟩
      have hne : x.num ≠ (newPrev node bs2).num := by
        intro e
        apply hfree
        simp only [newPrev] at e
        rw [← e]
        exact this
      simpa using hne
    have hcount : ((sortBlocks (bs2 ++ [newPrev node bs2])).filter
        (fun x => x.num == (newPrev node bs2).num)).length = 1 := by
      rw [(hp.filter _).length_eq, List.filter_append]
      have : bs2.filter (fun x => x.num == (newPrev node bs2).num) = [] :=
        List.filter_eq_nil_iff.mpr (fun x hx => by simp [hnum x hx])
      rw [this]
      simp
    simp [prevOk, hcount]
    simp [newPrev]
  | cons x t =>
    cases t with
    | cons y t' => rw [hb] at h3; simp at h3
    | nil =>
      -- the received previous-node block is overwritten in place
      rw [hb] at e2
      have hany : bs2.any isPrev = true := (any_isPrev_iff bs2).mpr (by rw [e2]; simp)
      have hsp : stepPrev node bs2 = mapFirst isPrev (setPrev node) bs2 := by
        unfold stepPrev
        rw [if_pos hany]
      rw [hsp]
      rw [filter_mapFirst_same isPrev _ (fun b hb => isPrev_setPrev _ b hb), e2]
      obtain ⟨e, hv⟩ := (isPrev_iff x).mp (head_of_filter hb)
      simp [prevOk, setPrev, hv]

theorem recvBlocks_some (known : List Nat) (bs r : List Block) (h : (recvBlocks known bs).1 = some r) :
    r = bs.filter (fun b => !removable known b) := by
  induction bs generalizing r with
  | nil => simp [recvBlocks] at h; subst h; rfl
  | cons b rest ih =>
    unfold recvBlocks at h
    cases hrec : recvBlocks known rest with
    | mk o n =>
      rw [hrec] at h
      cases o with
      | none => simp at h
      | some rest' =>
        have hr : rest' = rest.filter (fun b => !removable known b) := ih rest' (by rw [hrec])
        by_cases hk : isKnown known b.type = true
        · simp [hk] at h
          simp [removable, hk, ← h, hr]
        · simp only [hk] at h
          by_cases hd : flagDelete b.flags = true
          · simp [hd] at h
          · by_cases hrm : flagRemove b.flags = true
            · simp [hd, hrm] at h
              simp [removable, hk, hrm, ← h, hr]
            · simp [hd, hrm] at h
              simp [removable, hk, hrm, ← h, hr]

theorem processed_some (known : List Nat) (acc P : Bundle) (h : processed known acc = some P) :
    P = { acc with blocks := acc.blocks.filter (fun b => !removable known b) } := by
  unfold processed at h
  split at h
  · cases h
  · rename_i bs hbs
    cases h
    rw [recvBlocks_some known acc.blocks bs hbs]

theorem filter_kept (known : List Nat) (q : Block → Bool) (hq : ∀ x, q x = true → isKnown known x.type = true)
    (bs : List Block) : (bs.filter (fun b => !removable known b)).filter q = bs.filter q := by
  rw [List.filter_filter]
  apply List.filter_congr
  intro x _
  by_cases hx : q x = true
  · simp [hx, removable, hq x hx]
  · simp [hx]

theorem known_isHop (known : List Nat) (x : Block) (h : isHop x = true) : isKnown known x.type = true := by
  obtain ⟨l, c, hv⟩ := (isHop_iff x).mp h
  simp [isKnown, Block.type, hv, Value.type, builtinTypes]
theorem known_isAge (known : List Nat) (x : Block) (h : isAge x = true) : isKnown known x.type = true := by
  obtain ⟨a, hv⟩ := (isAge_iff x).mp h
  simp [isKnown, Block.type, hv, Value.type, builtinTypes]
theorem known_isPrev (known : List Nat) (x : Block) (h : isPrev x = true) : isKnown known x.type = true := by
  obtain ⟨a, hv⟩ := (isPrev_iff x).mp h
  simp [isKnown, Block.type, hv, Value.type, builtinTypes]
theorem known_isPayload (known : List Nat) (x : Block) (h : isPayload x = true) : isKnown known x.type = true := by
  unfold isPayload at h
  cases hv : x.value <;> simp [hv] at h
  simp [isKnown, Block.type, hv, Value.type, builtinTypes]

/-- The store never holds anything but the bundle `P` as processed on reception (`forward` does not
write it back), so along the retries it is `none` or `some P`: the invariant of `retries_spec`. -/
theorem retry_cases (node : Bytes) (P : Bundle) (st : Option Bundle) (hst : st = none ∨ st = some P)
    (el now : Nat) :
    ((retry Cfg.fixed node st el now).2 = none ∨ (retry Cfg.fixed node st el now).2 = some P) ∧
    (∀ s, (retry Cfg.fixed node st el now).1 = some s → transform Cfg.fixed node P el now = .ok s) := by
  rcases hst with rfl | rfl
  · simp [retry]
  · unfold retry
    by_cases hl : loadOk P now = true
    · simp only [hl, if_true]
      unfold forward
      cases ht : transform Cfg.fixed node P el now with
      | error e => simp
      | ok s' => simp
    · simp [hl]

theorem retries_spec (node : Bytes) (P : Bundle) (evs : List (Nat × Nat)) :
    ∀ (st : Option Bundle), (st = none ∨ st = some P) →
      (∀ (n : Nat) (s : Bundle), (retries Cfg.fixed node st evs).1[n]? = some (some s) →
        ∃ (el now : Nat), evs[n]? = some (el, now) ∧ transform Cfg.fixed node P el now = .ok s) ∧
      ((retries Cfg.fixed node st evs).2 = none ∨ (retries Cfg.fixed node st evs).2 = some P) := by
  induction evs with
  | nil => intro st hst; simp [retries]; exact hst
  | cons ev evs ih =>
    intro st hst
    obtain ⟨el, now⟩ := ev
    obtain ⟨h2, h1⟩ := retry_cases node P st hst el now
    obtain ⟨ihn, ihs⟩ := ih _ h2
    unfold retries
    refine ⟨?_, ihs⟩
    intro n s hn
    cases n with
    | zero =>
      simp at hn
      exact ⟨el, now, by simp, h1 s hn⟩
    | succ n =>
      simp at hn
      obtain ⟨el', now', he, ht⟩ := ihn n s hn
      exact ⟨el', now', by simpa using he, ht⟩

theorem retries_none (cfg : Cfg) (node : Bytes) (evs : List (Nat × Nat)) :
    (retries cfg node none evs).1 = evs.map (fun _ => none) ∧ (retries cfg node none evs).2 = none := by
  induction evs with
  | nil => simp [retries]
  | cons e es ih =>
    obtain ⟨el, now⟩ := e
    unfold retries
    simp [retry, ih.1, ih.2]

theorem run_of_receive_none (cfg : Cfg) (known : List Nat) (node : Bytes) (acc : Bundle) (first : Nat × Nat)
    (evs : List (Nat × Nat)) (hr : receive cfg known node acc first.1 first.2 = (none, none)) :
    (run cfg known node acc first evs).1 = (first :: evs).map (fun _ => none) ∧
      (run cfg known node acc first evs).2 = none := by
  unfold run
  rw [hr]
  obtain ⟨h1, h2⟩ := retries_none cfg node evs
  simp [h1, h2]

/-- Reception either refuses the bundle (deleted on reception, or `forward` deletes it) or sends
`transform` of the processed bundle and keeps the processed bundle in the store — the processed one,
not the accepted one, because `Cfg.fixed.persistRemoval` holds (D21); this is the one place it matters. -/
theorem receive_cases (known : List Nat) (node : Bytes) (acc : Bundle) (el now : Nat) :
    receive Cfg.fixed known node acc el now = (none, none) ∨
    ∃ P s, processed known acc = some P ∧ transform Cfg.fixed node P el now = .ok s ∧
      receive Cfg.fixed known node acc el now = (some s, some P) := by
  unfold receive
  cases processed known acc with
  | none => exact Or.inl rfl
  | some P =>
    cases ht : transform Cfg.fixed node P el now with
    | error e => exact Or.inl (by simp only [forward, ht])
    | ok s => exact Or.inr ⟨P, s, rfl, ht, by simp only [forward, ht]; rfl⟩

/-- Every bundle offered to a convergence sender in any run is `transform` of the bundle as
processed on reception, for that run's residence time and clock. -/
theorem run_spec (known : List Nat) (node : Bytes) (acc : Bundle) (first : Nat × Nat)
    (evs : List (Nat × Nat)) (n : Nat) (s : Bundle)
    (h : (run Cfg.fixed known node acc first evs).1[n]? = some (some s)) :
    ∃ (P : Bundle) (el now : Nat), processed known acc = some P ∧ (first :: evs)[n]? = some (el, now) ∧
      transform Cfg.fixed node P el now = .ok s := by
  rcases receive_cases known node acc first.1 first.2 with hr | ⟨P, s0, hP, ht, hr⟩
  · rw [(run_of_receive_none Cfg.fixed known node acc first evs hr).1, List.getElem?_map] at h
    cases hn : (first :: evs)[n]? <;> simp [hn] at h
  · unfold run at h
    rw [hr] at h
    cases n with
    | zero =>
      simp at h
      subst h
      exact ⟨P, first.1, first.2, hP, by simp, ht⟩
    | succ n =>
      simp at h
      obtain ⟨el, now, he, htt⟩ := (retries_spec node P evs (some P) (Or.inr rfl)).1 n s h
      exact ⟨P, el, now, hP, by simpa using he, htt⟩

theorem hopOk_elim (a : Block) (ss : List Block) (l c : UInt8) (hv : a.value = .hop l c)
    (h : hopOk [a] ss = true) :
    ∃ c' : UInt8, ss = [⟨a.num, a.flags, a.crc, .hop l c'⟩] ∧ c'.toNat = c.toNat + 1 ∧ c'.toNat ≤ l.toNat := by
  match ss with
  | [] => simp [hopOk] at h
  | _ :: _ :: _ => simp [hopOk] at h
  | [s] =>
    obtain ⟨sn, sf, sc, sv⟩ := s
    cases sv with
    | hop l' c' =>
      simp [hopOk, hv] at h
      obtain ⟨⟨⟨⟨⟨h1, h2⟩, h3⟩, h4⟩, h5⟩, h6⟩ := h
      exact ⟨c', by simp [h1, h2, h3, h4], h5, by rw [← h4]; exact h6⟩
    | _ => simp [hopOk, hv] at h

theorem hopOk_nil_elim (ss : List Block) (h : hopOk [] ss = true) : ss = [] := by
  match ss with
  | [] => rfl
  | _ :: _ => simp [hopOk] at h

theorem ageOk_elim (elLo elHi : Nat) (a : Block) (ss : List Block) (x : Nat) (hv : a.value = .age x)
    (h : ageOk elLo elHi [a] ss = true) :
    ∃ y : Nat, ss = [⟨a.num, a.flags, a.crc, .age y⟩] ∧ x + elLo / 1000000 ≤ y ∧ y ≤ x + elHi / 1000000 := by
  match ss with
  | [] => simp [ageOk] at h
  | _ :: _ :: _ => simp [ageOk] at h
  | [s] =>
    obtain ⟨sn, sf, sc, sv⟩ := s
    cases sv with
    | age y =>
      simp [ageOk, hv] at h
      obtain ⟨⟨⟨⟨h1, h2⟩, h3⟩, h4⟩, h5⟩ := h
      exact ⟨y, by simp [h1, h2, h3], h4, h5⟩
    | _ => simp [ageOk, hv] at h

theorem ageOk_nil_elim (elLo elHi : Nat) (ss : List Block) (h : ageOk elLo elHi [] ss = true) : ss = [] := by
  match ss with
  | [] => rfl
  | _ :: _ => simp [ageOk] at h

theorem prevOk_elim (node : Bytes) (all as ss : List Block) (h : prevOk node all as ss = true) :
    ∃ s, ss = [s] ∧ s.value = .prevNode node := by
  match as, ss with
  | [], [s] => simp [prevOk] at h; exact ⟨s, rfl, h.1⟩
  | [a], [s] => simp [prevOk] at h; exact ⟨s, rfl, h.1.1.1⟩
  | [], [] => simp [prevOk] at h
  | [], _ :: _ :: _ => simp [prevOk] at h
  | [_], [] => simp [prevOk] at h
  | [_], _ :: _ :: _ => simp [prevOk] at h
  | _ :: _ :: _, _ => simp [prevOk] at h

theorem prevOk_replace_elim (node : Bytes) (all : List Block) (a : Block) (ss : List Block)
    (h : prevOk node all [a] ss = true) : ss = [⟨a.num, a.flags, a.crc, .prevNode node⟩] := by
  match ss with
  | [] => simp [prevOk] at h
  | _ :: _ :: _ => simp [prevOk] at h
  | [s] =>
    obtain ⟨sn, sf, sc, sv⟩ := s
    simp [prevOk] at h
    obtain ⟨⟨⟨h1, h2⟩, h3⟩, h4⟩ := h
    simp [h1, h2, h3, h4]

theorem transform_hop_refuse (node : Bytes) (b : Bundle) (el now : Nat) (l c : UInt8)
    (hf : firstHop b.blocks = some (l, c)) (hx : c.toNat + 1 > l.toNat) :
    transform Cfg.fixed node b el now = .error .hopLimit := by
  have hex := (hopIncrement_exceeded_iff l c).mpr hx
  unfold transform stepHop
  rw [hf]
  simp [hex]

theorem processed_filter (known : List Nat) (acc P : Bundle) (hP : processed known acc = some P)
    (q : Block → Bool) (hq : ∀ x, q x = true → isKnown known x.type = true) :
    P.blocks.filter q = acc.blocks.filter q := by
  rw [processed_some known acc P hP]
  exact filter_kept known q hq acc.blocks

theorem processed_firstAge (known : List Nat) (acc P : Bundle) (hP : processed known acc = some P) :
    firstAge P.blocks = firstAge acc.blocks := by
  rw [firstAge_filter, firstAge_filter,
    processed_filter known acc P hP isAge (known_isAge known)]

theorem processed_firstHop (known : List Nat) (acc P : Bundle) (hP : processed known acc = some P) :
    firstHop P.blocks = firstHop acc.blocks := by
  rw [firstHop_filter, firstHop_filter,
    processed_filter known acc P hP isHop (known_isHop known)]

theorem processed_primary (known : List Nat) (acc P : Bundle) (hP : processed known acc = some P) :
    P.primary = acc.primary := by
  rw [processed_some known acc P hP]


/-- Whatever a run offers to a convergence sender has the accepted primary block, the accepted payload
block and the accepted other blocks, less the unsupported ones flagged for removal. -/
theorem copy_untouched (known owned : List Nat) (node : Bytes) (acc : Bundle) (first : Nat × Nat)
    (evs : List (Nat × Nat)) (n : Nat) (s : Bundle)
    (h : (run Cfg.fixed known node acc first evs).1[n]? = some (some s)) :
    s.primary = acc.primary ∧ (s.blocks.filter isPayload).Perm (acc.blocks.filter isPayload) ∧
      (plain owned s.blocks).Perm ((plain owned acc.blocks).filter (fun b => !removable known b)) := by
  obtain ⟨P, el, now, hP, _, ht⟩ := run_spec known node acc first evs n s h
  refine ⟨?_, ?_, ?_⟩
  · rw [transform_primary _ node P el now s ht, processed_primary known acc P hP]
  · have := transform_filter_perm _ node P el now s isPayload
      (fun x hx => by
        simp only [isSpecial, Bool.or_eq_true] at hx
        rcases hx with (hx | hx) | hx
        · exact (isHop_not_others x hx).2.2
        · exact (isAge_not_others x hx).2.2
        · exact (isPrev_not_others x hx).2.2) ht
    rwa [processed_filter known acc P hP isPayload (known_isPayload known)] at this
  · have := transform_filter_perm _ node P el now s
      (fun b => !isSpecial b && !owned.contains b.type) (fun x hx => by simp [hx]) ht
    have e : P.blocks.filter (fun b => !isSpecial b && !owned.contains b.type) =
        (plain owned acc.blocks).filter (fun b => !removable known b) := by
      rw [processed_some known acc P hP]
      simp only [plain, List.filter_filter]
      exact List.filter_congr (fun x _ => Bool.and_comm _ _)
    rwa [e] at this

theorem map_num_mapFirst (p : Block → Bool) (f : Block → Block) (hf : ∀ b, (f b).num = b.num)
    (bs : List Block) : (mapFirst p f bs).map (·.num) = bs.map (·.num) := by
  induction bs with
  | nil => rfl
  | cons b bs ih =>
    unfold mapFirst
    by_cases hp : p b = true
    · simp [hp, hf b]
    · simp [hp, ih]

theorem setHopCount_num (c : UInt8) (b : Block) : (setHopCount c b).num = b.num := by
  unfold setHopCount; split <;> rfl
theorem setAge_num (a : Nat) (b : Block) : (setAge a b).num = b.num := by
  unfold setAge; split <;> rfl
theorem setPrev_num (n : Bytes) (b : Block) : (setPrev n b).num = b.num := by
  unfold setPrev; split <;> rfl

theorem stepHop_nums (cfg : Cfg) (bs bs1 : List Block) (h : stepHop cfg bs = .ok bs1) :
    bs1.map (·.num) = bs.map (·.num) := by
  rcases stepHop_ok h with ⟨_, rfl⟩ | ⟨l, c, _, _, rfl⟩
  · rfl
  · exact map_num_mapFirst _ _ (setHopCount_num _) bs

theorem stepAge_nums (cfg : Cfg) (lt el : Nat) (bs bs2 : List Block) (h : stepAge cfg lt el bs = .ok bs2) :
    bs2.map (·.num) = bs.map (·.num) := by
  rcases stepAge_ok h with ⟨_, rfl⟩ | ⟨a, _, _, rfl⟩
  · rfl
  · exact map_num_mapFirst _ _ (setAge_num _) bs

theorem stepPrev_nodup (node : Bytes) (bs : List Block) (h : (bs.map (·.num)).Nodup) :
    ((stepPrev node bs).map (·.num)).Nodup := by
  unfold stepPrev
  by_cases ha : bs.any isPrev = true
  · rw [if_pos ha, map_num_mapFirst _ _ (setPrev_num node) bs]
    exact h
  · rw [if_neg ha, addExtensionBlock_prev]
    have hp := (sortBlocks_perm (bs ++ [newPrev node bs])).map (·.num)
    rw [hp.nodup_iff, List.map_append]
    have hfree := freeNum_not_mem 2 (bs.map (·.num))
    simp only [List.map_cons, List.map_nil, newPrev]
    rw [List.nodup_append]
    refine ⟨h, by simp, ?_⟩
    intro a ha b hb
    simp at hb
    subst hb
    intro e
    subst e
    exact hfree ha

theorem transform_nodup (cfg : Cfg) (node : Bytes) (b : Bundle) (el now : Nat) (s : Bundle)
    (h : transform cfg node b el now = .ok s) (hn : (b.blocks.map (·.num)).Nodup) :
    (s.blocks.map (·.num)).Nodup := by
  obtain ⟨bs1, bs2, h1, _, h2, hs⟩ := transform_ok cfg node b el now s h
  subst hs
  apply stepPrev_nodup
  rw [stepAge_nums _ _ _ _ _ h2, stepHop_nums _ _ _ h1]
  exact hn

theorem processed_nodup (known : List Nat) (acc P : Bundle) (hP : processed known acc = some P)
    (hn : (acc.blocks.map (·.num)).Nodup) : (P.blocks.map (·.num)).Nodup := by
  rw [processed_some known acc P hP]
  exact hn.sublist (List.filter_sublist.map _)

end Dtn7.Forward.Lemmas
