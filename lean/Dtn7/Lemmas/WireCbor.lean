import Dtn7.Model.WireCbor
import Dtn7.Lemmas.Wire
import Dtn7.Lemmas.EidText

/-! Round trips with exact consumption for the CBOR-based formats. -/
namespace Dtn7.WireCbor.Lemmas
open Dtn7.Cbor (Bytes encArray encUInt encText encBytes decArray decUInt decText decBytes maxInt32 decHead encHead
  majUInt majText readRaw)
open Dtn7.Cbor.Lemmas
open Dtn7.Wire Dtn7.Wire.Lemmas Dtn7.EidText Dtn7.EidText.Lemmas Dtn7.WireCbor

theorem decEid_encEid (e : Eid) (rest : Bytes) (hc : CborCanonical e) :
    decEid (encEid e ++ rest) = .ok (e, rest) := by
  obtain ⟨hv, hl⟩ := hc
  cases e with
  | none =>
    simp only [decEid, encEid, List.append_assoc, decArray_encArray, decUInt_encUInt, Nat.reducePow, Nat.reduceLT,
      ne_eq, not_true_eq_false, if_false, if_true]
    rw [show encUInt 0 = encHead majUInt 0 from rfl, decHead_encHead majUInt 0 rest (by decide) (by omega)]
    rfl
  | dtn node demux =>
    unfold decEid encEid
    simp only [List.append_assoc]
    rw [decArray_encArray 2 _ (by omega)]
    simp only [ne_eq, not_true_eq_false, ↓reduceIte]
    rw [decUInt_encUInt 1 _ (by omega)]
    simp only [↓reduceIte]
    have hlen : ([cSlash, cSlash] ++ (node ++ ([cSlash] ++ demux))).length ≤ maxInt32 := by
      simp only [List.length_append, List.length_cons, List.length_nil] at hl ⊢
      omega
    unfold encText
    rw [List.append_assoc, decHead_encHead majText _ _ (by decide) (by unfold maxInt32 at hlen; omega)]
    have hmt : (majText = majUInt) = False := by decide
    simp only [hmt, ↓reduceIte]
    rw [readRaw_append _ rest hlen]
    simp only
    have hnone : ([cSlash, cSlash] ++ (node ++ ([cSlash] ++ demux))) ≠ sNone := by simp [cSlash, sNone]
    simp only [hnone, ↓reduceIte]
    have := parseDtnSsp_print node demux hv.1 hv.2.1 hv.2.2
    simp only [List.append_assoc] at this
    rw [this]
  | ipn n s =>
    simp only [decEid, encEid, List.append_assoc, decArray_encArray, decUInt_encUInt, hv.2.1, hv.2.2.2,
      Nat.reducePow, Nat.reduceLT, Nat.reduceEqDiff, ne_eq, not_true_eq_false, if_false, if_true]

theorem encEid_ne_nil (e : Eid) : encEid e ≠ [] := by
  cases e <;> simp [encEid, encArray, encHead]

theorem decTs_encTs (t : Ts) (rest : Bytes) (hc : TsCanonical t) : decTs (encTs t ++ rest) = .ok (t, rest) := by
  simp only [decTs, encTs, List.append_assoc, decArray_encArray, decUInt_encUInt, hc.1, hc.2,
    Nat.reducePow, Nat.reduceLT, ne_eq, not_true_eq_false, if_false]

theorem decBundleId_enc (b : BundleId) (rest : Bytes) (hc : BundleIdCanonical b) :
    decBundleId b.isFrag (encBundleId b ++ rest) = .ok (b, rest) := by
  obtain ⟨src, ts, isFrag, off, total⟩ := b
  obtain ⟨he, ht, hf⟩ := hc
  cases isFrag with
  | true =>
    simp only [if_true] at hf
    simp only [decBundleId, encBundleId, List.append_assoc, decEid_encEid, decTs_encTs, decUInt_encUInt,
      he, ht, hf.1, hf.2, if_true]
  | false =>
    simp only [Bool.false_eq_true, if_false] at hf
    simp only [decBundleId, encBundleId, List.append_nil, List.append_assoc, decEid_encEid, decTs_encTs, he, ht,
      hf.1, hf.2, Bool.false_eq_true, if_false]

theorem decBool_encBool (b : Bool) (rest : Bytes) : decBool (encBool b ++ rest) = .ok (b, rest) := by
  cases b <;> rfl

theorem decItem_encItem (i : StatusItem) (rest : Bytes) (hc : ItemCanonical i) :
    decItem (encItem i ++ rest) = .ok (i, rest) := by
  obtain ⟨a, t, r⟩ := i
  obtain ⟨ht, hra, hrt⟩ := hc
  cases r with
  | true =>
    cases hra rfl
    simp only [decItem, encItem, Bool.and_self, if_true, List.append_assoc, decArray_encArray, decBool_encBool,
      decUInt_encUInt, ht, Nat.reducePow, Nat.reduceLT, Nat.reduceEqDiff, ne_eq, not_true_eq_false, and_false, if_false]
  | false =>
    cases hrt rfl
    simp only [decItem, encItem, Bool.and_false, Bool.false_eq_true, if_false, List.append_assoc,
      decArray_encArray, decBool_encBool, Nat.reducePow, Nat.reduceLT, Nat.reduceEqDiff, ne_eq, not_true_eq_false,
      false_and]

theorem decN_flatMap {α} (enc : α → Bytes) (dec : Bytes → Except Err (α × Bytes)) (C : α → Prop)
    (rt : ∀ v rest, C v → dec (enc v ++ rest) = .ok (v, rest))
    (vs : List α) (hC : ∀ v ∈ vs, C v) (rest : Bytes) :
    decN dec vs.length (vs.flatMap enc ++ rest) = .ok (vs, rest) := by
  induction vs with
  | nil => simp [decN]
  | cons v vs ih =>
    simp only [List.length_cons, List.flatMap_cons, List.append_assoc, decN]
    rw [rt v _ (hC v (by simp))]
    simp only
    rw [ih (fun w hw => hC w (by simp [hw]))]

theorem decReport_encReport (s : StatusReport) (rest : Bytes) (hc : ReportCanonical s) :
    decReport (encReport s ++ rest) = .ok (s, rest) := by
  obtain ⟨hi, hl, hr, hb⟩ := hc
  have hitems := decN_flatMap encItem decItem ItemCanonical decItem_encItem s.items hi
  have hid := decBundleId_enc s.ref rest hb
  cases hf : s.ref.isFrag <;> rw [hf] at hid <;>
    simp only [decReport, encReport, hf, List.append_assoc, decArray_encArray, decUInt_encUInt, hitems, hid, hl, hr,
      Nat.reducePow, Nat.reduceLT, Nat.reduceAdd, Nat.reduceEqDiff, ne_eq, not_true_eq_false, and_false, false_and,
      if_true, if_false, Bool.false_eq_true, decide_true, decide_false]

theorem decAdmin_encAdmin (s : StatusReport) (rest : Bytes) (hc : ReportCanonical s) :
    decAdmin (encAdmin s ++ rest) = .ok (s, rest) := by
  simp only [decAdmin, encAdmin, adminStatusReport, List.append_assoc, decArray_encArray, decUInt_encUInt,
    decReport_encReport s rest hc, Nat.reducePow, Nat.reduceLT, ne_eq, not_true_eq_false, if_false, if_true]

theorem decAnn_encAnn (a : Announcement) (rest : Bytes) (hc : AnnCanonical a) :
    decAnn (encAnn a ++ rest) = .ok (a, rest) := by
  obtain ⟨hcl, he, hp⟩ := hc
  have hcla : a.cla < 2 ^ 64 := by
    have : a.cla ∈ claTypes := by simpa using hcl
    simp only [claTypes, List.mem_cons, List.mem_nil_iff, or_false] at this
    omega
  simp only [decAnn, encAnn, List.append_assoc, decArray_encArray, decUInt_encUInt, decEid_encEid, hcla, hcl, he, hp,
    Nat.reducePow, Nat.reduceLT, ne_eq, not_true_eq_false, if_false, Bool.not_true, Bool.false_eq_true]

theorem decWam_encWam (w : Wam) (rest : Bytes) (hc : WamCanonical w) : decWam (encWam w ++ rest) = .ok (w, rest) := by
  cases w with
  | status m =>
    simp only [decWam, encWam, wamStatus, List.append_assoc, decArray_encArray, decUInt_encUInt,
      decText_encText m rest hc, Nat.reducePow, Nat.reduceLT, ne_eq, not_true_eq_false, if_false, if_true]
  | register m =>
    simp only [decWam, encWam, wamStatus, wamRegister, List.append_assoc, decArray_encArray, decUInt_encUInt,
      decText_encText m rest hc, Nat.reducePow, Nat.reduceLT, Nat.reduceEqDiff, ne_eq, not_true_eq_false, if_false,
      if_true]
  | syscallRequest m =>
    simp only [decWam, encWam, wamStatus, wamRegister, wamSyscallRequest, List.append_assoc, decArray_encArray,
      decUInt_encUInt, decText_encText m rest hc, Nat.reducePow, Nat.reduceLT, Nat.reduceEqDiff, ne_eq,
      not_true_eq_false, if_false, if_true]
  | syscallResponse q r =>
    simp only [decWam, encWam, wamStatus, wamRegister, wamSyscallRequest, wamSyscallResponse, List.append_assoc,
      decArray_encArray, decUInt_encUInt, decText_encText q _ hc.1, decBytes_encBytes r rest hc.2, Nat.reducePow,
      Nat.reduceLT, Nat.reduceEqDiff, ne_eq, not_true_eq_false, if_false, if_true]

theorem encWam_ne_nil (w : Wam) : encWam w ≠ [] := by
  cases w <;> simp [encWam, encArray, encHead]

theorem encTs_ne_nil (t : Ts) : encTs t ≠ [] := by simp [encTs, encArray, encHead]
theorem encAnn_ne_nil (a : Announcement) : encAnn a ≠ [] := by simp [encAnn, encArray, encHead]
theorem encAdmin_ne_nil (s : StatusReport) : encAdmin s ≠ [] := by simp [encAdmin, encArray, encHead]

end Dtn7.WireCbor.Lemmas
