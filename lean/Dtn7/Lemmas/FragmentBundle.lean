/-
Lengths of the codec's encodings as far as fragmentation needs them: a block is never longer than the
same block with CRC-32, the fragment primary block grows by exactly the two heads of offset and total,
the payload block by head and bytes of the slice — hence `fragSize (inOf b mtu) f` IS the length of the
real serialisation of the real fragment.
-/
import Dtn7.Model.FragmentBundle
import Dtn7.Lemmas.Fragment

namespace Dtn7.Frag.Lemmas
open Dtn7.Cbor Dtn7.Cbor.Lemmas Dtn7.Bundle

/-- Length of the CRC field by CRC type (1 head byte + 2 or 4 bytes; nothing for type 0 and for an
unknown type, which cannot be serialised at all). -/
def crcLen (t : Nat) : Nat := if t = 0 then 0 else if t = 1 then 3 else if t = 2 then 5 else 0

theorem encBytes_length (d : Bytes) : (encBytes d).length = headLen d.length + d.length := by
  simp [encBytes, encHead_length]

theorem crcField_length (t : Nat) (body : Bytes) : (crcField t body).length = crcLen t := by
  unfold crcField crcLen crcValue
  by_cases h0 : t = 0
  · simp [h0, crcNo]
  · by_cases h1 : t = 1
    · simp [h1, crcNo, crc16T, encBytes_length, beBytes_length, headLen]
    · by_cases h2 : t = 2
      · simp [h2, crcNo, crc16T, crc32T, encBytes_length, beBytes_length, headLen]
      · simp [h0, h1, h2, crcNo, crc16T, crc32T]

theorem encCanonRaw_length (c : Canonical) : (encCanonRaw c).length =
    1 + headLen c.typeCode + headLen c.num + headLen c.flags + headLen c.crcT +
      (headLen (encValueInner c.value).length + (encValueInner c.value).length) + crcLen c.crcT := by
  have ha : (encArray (if c.hasCrc then 6 else 5)).length = 1 := by
    unfold encArray; rw [encHead_length]; split <;> exact headLen_small _ (by decide)
  simp only [encCanonRaw, encCanonBody, List.length_append, crcField_length, ha, encUInt, encHead_length,
    encBytes_length]

/-- **Pricing, extension blocks**: a block with a known CRC type is never longer than the same block
encoded with CRC-32. -/
theorem actual_le_priced (c : Canonical) (h : crcKnown c.crcT = true) :
    (encCanonRaw c).length ≤ (encCanonRaw { c with crcT := crc32T }).length := by
  rw [encCanonRaw_length, encCanonRaw_length]
  have hk : c.crcT ≤ 2 := by simpa [crcKnown] using h
  have h1 : headLen c.crcT = 1 := headLen_small _ (by omega)
  have h2 : headLen crc32T = 1 := by decide
  have h3 : crcLen c.crcT ≤ crcLen crc32T := by
    have : c.crcT = 0 ∨ c.crcT = 1 ∨ c.crcT = 2 := by omega
    rcases this with h | h | h <;> simp [h, crcLen, crc32T]
  simp only [Canonical.typeCode, h1, h2] at *
  omega

/-- The payload block with a slice: the block with an empty payload, minus the one-byte head of the
empty byte string, plus head and bytes of the slice. -/
theorem payload_block_length (p : Canonical) (s : Bytes) :
    (encCanonRaw { p with value := .payload s }).length =
      (encCanonRaw { p with value := .payload [] }).length + headLen s.length + s.length - 1 := by
  rw [encCanonRaw_length, encCanonRaw_length]
  have : headLen 0 = 1 := by decide
  simp only [Canonical.typeCode, BlockValue.typeCode, encValueInner, List.length_nil, this]
  omega

theorem fragPrimary_isFragment (p : Primary) (off total : Nat) : (fragPrimary p off total).isFragment = true := by
  simp [fragPrimary, Primary.isFragment, has, Nat.testBit_or, Nat.testBit_two_pow_self]

/-- **The primary block estimate is exact**: `fragmentPrimaryBlock(pb, off, total)` is the block with
offset 0 / total 0 minus their two one-byte heads plus the heads of `off` and `total`. -/
theorem fragPrimary_length (p : Primary) (off total : Nat) :
    (encPrimaryRaw (fragPrimary p off total)).length =
      (encPrimaryRaw (fragPrimary p 0 0)).length - 2 + headLen off + headLen total := by
  have hf := fragPrimary_isFragment p off total
  have hf0 := fragPrimary_isFragment p 0 0
  have h0 : headLen 0 = 1 := by decide
  have hal : (fragPrimary p off total).arrayLen = (fragPrimary p 0 0).arrayLen := rfl
  simp only [encPrimaryRaw, encPrimaryBody, List.length_append, crcField_length, hf, hf0, if_true, hal,
    encUInt, encHead_length, encArray]
  simp only [fragPrimary]
  omega

theorem encBlocksRaw_length_sum (cs : List Canonical) :
    (encBlocksRaw cs).length = (cs.map fun c => (encCanonRaw c).length).sum := by
  induction cs with
  | nil => rfl
  | cons c cs ih => simp [encBlocksRaw, ih]

theorem encBlocksRaw_append (a b : List Canonical) : encBlocksRaw (a ++ b) = encBlocksRaw a ++ encBlocksRaw b := by
  induction a with
  | nil => rfl
  | cons c cs ih => simp [encBlocksRaw, ih]

theorem blkOf_actual (c : Canonical) : (blkOf c).actual = (encCanonRaw c).length := by simp only [blkOf]

theorem blkOf_priced (c : Canonical) : (blkOf c).priced = (encCanonRaw { c with crcT := crc32T }).length := by
  simp only [blkOf]

theorem blkOf_rep (c : Canonical) : (blkOf c).rep = has c.flags kReplicate := by simp only [blkOf]

theorem inOf_blocks (b : Bundle) (mtu : Nat) : (inOf b mtu).blocks = (b.blocks.filter isExt).map blkOf := rfl

theorem inOf_pl (b : Bundle) (mtu : Nat) (p : Canonical) (hp : payloadBlock? b = some p) :
    (inOf b mtu).pl = pblkOf p := by
  simp only [inOf, hp]

theorem sumActual_map_blkOf (l : List Canonical) : sumActual (l.map blkOf) = (encBlocksRaw l).length := by
  rw [encBlocksRaw_length_sum, sumActual, List.map_map]
  exact congrArg List.sum (List.map_congr_left fun c _ => blkOf_actual c)

theorem repBlocks_map_blkOf (l : List Canonical) :
    repBlocks (l.map blkOf) = (l.filter fun c => has c.flags kReplicate).map blkOf := by
  rw [repBlocks, List.filter_map]
  exact congrArg (List.map blkOf) (List.filter_congr fun c _ => blkOf_rep c)

theorem blkOf_actual_le_priced (c : Canonical) (h : crcKnown c.crcT = true) : (blkOf c).actual ≤ (blkOf c).priced := by
  rw [blkOf_actual, blkOf_priced]
  exact actual_le_priced c h

theorem pblkOf_actual0_le_priced (p : Canonical) (h : crcKnown p.crcT = true) :
    (pblkOf p).actual0 ≤ (pblkOf p).priced := by
  simp only [pblkOf]
  exact actual_le_priced { p with value := .payload [] } h

/-- The extension blocks the model carries at local index `j` are the ones the real loop copies. -/
theorem sumActual_carried (b : Bundle) (mtu j : Nat) :
    sumActual (carried (inOf b mtu) j) =
      (encBlocksRaw (b.blocks.filter fun c => c.typeCode != tPayload && (decide (j = 0) || has c.flags kReplicate))).length := by
  unfold carried
  rw [inOf_blocks]
  by_cases hj : j = 0
  · rw [if_pos hj, sumActual_map_blkOf]
    simp only [hj, decide_true, Bool.true_or, Bool.and_true]
    rfl
  · rw [if_neg hj, repBlocks_map_blkOf, sumActual_map_blkOf, List.filter_filter]
    simp only [hj, decide_false, Bool.false_or]
    exact congrArg (fun l => (encBlocksRaw l).length) (List.filter_congr fun c _ => Bool.and_comm _ _)

/-- **`fragSize` is the real serialised length** of the real fragment, for every model fragment cut
at local index `j` from a bundle that has a payload block. -/
theorem fragSize_eq_real (c : Cfg) (b : Bundle) (mtu j : Nat) (d : Bytes) (p : Canonical)
    (hp : payloadBlock? b = some p) :
    fragSize (inOf b mtu) ⟨base c (inOf b mtu) + j, tot c (inOf b mtu), d, carried (inOf b mtu) j⟩ =
      (serializeRaw (fragmentOf b (decide (j = 0)) (base c (inOf b mtu) + j) (tot c (inOf b mtu)) d)).length := by
  have hp' : b.blocks.find? (fun c => c.typeCode == tPayload) = some p := hp
  have hpl := inOf_pl b mtu p hp
  have hpb : (inOf b mtu).pbase = (encPrimaryRaw (fragPrimary b.primary 0 0)).length - 2 := rfl
  simp only [fragPrimary] at hpb
  have hprim := fragPrimary_length b.primary (base c (inOf b mtu) + j) (tot c (inOf b mtu))
  have hpay := payload_block_length p d
  have hcar := sumActual_carried b mtu j
  simp only [fragSize, primLen, hpl, hpb, pblkOf, cborOverhead, serializeRaw, fragmentOf, hp',
    List.length_cons, List.length_append, encBlocksRaw_append, encBlocksRaw, List.length_nil, List.append_nil]
  simp only [fragPrimary] at hprim
  rw [hprim, hpay, hcar]
  have h1 := headLen_pos d.length
  have h2 : 1 ≤ (encCanonRaw { p with value := BlockValue.payload [] }).length := by
    rw [encCanonRaw_length]; omega
  omega

end Dtn7.Frag.Lemmas
