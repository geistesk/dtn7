/-
C13 along every history: the sent-list bookkeeping invariant (previous node and successful transmissions
stay booked; chosen peers are never booked ones).
-/
import Dtn7.Lemmas.NodeC05
import Dtn7.Lemmas.NodeC13

namespace Dtn7.Node

/-! ## Provenance through `checkPendingBundles` -/

theorem retry_like (env : Env) (n : Node) (k : Key) (w : WF n) (it' : Item)
    (h : (dispatching env (newDesc n k) n).1.store.get k = some it') :
    ∃ it, n.store.get k = some it ∧ Like it.bundle it'.bundle := by
  cases hg : n.store.get k with
  | none =>
    rw [dispatching_absent env (newDesc n k) n (by rw [newDesc_key]; exact hg) (newDesc_bndl n k)] at h
    cases hg.symm.trans h
  | some it0 =>
    have hb := dispatching_bstep env (newDesc n k) it0.bundle n
      (Or.inr ⟨newDesc_bndl n k, it0, by rw [newDesc_key]; exact hg, rfl⟩)
      (by rw [newDesc_key]; exact w.keyed _ _ hg)
    rw [newDesc_key] at hb
    rcases hb.bundle it' h with ⟨it2, g2, l2⟩ | l2
    · rw [hg] at g2; cases g2; exact ⟨it0, rfl, l2⟩
    · exact ⟨it0, rfl, l2⟩

theorem dispatchKeys_like (env : Env) (k : Key) : ∀ (ks : List Key) (n : Node), WF n →
    ∀ it', (dispatchKeys env ks n).1.store.get k = some it' → ∃ it, n.store.get k = some it ∧ Like it.bundle it'.bundle
  | [], n, _, it', h => ⟨it', h, Like.refl _⟩
  | k₁ :: ks, n, w, it', h => by
    simp only [dispatchKeys] at h
    have hd := retry_kstep env n k₁ w
    rcases dispatchKeys_like env k ks _ (hd.wf w) it' h with ⟨it1, g1, l1⟩
    by_cases hk : k₁ = k
    · subst hk
      rcases retry_like env n k₁ w it1 g1 with ⟨it0, g0, l0⟩
      exact ⟨it0, g0, l0.trans l1⟩
    · rw [hd.only.other k (fun e => hk e.symm)] at g1
      exact ⟨it1, g1, l1⟩

/-! ## Booked endpoint IDs -/

/-- Does the algorithm keep a sent list for this key right now? (store-kept lists: the item exists;
spray variants: the in-memory bookkeeping exists) -/
def hasBook (n : Node) (k : Key) : Bool :=
  match n.cfg.algo with
  | .spray => (lookupMeta n.spray k).isSome
  | .binarySpray => (lookupMeta n.spray k).isSome
  | _ => (n.store.get k).isSome

/-- `e` is in the bundle's sent list (if there is one). -/
def Booked (n : Node) (k : Key) (e : Eid) : Prop := hasBook n k = true → e ∈ sentL n k

/-- Everything booked stays booked, except the endpoint IDs in `X`. -/
def BookLe (X : Eid → Prop) (k : Key) (n n' : Node) : Prop :=
  ∀ e, Booked n k e → ¬ X e → Booked n' k e

theorem hasBook_eq_book (n : Node) (k : Key) : hasBook n k = (book n k).isSome := by
  unfold hasBook book; cases n.cfg.algo <;> simp

theorem booked_iff_book (n : Node) (k : Key) (e : Eid) : Booked n k e ↔ ∀ l, book n k = some l → e ∈ l := by
  unfold Booked
  rw [hasBook_eq_book, sentL_eq_book]
  cases book n k <;> simp

/-- What is booked under `k` stays booked in a state whose list for `k` (if any) is the old one: same
configuration, spray bookkeeping of `k` kept or dropped, item of `k` dropped or kept with its routing properties. -/
theorem Booked.mono {n n' : Node} {k : Key} {e : Eid} (hc : n'.cfg = n.cfg)
    (hs : ∀ m, lookupMeta n'.spray k = some m → lookupMeta n.spray k = some m)
    (hg : ∀ it', n'.store.get k = some it' → ∃ it, n.store.get k = some it ∧ it.rt = it'.rt)
    (hb : Booked n k e) : Booked n' k e := by
  rw [booked_iff_book] at hb ⊢
  intro l hl
  apply hb l
  have hst : ∀ f : Routing → List Eid, (n'.store.get k).map (fun it => f it.rt) = some l →
      (n.store.get k).map (fun it => f it.rt) = some l := by
    intro f h
    cases h' : n'.store.get k with
    | none => rw [h'] at h; cases h
    | some it' =>
      rcases hg it' h' with ⟨it, g, hr⟩
      rw [h'] at h
      rw [g, ← h]
      exact congrArg (fun r => some (f r)) hr
  have hsp : (lookupMeta n'.spray k).map (·.sent) = some l → (lookupMeta n.spray k).map (·.sent) = some l := by
    intro h
    cases h' : lookupMeta n'.spray k with
    | none => rw [h'] at h; cases h
    | some m => rw [hs m h']; rw [h'] at h; exact h
  unfold book at hl ⊢
  rw [hc] at hl
  revert hl
  cases n.cfg.algo
  · exact hst (·.sentE)
  · exact hsp
  · exact hsp
  · exact hst (·.sentP)
  · exact hst (·.sentD)
theorem BookLe.refl (X : Eid → Prop) (k : Key) (n : Node) : BookLe X k n n := fun _ h _ => h

theorem BookLe.trans {X Y : Eid → Prop} {k : Key} {a b c : Node} (h1 : BookLe X k a b) (h2 : BookLe Y k b c) :
    BookLe (fun e => X e ∨ Y e) k a c :=
  fun e hb hn => h2 e (h1 e hb (fun hx => hn (Or.inl hx))) (fun hy => hn (Or.inr hy))

theorem BookLe.mono {X Y : Eid → Prop} {k : Key} {a b : Node} (h : BookLe X k a b) (hxy : ∀ e, X e → Y e) :
    BookLe Y k a b :=
  fun e hb hn => h e hb (fun hx => hn (hxy e hx))

theorem sync_bookLe (d : Desc) (n : Node) (it : Item) (hg : n.store.get d.key = some it) :
    BookLe (fun _ => False) d.key n (sync d n) := by
  intro e hb _
  refine Booked.mono (sync_env d n).cfg (fun m hm => by rw [← sync_spray d n]; exact hm) (fun it' g => ?_) hb
  by_cases hc : d.cons.isEmpty = true
  · rw [sync_delete d n it hg hc] at g; cases g
  · rw [sync_update d n it hg (by simpa using hc)] at g
    cases g
    exact ⟨it, hg, rfl⟩

theorem reportFailure_bookLe (d : Desc) (p : Peer) (n : Node) :
    BookLe (fun e => e = p.eid) d.key n (reportFailure d p n) := by
  intro e hb hne
  rw [booked_iff_book] at hb ⊢
  intro l' hl
  rw [reportFailure_book] at hl
  cases h0 : book n d.key with
  | none => rw [h0] at hl; cases hl
  | some l =>
    rw [h0] at hl
    cases hl
    split
    · show e ∈ eraseFirst p.eid l
      rw [eraseFirst_eq_erase]
      exact (List.mem_erase_of_ne hne).mpr (hb l h0)
    · exact hb l h0

theorem innerSenders_bookLe (env : Env) (d : Desc) (b : Bundle) (n : Node) :
    BookLe (fun _ => False) d.key n (innerSenders env d b n).2.2.2 := by
  intro e hb _
  by_cases hrep : replicates n.cfg b = true
  · rw [booked_iff_book] at hb ⊢
    rcases innerSenders_book env d b n hrep with ⟨_, _, h2⟩ | ⟨l, l', h0, h1, hp⟩
    · intro l hl; rw [h2] at hl; cases hl
    · intro l'' hl
      rw [h1] at hl; cases hl
      rw [hp.app]
      exact List.mem_append_left _ (hb l h0)
  · rw [innerSenders_unicast env d b n hrep]; exact hb

theorem muleFilter_bookLe (d : Desc) : ∀ (ps : List Peer) (n : Node),
    BookLe (fun e => ∃ q ∈ ps, muleDrops n.cfg d q = true ∧ q.eid = e) d.key n (muleFilter d ps n).2
  | [], n => fun _ h _ => h
  | p :: ps, n => by
    have ih := muleFilter_bookLe d ps n
    simp only [muleFilter]
    by_cases h : muleDrops n.cfg d p = true
    · simp only [h, if_true]
      refine (ih.trans (reportFailure_bookLe d p _)).mono ?_
      intro e he
      rcases he with ⟨q, hq, hqd, hqe⟩ | he
      · exact ⟨q, List.mem_cons_of_mem _ hq, hqd, hqe⟩
      · exact ⟨p, List.mem_cons_self, h, he.symm⟩
    · simp only [h, Bool.false_eq_true, if_false]
      exact ih.mono (fun e ⟨q, hq, hqd, hqe⟩ => ⟨q, List.mem_cons_of_mem _ hq, hqd, hqe⟩)

theorem attempts_bookLe (k : Key) (n : Node) (a : List ((Nat × Nat × Nat) × Nat)) :
    BookLe (fun _ => False) k n { n with attempts := a } := fun _ h _ => h

theorem sendAll_bookLe (env : Env) (d : Desc) (b : Bundle) : ∀ (ps : List Peer) (n : Node),
    BookLe (fun e => ∃ p ∈ ps, Output.sent p b false ∈ (sendAll env d b ps n).2.1 ∧ p.eid = e) d.key n
      (sendAll env d b ps n).1
  | [], n => fun _ h _ => h
  | p :: ps, n => by
    simp only [sendAll]
    by_cases hok : env.sendOk p.addr b.tag (attemptNo n p.addr b.tag b.seq) = true
    · simp only [hok, if_true]
      have ih := sendAll_bookLe env d b ps { n with attempts := setNat n.attempts (p.addr, b.tag, b.seq) (attemptNo n p.addr b.tag b.seq + 1) }
      refine ((attempts_bookLe d.key n _).trans ih).mono ?_
      intro e he
      rcases he with he | ⟨q, hq, hm, hqe⟩
      · exact absurd he id
      · exact ⟨q, List.mem_cons_of_mem _ hq, List.mem_cons_of_mem _ hm, hqe⟩
    · have hok' : env.sendOk p.addr b.tag (attemptNo n p.addr b.tag b.seq) = false := eq_false_of_ne_true hok
      simp only [hok', Bool.false_eq_true, if_false]
      have ih := sendAll_bookLe env d b ps (reportFailure d p { n with attempts := setNat n.attempts (p.addr, b.tag, b.seq) (attemptNo n p.addr b.tag b.seq + 1) })
      refine (((attempts_bookLe d.key n _).trans (reportFailure_bookLe d p _)).trans ih).mono ?_
      intro e he
      rcases he with (he | he) | ⟨q, hq, hm, hqe⟩
      · exact absurd he id
      · exact ⟨p, List.mem_cons_self, List.mem_cons_self, he.symm⟩
      · exact ⟨q, List.mem_cons_of_mem _ hq, List.mem_cons_of_mem _ hm, hqe⟩

/-! ## One `forward`: booked endpoint IDs are neither chosen nor lost -/

theorem innerSenders_fresh (env : Env) (d : Desc) (b : Bundle) (n : Node) (hrep : replicates n.cfg b = true) :
    ∀ p ∈ (innerSenders env d b n).1, hasBook n d.key = true ∧ p.eid ∉ sentL n d.key := by
  intro p hp
  rw [hasBook_eq_book, sentL_eq_book]
  rcases innerSenders_book env d b n hrep with ⟨_, h1, _⟩ | ⟨l, l', h0, _, hk⟩
  · rw [h1] at hp; cases hp
  · rw [h0]; exact ⟨rfl, by simpa using hk.fresh p hp⟩

theorem sendersFor_book (env : Env) (d : Desc) (b : Bundle) (n : Node) (hrep : replicates n.cfg b = true) :
    (∀ p ∈ (sendersFor env d b n).1, hasBook n d.key = true ∧ p.eid ∉ sentL n d.key) ∧
    BookLe (fun e => ∃ p ∈ (innerSenders env d b n).1, p.eid = e) d.key n (sendersFor env d b n).2.2.2 := by
  unfold sendersFor
  simp only
  split
  · constructor
    · intro p hp
      exact innerSenders_fresh env d b n hrep p (muleFilter_fst_sub _ _ _ p hp)
    · have h1 := innerSenders_bookLe env d b n
      have hk := (innerSenders_picks env d b n).keep.1
      have h2 := muleFilter_bookLe (innerSenders env d b n).2.2.1 (innerSenders env d b n).1 (innerSenders env d b n).2.2.2
      rw [hk] at h2
      exact (h1.trans h2).mono fun e he => by
        rcases he with he | ⟨q, hq, _, hqe⟩
        · exact absurd he id
        · exact ⟨q, hq, hqe⟩
  · exact ⟨innerSenders_fresh env d b n hrep, (innerSenders_bookLe env d b n).mono (fun _ h => absurd h id)⟩

/-- The endpoint IDs `E` that have to stay booked: none of them is the destination's node, all of them
are in the sent list. -/
structure MustStay (E : Eid → Prop) (b : Bundle) (n : Node) (k : Key) : Prop where
  notDst : ∀ e, E e → e.sameNode b.dst = false
  booked : ∀ e, E e → Booked n k e

/-- What is booked after the transmissions is booked after `forwardSend`. -/
theorem forwardSend_booked (env : Env) (b : Bundle) (r : List Peer × Bool × Desc × Node) (it : Item)
    (hg : r.2.2.2.store.get r.2.2.1.key = some it) (e : Eid)
    (hb : Booked (sendAll env r.2.2.1 b r.1 r.2.2.2).1 r.2.2.1.key e) :
    Booked (forwardSend env b r).1 r.2.2.1.key e := by
  rcases (sendAll_rt env r.2.2.1 b r.1 r.2.2.2).item it hg with ⟨it2, g2, _⟩
  rcases forwardSend_fst env b r with ⟨_, h⟩ | h <;> rw [h]
  · exact sync_bookLe { r.2.2.1 with cons := r.2.2.1.cons.purge } _ it2 g2 e hb id
  · exact sync_bookLe { r.2.2.1 with cons := { r.2.2.1.cons with ci := true } } _ it2 g2 e hb id

theorem forwardSend_book (env : Env) (b : Bundle) (r : List Peer × Bool × Desc × Node) (it : Item)
    (hg : r.2.2.2.store.get r.2.2.1.key = some it) (E : Eid → Prop)
    (hE : ∀ e, E e → Booked r.2.2.2 r.2.2.1.key e) (hX : ∀ p ∈ r.1, ¬ E p.eid) :
    ∀ e, E e → Booked (forwardSend env b r).1 r.2.2.1.key e := by
  intro e he
  apply forwardSend_booked env b r it hg
  apply sendAll_bookLe env r.2.2.1 b r.1 r.2.2.2 e (hE e he)
  intro ⟨p, hp, _, hpe⟩
  exact hX p hp (hpe ▸ he)

/-- Nobody who has to stay booked is chosen, and everybody who has to stays booked through the choice
(direct delivery only picks CLAs of the destination node). -/
theorem selectSenders_book (env : Env) (d : Desc) (b : Bundle) (n : Node) (hrep : replicates n.cfg b = true)
    (E : Eid → Prop) (hE : MustStay E b n d.key) :
    (∀ p ∈ (selectSenders env d b n).1, ¬ E p.eid) ∧
    (∀ e, E e → Booked (selectSenders env d b n).2.2.2 d.key e) := by
  unfold selectSenders
  dsimp only
  split
  · have hbook := sendersFor_book env d b n hrep
    refine ⟨fun p hp hEp => (hbook.1 p hp).2 (hE.booked _ hEp (hbook.1 p hp).1), fun e he => ?_⟩
    apply hbook.2 e (hE.booked e he)
    intro ⟨q, hq, hqe⟩
    rcases innerSenders_fresh env d b n hrep q hq with ⟨hhb, hfresh⟩
    exact hfresh (hqe ▸ hE.booked e he hhb)
  · refine ⟨fun p hp hEp => ?_, hE.booked⟩
    have hp2 := (List.mem_filter.mp hp).2
    rw [hE.notDst _ hEp] at hp2
    cases hp2

theorem forward_book (env : Env) (d : Desc) (b : Bundle) (n : Node) (it : Item)
    (hg : n.store.get d.key = some it) (hrep : replicates n.cfg b = true)
    (E : Eid → Prop) (hE : MustStay E b n d.key) :
    (∀ p ok, Output.sent p b ok ∈ (forward env d b n).2 → p.eid.sameNode b.dst = false → ¬ E p.eid) ∧
    (∀ e, E e → Booked (forward env d b n).1 d.key e) := by
  have h1 := sync_update (fwdDesc d) n it hg (fwdDesc_nonempty d)
  have hb1 : ∀ e, E e → Booked (sync (fwdDesc d) n) (fwdDesc d).key e :=
    fun e he => sync_bookLe (fwdDesc d) n it hg e (hE.booked e he) id
  by_cases hf : forwardable n.now b
  · rw [forward_sends env d b n hf]
    have hp := selectSenders_picks env (fwdDesc d) b (sync (fwdDesc d) n)
    have hsel := selectSenders_book env (fwdDesc d) b (sync (fwdDesc d) n)
      (by rw [(sync_env _ n).cfg]; exact hrep) E ⟨hE.notDst, hb1⟩
    rcases hp.rt.item _ h1 with ⟨it3, g3, _⟩
    have := forwardSend_book env b (selectSenders env (fwdDesc d) b (sync (fwdDesc d) n)) it3
      (by rw [hp.keep.1]; exact g3) E (by rw [hp.keep.1]; exact hsel.2) hsel.1
    rw [hp.keep.1] at this
    refine ⟨fun p ok hmem _ => ?_, this⟩
    rcases forwardSend_outs env b _ _ hmem with ⟨q, ok', hq, hqe⟩
    cases hqe
    exact hsel.1 p hq
  · -- refused: nothing is sent, the item is deleted
    rw [forward_refused env d b n hf]
    exact ⟨fun _ _ h => (nomatch h), fun e he =>
      sync_bookLe { fwdDesc d with cons := (fwdDesc d).cons.purge } _ _ h1 e (hb1 e he) id⟩

/-! ## dispatching -/

theorem modItem_bookLe (k : Key) (f : Item → Item) (n : Node) (hf : ∀ it, (f it).rt = it.rt) :
    BookLe (fun _ => False) k n (modItem k f n) := by
  intro e hb _
  refine Booked.mono (modItem_only k f n).env.cfg (fun m hm => by rw [← modItem_spray k f n]; exact hm)
    (fun it' g => ?_) hb
  rw [modItem_get] at g
  cases h : n.store.get k with
  | none => rw [h] at g; cases g
  | some it => rw [h] at g; cases g; exact ⟨it, rfl, (hf it).symm⟩

theorem localDelivery_bookLe (d : Desc) (n : Node) (it : Item) (hg : n.store.get d.key = some it) :
    BookLe (fun _ => False) d.key n (localDelivery d n) := by
  intro e hb _
  have hne : ({ d.cons with le := true } : Cons).isEmpty = false := by simp [Cons.isEmpty]
  have h1 := sync_update { d with cons := { d.cons with le := true } } n it hg hne
  exact sync_bookLe { d with cons := ({ d.cons with le := true } : Cons).purge } _ _ h1 e
    (sync_bookLe { d with cons := { d.cons with le := true } } n it hg e hb id) id

theorem dispatching_book (env : Env) (d : Desc) (n : Node) (it : Item) (b : Bundle)
    (hg : n.store.get d.key = some it) (hd : d.bndl = some b ∨ (d.bndl = none ∧ it.bundle = b))
    (hrep : replicates n.cfg b = true) (E : Eid → Prop) (hE : MustStay E b n d.key) :
    (∀ p b' ok, Output.sent p b' ok ∈ (dispatching env d n).2 →
      b' = b ∧ (p.eid.sameNode b.dst = false → ¬ E p.eid)) ∧
    (∀ e, E e → Booked (dispatching env d n).1 d.key e) := by
  rcases dispatching_cases env d n with ⟨_, h⟩ | ⟨_, ⟨_, h⟩ | ⟨b1, hb1, ⟨_, h⟩ | ⟨_, h⟩⟩⟩ <;> rw [h]
  · -- refused: the item is marked pending, and (`holdFix`) contraindicated
    refine ⟨fun _ _ _ h => (nomatch h), fun e he => ?_⟩
    have hm := modItem_bookLe d.key (fun it => { it with pending := true }) n (fun _ => rfl) e (hE.booked e he) id
    split
    · exact sync_bookLe { d with cons := { d.cons with ci := true } } _ _
        (by rw [modItem_get, hg]; rfl) e hm id
    · exact hm
  · exact ⟨fun _ _ _ h => (nomatch h), hE.booked⟩
  · exact ⟨fun _ _ _ h => (nomatch h),
      fun e he => localDelivery_bookLe { d with bndl := some b1 } n it hg e (hE.booked e he) id⟩
  · have hbb : b1 = b := (Desc.bundle_descTag hb1 hg).trans (descTag_of hd)
    subst hbb
    have := forward_book env { d with bndl := some b1 } b1 n it hg hrep E hE
    refine ⟨fun p b' ok h => ?_, this.2⟩
    rcases forward_names env { d with bndl := some b1 } b1 n _ h with ⟨_, _, hx⟩
    cases hx
    exact ⟨rfl, this.1 p ok h⟩

/-! ## The previous-node invariant -/

/-- The previous node of `b`, unless it is the destination's node (then delivery is direct anyway). -/
def PrevE (b : Bundle) : Eid → Prop := fun e => b.prev = some e ∧ e.sameNode b.dst = false

theorem PrevE_like {a b : Bundle} (h : Like a b) : PrevE b = PrevE a := by
  funext e
  unfold PrevE
  rw [h.2.2.1, h.2.2.2]

theorem replicates_like {c : Cfg} {a b : Bundle} (h : Like a b) : replicates c b = replicates c a := by
  unfold replicates
  rw [h.2.2.2]

/-- Every stored bundle's previous node is in its sent list. -/
def PrevInv (c : Cfg) (n : Node) : Prop :=
  ∀ k it, n.store.get k = some it → replicates c it.bundle = true → ∀ e, PrevE it.bundle e → Booked n k e

/-- A transmission that is not a return to the previous node. -/
def NoRet (c : Cfg) (o : Output) : Prop :=
  ∀ p b ok, o = Output.sent p b ok → p.eid.sameNode b.dst = false → replicates c b = true → b.prev ≠ some p.eid

theorem booked_frame {k k' : Key} {n n' : Node} (h : OnlyKey k n n') (hk : k' ≠ k) (e : Eid) :
    Booked n k' e → Booked n' k' e :=
  Booked.mono h.env.cfg (fun m hm => by rw [← h.spray k' hk]; exact hm)
    fun it' g => ⟨it', by rw [← h.other k' hk]; exact g, rfl⟩

/-- The conditions under which the algorithm records the previous node of a new bundle: spray-and-wait
only for bundles of other nodes, binary spray with a BinarySprayBlock or — `BinarySpray.NotifyNewBundle` as
/repo f4a58d8 has it — for a bundle of another node without one. (What is excluded: a bundle of
this node that comes back from the network.) -/
def seedsPrev (c : Cfg) (b : Bundle) : Prop :=
  match c.algo with
  | .spray => hasEndpoint c b.src = false
  | .binarySpray => b.bsCopies.isSome = true ∨ hasEndpoint c b.src = false
  | _ => True

theorem notifyNew_booked (k : Key) (b : Bundle) (n : Node) (it : Item) (hg : n.store.get k = some it)
    (hs : seedsPrev n.cfg b) (e : Eid) (he : b.prev = some e) : Booked (notifyNew k b n) k e := by
  rw [booked_iff_book]
  unfold book
  rw [(notifyNew_rt k b n).only.env.cfg]
  unfold notifyNew
  unfold seedsPrev at hs
  intro l
  cases ha : n.cfg.algo <;> rw [ha] at hs <;> dsimp only at hs ⊢
  · rw [modRt_get, hg]
    intro hl
    cases hl
    simp only [epiNotify, he]
    split <;> split <;> simp_all
  · rw [lookupMeta_setMeta_eq]
    intro hl
    cases hl
    simp [hs, he]
  · rw [lookupMeta_setMeta_eq]
    intro hl
    cases hl
    cases hbs : b.bsCopies with
    | none =>
      have hsrc : hasEndpoint n.cfg b.src = false := by simpa [hbs] using hs
      simp [hsrc, he]
    | some cp => simp [he]
  · rw [he]
    dsimp only
    rw [modRt_get, hg]
    intro hl
    cases hl
    dsimp only
    split <;> simp_all
  · rw [he]
    dsimp only
    rw [modRt_get, hg]
    intro hl
    cases hl
    simp

/-- The histories of `Domain` in which, in addition, applications do not attach previous-node blocks,
peers deliver bundles of other nodes and — under binary spray — relayed bundles that carry a previous
node also carry the BinarySprayBlock (the class excluded by the last clause is the known finding). -/
structure Domain13 (c : Cfg) (h : List Event) : Prop where
  dom : Domain h
  subPrev : ∀ b ∈ submitted h, b.prev = none
  recvSeeds : ∀ b ∈ received h, seedsPrev c b ∨ b.prev = none

/-! ## One `forward`: a peer whose transmission succeeded is booked afterwards -/

theorem sendAll_unique (env : Env) (d : Desc) (b : Bundle) : ∀ (ps : List Peer) (n : Node), ps.Nodup →
    ∀ p ok1 ok2, Output.sent p b ok1 ∈ (sendAll env d b ps n).2.1 → Output.sent p b ok2 ∈ (sendAll env d b ps n).2.1 →
    ok1 = ok2
  | [], n, _, p, ok1, ok2, h1, _ => by simp [sendAll] at h1
  | q :: ps, n, hn, p, ok1, ok2, h1, h2 => by
    simp only [sendAll] at h1 h2
    rcases List.nodup_cons.mp hn with ⟨hq, hps⟩
    rcases List.mem_cons.mp h1 with h1 | h1 <;> rcases List.mem_cons.mp h2 with h2 | h2
    · cases h1; cases h2; rfl
    · cases h1
      rcases sendAll_outs env d b ps _ _ h2 with ⟨x, _, hx, hxe⟩
      cases hxe
      exact absurd hx hq
    · cases h2
      rcases sendAll_outs env d b ps _ _ h1 with ⟨x, _, hx, hxe⟩
      cases hxe
      exact absurd hx hq
    · exact sendAll_unique env d b ps _ hps p ok1 ok2 h1 h2

theorem nodup_of_map_nodup {l : List Peer} (h : (l.map (·.eid)).Nodup) : l.Nodup := by
  induction l with
  | nil => simp
  | cons x xs ih =>
    simp only [List.map_cons, List.nodup_cons] at h ⊢
    exact ⟨fun hm => h.1 (List.mem_map.mpr ⟨x, hm, rfl⟩), ih h.2⟩

theorem eid_inj_of_nodup {l : List Peer} (h : (l.map (·.eid)).Nodup) {p q : Peer} (hp : p ∈ l) (hq : q ∈ l)
    (he : p.eid = q.eid) : p = q := by
  induction l with
  | nil => cases hp
  | cons x xs ih =>
    simp only [List.map_cons, List.nodup_cons] at h
    rcases List.mem_cons.mp hp with hp1 | hp1 <;> rcases List.mem_cons.mp hq with hq1 | hq1
    · rw [hp1, hq1]
    · rw [hp1] at he
      exact absurd (List.mem_map.mpr (⟨q, hq1, he.symm⟩ : ∃ a, a ∈ xs ∧ a.eid = x.eid)) h.1
    · rw [hq1] at he
      exact absurd (List.mem_map.mpr (⟨p, hp1, he⟩ : ∃ a, a ∈ xs ∧ a.eid = x.eid)) h.1
    · exact ih h.2 hp1 hq1

/-- A chosen peer that is not of the destination node was picked by the algorithm and kept by the mule
filter: it is booked, and no other chosen peer has its endpoint ID. -/
theorem selectSenders_ok_booked (env : Env) (d : Desc) (b : Bundle) (n : Node) (hrep : replicates n.cfg b = true)
    (p : Peer) (hp : p ∈ (selectSenders env d b n).1) (hns : p.eid.sameNode b.dst = false) :
    Booked (selectSenders env d b n).2.2.2 d.key p.eid ∧ ((selectSenders env d b n).1.map (·.eid)).Nodup := by
  unfold selectSenders at hp ⊢
  dsimp only at hp ⊢
  by_cases hdir : ((senders env n d.key).filter (fun q => q.eid.sameNode b.dst)).isEmpty = true
  · rw [if_pos hdir] at hp ⊢
    have hnd := innerSenders_nodup env d b n hrep
    have hb0 : ∀ q ∈ (innerSenders env d b n).1, Booked (innerSenders env d b n).2.2.2 d.key q.eid := by
      intro q hq _
      rw [(innerSenders_spec env d b n hrep).2]
      exact List.mem_append_right _ (List.mem_map.mpr ⟨q, hq, rfl⟩)
    unfold sendersFor at hp ⊢
    dsimp only at hp ⊢
    by_cases hm : n.cfg.mule = true
    · rw [if_pos hm] at hp ⊢
      dsimp only at hp ⊢
      have hf := (muleFilter_sound (innerSenders env d b n).2.2.1 (innerSenders env d b n).1
        (innerSenders env d b n).2.2.2).1
      rw [hf] at hp ⊢
      have hpin := (List.mem_filter.mp hp).1
      refine ⟨?_, hnd.sublist (List.Sublist.map _ List.filter_sublist)⟩
      have hml := muleFilter_bookLe (innerSenders env d b n).2.2.1 (innerSenders env d b n).1
        (innerSenders env d b n).2.2.2
      rw [(innerSenders_picks env d b n).keep.1] at hml
      apply hml _ (hb0 p hpin)
      intro ⟨x, hx, hxd, hxe⟩
      have hxp : x = p := eid_inj_of_nodup hnd hx hpin hxe
      subst hxp
      have := (List.mem_filter.mp hp).2
      rw [hxd] at this
      cases this
    · rw [if_neg hm] at hp ⊢
      exact ⟨hb0 p hp, hnd⟩
  · rw [if_neg hdir] at hp
    have hp2 := (List.mem_filter.mp hp).2
    rw [hns] at hp2
    cases hp2

/-- The transmissions: only failed peers are removed from the list, and a peer with a successful
transmission did not fail. -/
theorem forwardSend_ok_booked (env : Env) (b : Bundle) (r : List Peer × Bool × Desc × Node) (it : Item)
    (hg : r.2.2.2.store.get r.2.2.1.key = some it) (p : Peer) (hp : p ∈ r.1)
    (hb : Booked r.2.2.2 r.2.2.1.key p.eid) (hnd : (r.1.map (·.eid)).Nodup)
    (hmem : Output.sent p b true ∈ (forwardSend env b r).2) :
    Booked (forwardSend env b r).1 r.2.2.1.key p.eid := by
  rw [forwardSend_snd] at hmem
  apply forwardSend_booked env b r it hg
  apply sendAll_bookLe env r.2.2.1 b r.1 r.2.2.2 _ hb
  intro ⟨x, hx, hxf, hxe⟩
  have hxp : x = p := eid_inj_of_nodup hnd hx hp hxe
  subst hxp
  cases sendAll_unique env _ b _ _ (nodup_of_map_nodup hnd) x true false hmem hxf

theorem forward_ok_booked (env : Env) (d : Desc) (b : Bundle) (n : Node) (it : Item)
    (hg : n.store.get d.key = some it) (hrep : replicates n.cfg b = true) :
    ∀ p, Output.sent p b true ∈ (forward env d b n).2 → p.eid.sameNode b.dst = false →
      Booked (forward env d b n).1 d.key p.eid := by
  intro p hmem hns
  by_cases hf : forwardable n.now b
  · rw [forward_sends env d b n hf] at hmem ⊢
    rcases forwardSend_outs env b _ _ hmem with ⟨q, ok', hq, hqe⟩
    cases hqe
    have hpk := selectSenders_picks env (fwdDesc d) b (sync (fwdDesc d) n)
    have hsel := selectSenders_ok_booked env (fwdDesc d) b (sync (fwdDesc d) n)
      (by rw [(sync_env _ n).cfg]; exact hrep) p hq hns
    rcases hpk.rt.item _ (sync_update (fwdDesc d) n it hg (fwdDesc_nonempty d)) with ⟨it3, g3, _⟩
    have := forwardSend_ok_booked env b (selectSenders env (fwdDesc d) b (sync (fwdDesc d) n)) it3
      (by rw [hpk.keep.1]; exact g3) p hq (by rw [hpk.keep.1]; exact hsel.1) hsel.2 hmem
    rw [hpk.keep.1] at this
    exact this
  · rw [forward_refused env d b n hf] at hmem; cases hmem

end Dtn7.Node
