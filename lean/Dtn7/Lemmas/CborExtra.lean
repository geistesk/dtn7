import Dtn7.Model.Cbor
import Dtn7.Model.Eid
import Dtn7.Lemmas.Cbor

/-!
Inversion lemmas for the CBOR head codec: what a successful read says about the value and the
bytes consumed (used to show that everything the bundle parser accepts can be written again).
-/
namespace Dtn7.Cbor.Lemmas
open Dtn7.Cbor Dtn7.Eid

/-- A successful head read: the major type is one of the eight, the argument fits `uint64`, the shortest
head for the argument is no longer than the head read, and the rest is a suffix. -/
theorem decHead_ok {bs : Bytes} {m n : Nat} {r : Bytes} (h : decHead bs = .ok (m, n, r)) :
    m < 8 ∧ n < 2 ^ 64 ∧ headLen n + r.length ≤ bs.length ∧ r <:+ bs := by
  obtain ⟨b, w, rfl, _, _, rfl, hw⟩ := decHead_eq_ok.mp h
  have hb := b.toNat_lt
  refine ⟨by omega, ?_, ?_, b :: w, rfl⟩
  · rcases hw with ⟨h3, rfl, rfl⟩ | ⟨h3, h4, hw, rfl⟩
    · omega
    · have hv := beVal_lt w
      have : 256 ^ w.length ≤ 256 ^ 8 := Nat.pow_le_pow_right (by decide) (by
        rw [hw]; exact Nat.pow_le_pow_right (by decide) (by omega : b.toNat % 32 - 24 ≤ 3))
      have : (256 : Nat) ^ 8 = 2 ^ 64 := by decide
      omega
  · rw [List.length_cons, List.length_append]
    rcases hw with ⟨h3, rfl, rfl⟩ | ⟨h3, h4, hw, rfl⟩
    · rw [headLen_small _ (by omega)]; omega
    · have hk : w.length = 1 ∨ w.length = 2 ∨ w.length = 4 ∨ w.length = 8 := by
        have ha : b.toNat % 32 = 24 ∨ b.toNat % 32 = 25 ∨ b.toNat % 32 = 26 ∨ b.toNat % 32 = 27 := by omega
        rcases ha with ha | ha | ha | ha <;> rw [ha] at hw <;> simp [hw]
      have := headLen_of_lt hk (beVal_lt w)
      omega

theorem decExpect_head {maj : Nat} {bs : Bytes} {n : Nat} {r : Bytes} (h : decExpect maj bs = .ok (n, r)) :
    decHead bs = .ok (maj, n, r) := by
  unfold decExpect at h
  cases hd : decHead bs with
  | error e => rw [hd] at h; cases h
  | ok x =>
    obtain ⟨m, n', r'⟩ := x
    rw [hd] at h
    dsimp only at h
    by_cases hm : m = maj
    · rw [if_pos hm] at h; cases h; rw [hm]
    · rw [if_neg hm] at h; cases h

theorem decExpect_ok {maj : Nat} {bs : Bytes} {n : Nat} {r : Bytes} (h : decExpect maj bs = .ok (n, r)) :
    n < 2 ^ 64 ∧ headLen n + r.length ≤ bs.length ∧ r <:+ bs :=
  (decHead_ok (decExpect_head h)).2

theorem readRaw_ok {l : Nat} {bs d r : Bytes} (h : readRaw l bs = .ok (d, r)) :
    d.length = l ∧ l ≤ maxInt32 ∧ bs = d ++ r := by
  unfold readRaw at h
  by_cases h1 : l > maxInt32
  · rw [if_pos h1] at h; cases h
  rw [if_neg h1] at h
  by_cases h2 : bs.length < l
  · rw [if_pos h2] at h; cases h
  rw [if_neg h2] at h; cases h
  exact ⟨by rw [List.length_take]; omega, by omega, (List.take_append_drop l bs).symm⟩

/-- A byte string read fits `ReadRawBytes`, its shortest encoding is no longer than what was consumed, and
the rest is a suffix. -/
theorem decBytes_ok {bs d r : Bytes} (h : decBytes bs = .ok (d, r)) :
    d.length ≤ maxInt32 ∧ (encBytes d).length + r.length ≤ bs.length ∧ r <:+ bs := by
  unfold decBytes at h
  cases he : decExpect majBytes bs with
  | error e => rw [he] at h; cases h
  | ok x =>
    obtain ⟨n, r'⟩ := x
    rw [he] at h
    dsimp only at h
    obtain ⟨rfl, h2, rfl⟩ := readRaw_ok h
    obtain ⟨_, h5, s5⟩ := decExpect_ok he
    rw [List.length_append] at h5
    refine ⟨h2, ?_, (List.suffix_append d r).trans s5⟩
    rw [encBytes, List.length_append, encHead_length]
    omega

theorem bindP_eq_ok {α β : Type} {p : Except Err (α × Bytes)} {f : α → Bytes → Except Err β} {y : β} :
    bindP p f = .ok y ↔ ∃ a r, p = .ok (a, r) ∧ f a r = .ok y := by
  cases p with
  | error e => simp [bindP]
  | ok x =>
    obtain ⟨a, r⟩ := x
    simp only [bindP, Except.ok.injEq, Prod.mk.injEq]
    constructor
    · intro h; exact ⟨a, r, ⟨rfl, rfl⟩, h⟩
    · rintro ⟨_, _, ⟨rfl, rfl⟩, h⟩; exact h

theorem bind_eq_ok {ε α β : Type} {x : Except ε α} {f : α → Except ε β} {b : β} :
    (x >>= f) = .ok b ↔ ∃ a, x = .ok a ∧ f a = .ok b := by
  cases x with
  | error e => exact ⟨(fun h => nomatch h), (fun ⟨_, h, _⟩ => nomatch h)⟩
  | ok a => exact ⟨fun h => ⟨a, rfl, h⟩, fun ⟨_, h, h'⟩ => by cases h; exact h'⟩

/-- A conditional whose first branch cannot be the value sought: the condition fails and the other branch
gives the value. The checks of the decoders (`if … then .error e else …`) are read off with it. -/
theorem ite_eq_iff_of_ne {α : Type} {c : Prop} [Decidable c] {x y z : α} (hx : x ≠ z) :
    (if c then x else y) = z ↔ ¬ c ∧ y = z := by
  by_cases hc : c
  · rw [if_pos hc]; exact ⟨fun h => absurd h hx, fun h => absurd hc h.1⟩
  · rw [if_neg hc]; exact ⟨fun h => ⟨hc, h⟩, fun h => h.2⟩

theorem guard_eq_ok {ε β : Type} {c : Prop} [Decidable c] {e : ε} {y : Except ε β} {b : β} :
    (if c then .error e else y) = .ok b ↔ ¬ c ∧ y = .ok b :=
  ite_eq_iff_of_ne nofun

/-- A result computed from a conditional one of whose branches gives `z` and the other does not. -/
theorem apply_ite_eq_iff {α β : Type} {p : Prop} [Decidable p] (g : α → β) {a b : α} {z : β}
    (ha : g a = z) (hb : g b ≠ z) : g (if p then a else b) = z ↔ p := by
  by_cases h : p
  · rw [if_pos h]; exact ⟨fun _ => h, fun _ => ha⟩
  · rw [if_neg h]; exact ⟨fun e => absurd e hb, fun h' => absurd h' h⟩

end Dtn7.Cbor.Lemmas
