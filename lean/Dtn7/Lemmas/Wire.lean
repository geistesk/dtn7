import Dtn7.Model.Wire
import Dtn7.Lemmas.Cbor

namespace Dtn7.Wire.Lemmas
open Dtn7.Cbor (Bytes beBytes beVal)
open Dtn7.Cbor.Lemmas (beBytes_length beVal_beBytes)
open Dtn7.Wire

theorem takeN_append (d rest : Bytes) : takeN d.length (d ++ rest) = .ok (d, rest) := by
  unfold takeN
  simp

theorem takeN_append' (k : Nat) (d rest : Bytes) (h : d.length = k) :
    takeN k (d ++ rest) = .ok (d, rest) := by
  subst h; exact takeN_append d rest

theorem readBE_beBytes (k n : Nat) (rest : Bytes) (h : n < 256 ^ k) :
    readBE k (beBytes k n ++ rest) = .ok (n, rest) := by
  unfold readBE
  rw [takeN_append' k _ _ (beBytes_length k n)]
  simp [beVal_beBytes k n h]

theorem readU8_cons (b : UInt8) (rest : Bytes) : readU8 (b :: rest) = .ok (b, rest) := rfl

/-- Association lists keyed by the first component (the transfer and transmission tables): removing the
entries of key `k` hides `k` and nothing else. -/
theorem find?_filter_ne {κ β} [DecidableEq κ] (l : List (κ × β)) (k k' : κ) :
    (l.filter (·.1 != k)).find? (·.1 == k') = if k' = k then none else l.find? (·.1 == k') := by
  induction l with
  | nil => split <;> rfl
  | cons e t ih =>
    by_cases h : e.1 = k
    · simp only [List.filter_cons, h, bne_self_eq_false, Bool.false_eq_true, if_false, ih, List.find?_cons]
      by_cases hkk : k' = k
      · simp only [hkk, if_true]
      · have : (k == k') = false := by simpa using Ne.symm hkk
        simp only [hkk, this, if_false]
    · have hne : (e.1 != k) = true := by simpa using h
      simp only [List.filter_cons, hne, if_true, List.find?_cons, ih]
      by_cases h' : e.1 = k'
      · have : ¬ k' = k := fun e' => h (h'.trans e')
        simp only [h', beq_self_eq_true, this, if_false]
      · have : (e.1 == k') = false := by simpa using h'
        simp only [this]

/-! ### Stream alignment, generically

If a decoder consumes exactly what its encoder wrote (`dec (enc v ++ rest) = ok (v, rest)`) for the
values satisfying `C`, and encodings are non-empty, then reading values until the stream is
exhausted returns exactly the list that was written. -/

theorem decManyFuel_flatMap {α} (enc : α → Bytes) (dec : Bytes → Except Err (α × Bytes))
    (C : α → Prop)
    (rt : ∀ v rest, C v → dec (enc v ++ rest) = .ok (v, rest))
    (ne : ∀ v, C v → enc v ≠ [])
    (vs : List α) (hC : ∀ v ∈ vs, C v) (f : Nat) (hf : (vs.flatMap enc).length ≤ f) :
    decManyFuel dec f (vs.flatMap enc) = .ok vs := by
  induction vs generalizing f with
  | nil => cases f <;> simp [decManyFuel]
  | cons v vs ih =>
    have hv : C v := hC v (by simp)
    have hne := ne v hv
    simp only [List.flatMap_cons] at hf ⊢
    cases hev : enc v with
    | nil => exact absurd hev hne
    | cons b t =>
      rw [hev] at hf
      cases f with
      | zero => simp at hf
      | succ f =>
        simp only [List.cons_append, decManyFuel]
        have := rt v (vs.flatMap enc) hv
        rw [hev] at this
        simp only [List.cons_append] at this
        rw [this]
        have hlen : (vs.flatMap enc).length ≤ f := by
          simp only [List.cons_append, List.length_cons, List.length_append] at hf
          omega
        simp only [ih (fun w hw => hC w (by simp [hw])) f hlen]

end Dtn7.Wire.Lemmas
