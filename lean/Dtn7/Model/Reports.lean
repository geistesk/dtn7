/-
Model of the status-report decision of the node core
  pkg/routing/core.go        (Core.HasEndpoint, Core.SendStatusReport)
  pkg/routing/processing.go  (the five report call sites: receive ×2, forward, localDelivery,
                              bundleDeletion; and the callers of bundleDeletion)
  pkg/bpv7/administrative_record_status_report.go (NewStatusReport, BundleStatusItem, StatusReport CBOR)
  pkg/bpv7/bundle.go         (Bundle.ID), pkg/bpv7/bundle_builder.go (the report bundle)

Core-only; used by the driver `drv_c15` and by `Dtn7.Props.C15`.
The second half of the file is the *Spec*: what property C15 demands of a report, phrased over the
subject bundle and a log of events that happened at the node, independent of the model.
-/
namespace Dtn7.Reports

abbrev Bytes := List UInt8

/-! ### Constants (tied to the source by `Dtn7.Gen.C15`, see `Props/C15.lean`) -/

/-- Bundle processing control flags (`pkg/bpv7/bundle_control_flags.go`). -/
def fIsFragment : Nat := 0x000001
def fAdmin : Nat := 0x000002
def fReqTime : Nat := 0x000040
def fReqReception : Nat := 0x004000
def fReqForward : Nat := 0x010000
def fReqDelivery : Nat := 0x020000
def fReqDeletion : Nat := 0x040000

/-- All four status-report request flags. -/
def fReqAll : Nat := 0x074000

/-- Block processing control flags (`pkg/bpv7/block_control_flags.go`). -/
def bfReport : Nat := 0x02
def bfDelete : Nat := 0x04
def bfRemove : Nat := 0x10

/-- `BundleControlFlags.Has` / `BlockControlFlags.Has`: `(bcf & flag) != 0`. -/
def has (flags flag : Nat) : Bool := (flags &&& flag) != 0

/-- `StatusInformationPos`. -/
def posReceived : Nat := 0
def posForwarded : Nat := 1
def posDelivered : Nat := 2
def posDeleted : Nat := 3
def maxPos : Nat := 4

/-- `StatusReportReason` codes used by the core. -/
def rNoInformation : Nat := 0
def rLifetimeExpired : Nat := 1
def rHopLimitExceeded : Nat := 9
def rBlockUnsupported : Nat := 11

/-- `Lifetime("60m")` of the report bundle, in milliseconds. -/
def reportLifetimeMs : Nat := 3600000

/-! ### Endpoints -/

/-- `bpv7.EndpointID` as far as the core's comparisons are concerned. -/
inductive Eid where
  | none
  | dtn (node : Bytes) (demux : Bytes)
  | ipn (node : Nat) (service : Nat)
deriving DecidableEq, Repr

/-- `SchemeName()`: 1 = "dtn" (dtn:none included), 2 = "ipn". -/
def Eid.scheme : Eid → Nat
  | .none => 1
  | .dtn _ _ => 1
  | .ipn _ _ => 2

/-- `Authority()`: "none" for dtn:none, the node name, the decimal node number. -/
def Eid.authority : Eid → Bytes
  | .none => [110, 111, 110, 101]
  | .dtn n _ => n
  | .ipn n _ => (Nat.toDigits 10 n).map (fun c => UInt8.ofNat c.toNat)

/-- `EndpointID.SameNode`: same scheme and same authority. -/
def sameNode (a b : Eid) : Bool := a.scheme == b.scheme && a.authority == b.authority

/-! ### Node and subject views -/

/-- What `Core.HasEndpoint` looks at. -/
structure Node where
  /-- `Core.NodeId` -/
  id : Eid
  /-- endpoints of the registered application agents (`AgentManager.HasEndpoint`: exact match) -/
  agents : List Eid := []
  /-- `cla.Manager.listenerIDs` (`Manager.HasEndpoint`: the authority strings are compared) -/
  listeners : List Eid := []
  /-- `GetEndpointID()` of the active `ConvergenceReceiver`s (`SameNode`) -/
  receivers : List Eid := []
deriving Repr

/-- `Core.HasEndpoint`. -/
def Node.hasEndpoint (n : Node) (e : Eid) : Bool :=
  sameNode n.id e ||
  n.agents.contains e ||
  n.listeners.any (fun a => a.authority == e.authority) ||
  n.receivers.any (fun r => sameNode r e)

/-- A bundle ID as it appears on the wire inside a status report (`BundleID.MarshalCbor`): the
fragment offset and total length are present exactly for fragments. -/
structure BundleId where
  source : Eid
  time : Nat
  seq : Nat
  frag : Option (Nat × Nat)
deriving DecidableEq, Repr

/-- The bundle a report is (or is not) generated about, together with what the descriptor knows. -/
structure Subject where
  /-- raw bundle processing control flags of the primary block -/
  flags : Nat
  source : Eid
  destination : Eid
  reportTo : Eid
  /-- creation timestamp -/
  time : Nat
  seq : Nat
  /-- `PrimaryBlock.FragmentOffset`, `TotalDataLength` -/
  fragOffset : Nat := 0
  totalLen : Nat := 0
  /-- block processing control flags of the canonical blocks whose type this node does not know,
  in the order of `Bundle.CanonicalBlocks` -/
  blocks : List Nat := []
  /-- `BundleDescriptor.Receiver` (`dtn:none` unless a convergence layer set it). On the retry path
  the descriptor is rebuilt from the store: the receiver then is the stored item's
  `bundlepack/receiver` property, which only a `Sync` with constraints writes — a bundle that was
  never dispatched after its reception comes back with `dtn:none`. -/
  receiver : Eid := .none
deriving Repr

def Subject.admin (s : Subject) : Bool := has s.flags fAdmin
def Subject.reqTime (s : Subject) : Bool := has s.flags fReqTime
def Subject.isFragment (s : Subject) : Bool := has s.flags fIsFragment

/-- `Bundle.ID()` followed by `BundleID.MarshalCbor`. -/
def Subject.id (s : Subject) : BundleId :=
  { source := s.source, time := s.time, seq := s.seq,
    frag := if s.isFragment then some (s.fragOffset, s.totalLen) else none }

/-! ### The report -/

/-- `BundleStatusItem` as serialised: `[asserted]` or `[asserted, time]`. -/
structure Item where
  asserted : Bool
  time : Option Nat
deriving DecidableEq, Repr

/-- A status report bundle: primary block fields and the decoded administrative record. -/
structure Report where
  /-- raw bundle processing control flags of the report bundle -/
  flags : Nat
  source : Eid
  destination : Eid
  reportTo : Eid
  lifetime : Nat
  items : List Item
  reason : Nat
  ref : BundleId
deriving DecidableEq, Repr

/-- One element of `NewStatusReport`'s loop. -/
def newItem (t : Option Nat) (p i : Nat) : Item :=
  if i = p then ⟨true, t⟩ else ⟨false, none⟩

/-- `NewStatusReport`: `maxStatusInformationPos` items, the one at `statusItem` asserted, with the
time exactly if the subject has `RequestStatusTime`. -/
def newItems (reqTime : Bool) (p now : Nat) : List Item :=
  let t := if reqTime then some now else none
  [newItem t p 0, newItem t p 1, newItem t p 2, newItem t p 3]

/-- Model variants. `reportOnlyOnSuccess = true` is `localDelivery` of /repo: the delivery report is sent
only when `AgentManager.Deliver` succeeded; `false` is the variant that sends it whatever `Deliver`
returned (D16). Which one the source has is read from it (`Gen.C15.reportOnlyOnSuccess`). -/
structure Cfg where
  reportOnlyOnSuccess : Bool
deriving Repr, DecidableEq

/-- `aaEndpoint`: the descriptor's receiver, or the node ID if there is none. -/
def aaEndpoint (n : Node) (s : Subject) : Eid :=
  if s.receiver = Eid.none then n.id else s.receiver

/-- The guards of `SendStatusReport` taken together: a report about `s` can be produced at `n`. -/
def reportingAllowed (n : Node) (s : Subject) : Bool :=
  !s.admin && !n.hasEndpoint s.reportTo &&
  !(!n.hasEndpoint (aaEndpoint n s) && aaEndpoint n s != n.id)

/-- `Core.SendStatusReport`: both guards, the receiver/`aaEndpoint` logic, `NewStatusReport` and the
builder chain (`BundleCtrlFlags(AdministrativeRecordPayload)`, `Source(aaEndpoint)`,
`Destination(ReportTo)`, `Lifetime("60m")`; `Build` sets report-to := source). -/
def sendStatusReport (n : Node) (s : Subject) (status reason now : Nat) : Option Report :=
  -- Don't respond to other administrative records
  if s.admin then none
  -- Don't respond to ourself
  else if n.hasEndpoint s.reportTo then none
  else
    let aa := aaEndpoint n s
    if !n.hasEndpoint aa && aa != n.id then none
    else some
      { flags := fAdmin, source := aa, destination := s.reportTo, reportTo := aa,
        lifetime := reportLifetimeMs, items := newItems s.reqTime status now, reason := reason,
        ref := s.id }

/-! ### The call sites in `processing.go` -/

/-- What can happen to a bundle at the node, one entry per piece of code that may report. -/
inductive Outcome where
  /-- `receive`: a bundle with an unknown ID arrived -/
  | received
  /-- `receive`: a canonical block of a type unknown to this node, with its block flags -/
  | unknownBlock (flags : Nat)
  /-- `localDelivery`: `AgentManager.Deliver` handed the bundle to an application agent -/
  | deliveredAgent
  /-- `localDelivery`: the destination is an endpoint of this node but no agent took the bundle -/
  | noAgent
  /-- `forward`: at least one convergence layer accepted the bundle -/
  | forwarded
  /-- `forward`: every `Send` failed (or there was nobody to send to) -/
  | allFailed
  /-- `forward`: `IsLifetimeExceeded` / bundle age ≥ lifetime -/
  | lifetimeExpired
  /-- `forward`: hop count block exceeded after the increment -/
  | hopExceeded
  /-- `transmit`: the source is neither dtn:none nor an endpoint of this node -/
  | foreignSource
  /-- `dispatching`: the routing algorithm did not allow dispatching (nothing happens) -/
  | notDispatched
deriving DecidableEq, Repr

def toList (c : Bool) (r : Option Report) : List Report :=
  if c then r.toList else []

/-- `bundleDeletion`: report only with `StatusRequestDeletion`. -/
def bundleDeletion (n : Node) (s : Subject) (reason now : Nat) : List Report :=
  toList (has s.flags fReqDeletion) (sendStatusReport n s posDeleted reason now)

/-- The reports emitted for one outcome: the condition of each call site and its arguments. -/
def processOutcome (cfg : Cfg) (n : Node) (s : Subject) (now : Nat) : Outcome → List Report
  | .received =>
    toList (has s.flags fReqReception) (sendStatusReport n s posReceived rNoInformation now)
  | .unknownBlock f =>
    toList (has f bfReport) (sendStatusReport n s posReceived rBlockUnsupported now) ++
    (if has f bfDelete then bundleDeletion n s rBlockUnsupported now else [])
  | .deliveredAgent =>
    toList (has s.flags fReqDelivery) (sendStatusReport n s posDelivered rNoInformation now)
  | .noAgent =>
    if cfg.reportOnlyOnSuccess then []
    else toList (has s.flags fReqDelivery) (sendStatusReport n s posDelivered rNoInformation now)
  | .forwarded =>
    toList (has s.flags fReqForward) (sendStatusReport n s posForwarded rNoInformation now)
  | .allFailed => []
  | .lifetimeExpired => bundleDeletion n s rLifetimeExpired now
  | .hopExceeded => bundleDeletion n s rHopLimitExceeded now
  | .foreignSource => bundleDeletion n s rNoInformation now
  | .notDispatched => []

/-- How a bundle enters the core. -/
inductive Flow where
  /-- `receive` of an ID that already has retention constraints: returns at once -/
  | receiveKnown
  /-- `receive`: reception, then the unknown blocks from the last to the first, then `dispatching`
  (unless a block demanded the deletion of the bundle) with the given outcome -/
  | receive (dispatch : Outcome)
  /-- `SendBundle`/`transmit` with a foreign source -/
  | submitForeign
  /-- `SendBundle`/`transmit` → `dispatching` -/
  | submit (dispatch : Outcome)
  /-- `checkPendingBundles` → `dispatching` -/
  | retry (dispatch : Outcome)
deriving DecidableEq, Repr

/-- Outcomes `dispatching` can end in (`received`, `unknownBlock` belong to `receive` only,
`foreignSource` to `transmit` only). -/
def Outcome.isDispatch : Outcome → Bool
  | .received | .unknownBlock _ | .foreignSource => false
  | _ => true

def Flow.wellFormed : Flow → Bool
  | .receive d | .submit d | .retry d => d.isDispatch
  | _ => true

/-- The loop over the canonical blocks in `receive` (`bs` already in visiting order). -/
def blockOutcomes (dispatch : Outcome) : List Nat → List Outcome
  | [] => [dispatch]
  | f :: fs => .unknownBlock f :: (if has f bfDelete then [] else blockOutcomes dispatch fs)

/-- The outcomes a flow passes through, in program order. -/
def flowOutcomes (s : Subject) : Flow → List Outcome
  | .receiveKnown => []
  | .receive d => .received :: blockOutcomes d s.blocks.reverse
  | .submitForeign => [.foreignSource]
  | .submit d => [d]
  | .retry d => [d]

def flowReports (cfg : Cfg) (n : Node) (s : Subject) (now : Nat) (fl : Flow) : List Report :=
  (flowOutcomes s fl).flatMap (processOutcome cfg n s now)

/-- What the store's index keeps of a bundle's ID (`newBundleItem`: `BId: bid.Scrub()`): source and
creation timestamp, *without* the fragment offset and total length. -/
def storedId (s : Subject) : BundleId := { s.id with frag := none }

/-- The `Id` of the `BundleDescriptor` a flow works with. `receive` and `SendBundle` build it from
the bundle (`NewBundleDescriptorFromBundle`: `b.ID()`); `checkPendingBundles` rebuilds it from the
store (`NewBundleDescriptor(bi.BId, …)`), i.e. from the scrubbed ID — the bundle itself
(`descriptor.Bundle()`, loaded from the stored bytes) still is the subject `s` with all its fields.
`sendStatusReport` takes the reference from the bundle (`bndl.ID()`), never from the descriptor. -/
def descriptorId (s : Subject) : Flow → BundleId
  | .retry _ => storedId s
  | _ => s.id

/-- A report bundle seen as a subject when it re-enters some node (`receive` or `SendBundle`);
creation timestamp, unknown blocks and receiver are whatever the environment chooses. -/
def Report.asSubject (r : Report) (time seq : Nat) (blocks : List Nat) (receiver : Eid) : Subject :=
  { flags := r.flags, source := r.source, destination := r.destination, reportTo := r.reportTo,
    time := time, seq := seq, blocks := blocks, receiver := receiver }

/-! ### Histories (for the no-cascade theorem) -/

/-- One step of a history: some node processes some subject along some flow. -/
structure Step where
  node : Node
  subject : Subject
  now : Nat
  flow : Flow
deriving Repr

def Step.reports (cfg : Cfg) (e : Step) : List Report :=
  flowReports cfg e.node e.subject e.now e.flow

/-- All reports emitted along a history. -/
def runHistory (cfg : Cfg) (h : List Step) : List Report :=
  h.flatMap (Step.reports cfg)

/-- Number of (outcome-level) events of a history whose subject is not an administrative record. -/
def nonAdminEvents (h : List Step) : Nat :=
  (h.map fun e => if e.subject.admin then 0 else (flowOutcomes e.subject e.flow).length).sum

/-! ## Spec — independent of the model

Events are what an observer of the node can establish without looking at the report code: the
bundle was handed to `receive` with a new ID; it carries a block of a type the node does not know;
a convergence layer accepted it; an application agent got it; the node dropped it. -/

inductive Event where
  | received
  | unsupportedBlock (flags : Nat)
  | forwarded
  | delivered
  | deleted (reason : Nat)
deriving DecidableEq, Repr

/-- The events an outcome consists of (the meaning of the outcome names). -/
def eventsOf : Outcome → List Event
  | .received => [.received]
  | .unknownBlock f =>
    [.received, .unsupportedBlock f] ++ (if has f bfDelete then [.deleted rBlockUnsupported] else [])
  | .deliveredAgent => [.delivered]
  | .noAgent => []
  | .forwarded => [.forwarded]
  | .allFailed => []
  | .lifetimeExpired => [.deleted rLifetimeExpired]
  | .hopExceeded => [.deleted rHopLimitExceeded]
  | .foreignSource => [.deleted rNoInformation]
  | .notDispatched => []

def flowEvents (s : Subject) (fl : Flow) : List Event :=
  (flowOutcomes s fl).flatMap eventsOf

def isDeleted : Event → Bool
  | .deleted _ => true
  | _ => false

def blockWantsReport : Event → Bool
  | .unsupportedBlock f => has f bfReport
  | _ => false

/-- Did the event a status position stands for happen? -/
def happened (evs : List Event) (p : Nat) : Bool :=
  match p with
  | 0 => evs.contains .received
  | 1 => evs.contains .forwarded
  | 2 => evs.contains .delivered
  | 3 => evs.any isDeleted
  | _ => false

/-- Was a report about that position requested — by the bundle's flag or, for reception, by an
unsupported block's "report if unprocessable" flag? -/
def requested (s : Subject) (evs : List Event) (p : Nat) : Bool :=
  match p with
  | 0 => has s.flags fReqReception || evs.any blockWantsReport
  | 1 => has s.flags fReqForward
  | 2 => has s.flags fReqDelivery
  | 3 => has s.flags fReqDeletion
  | _ => false

/-- Positions of the asserted items. -/
def assertedAt : Nat → List Item → List Nat
  | _, [] => []
  | i, it :: rest => if it.asserted then i :: assertedAt (i + 1) rest else assertedAt (i + 1) rest

def assertedPositions (r : Report) : List Nat := assertedAt 0 r.items

/-- Every item carries a time exactly if it is asserted and the subject requested times. -/
def timesOk (reqTime : Bool) (items : List Item) : Bool :=
  items.all fun it => it.time.isSome == (it.asserted && reqTime)

/-- Number of events (received, unsupported block, forwarded, delivered, deleted) that happened to
non-administrative subjects along a history. -/
def nonAdminEventCount (h : List Step) : Nat :=
  (h.map fun e => if e.subject.admin then 0 else (flowEvents e.subject e.flow).length).sum

/-- The bundle ID without the fragment fields. -/
def BundleId.scrub (i : BundleId) : BundleId := { i with frag := none }

/-- **`ReportJustified`**: the report `r`, observed at a node where the events `evs` happened to the
subject `s`, is what property C15 allows. -/
structure ReportJustified (s : Subject) (evs : List Event) (r : Report) : Prop where
  /-- no report about an administrative record -/
  subjectNotAdmin : s.admin = false
  /-- the report is an administrative record … -/
  isAdmin : has r.flags fAdmin = true
  /-- … without report-request flags -/
  noRequestFlags : has r.flags fReqAll = false
  /-- addressed to the subject's report-to endpoint -/
  toReportTo : r.destination = s.reportTo
  /-- names the subject's exact ID, fragment offset and length included -/
  exactId : r.ref = s.id
  /-- times only if requested (and then on the asserted item) -/
  times : timesOk s.reqTime r.items = true
  /-- exactly one status is asserted, it happened, and it was requested -/
  truthful : ∃ p, assertedPositions r = [p] ∧ happened evs p = true ∧ requested s evs p = true

def posName : Nat → String
  | 0 => "received"
  | 1 => "forwarded"
  | 2 => "delivered"
  | 3 => "deleted"
  | _ => "unknown-status"

/-- The executable form used by the driver: `none` if justified, otherwise the class of the first
failing clause. -/
def reportJustifiedFail (s : Subject) (evs : List Event) (r : Report) : Option String :=
  if s.admin then some "report-about-administrative-record"
  else if !has r.flags fAdmin then some "report-is-not-an-administrative-record"
  else if has r.flags fReqAll then some "report-carries-request-flags"
  else if r.destination ≠ s.reportTo then some "report-not-addressed-to-report-to"
  else if r.ref ≠ s.id then
    (if r.ref.scrub = s.id.scrub then some "report-ref-not-exact-id-fragment-fields-differ"
     else some "report-ref-not-exact-id")
  else if !timesOk s.reqTime r.items then
    (if s.reqTime then some "report-time-missing-though-requested"
     else some "report-time-present-though-not-requested")
  else
    match assertedPositions r with
    | [] => some "report-asserts-nothing"
    | [p] =>
      if !happened evs p then some ("reported-" ++ posName p ++ "-did-not-happen")
      else if !requested s evs p then some ("reported-" ++ posName p ++ "-not-requested")
      else none
    | _ => some "report-asserts-several-statuses"

/-- **`NoReportToSelf`** at the level of one observation: if the subject's report-to endpoint is an
endpoint of the observed node (`self`, established by the observer), nothing may be reported. -/
def noReportToSelfFail (self : Bool) (reports : List Report) : Option String :=
  if self && !reports.isEmpty then some "report-to-own-endpoint" else none

/-- **`NoCascade`** at the level of one observation: `n` = number of *new* administrative records
that appeared after a report bundle was fed back into a node. -/
def noCascadeFail (n : Nat) : Option String :=
  if n ≠ 0 then some "report-triggered-a-report" else none

/-- **`ReportComplete`** (the converse; correspondence, not part of the property statement): every
status that happened and was requested is asserted by some report — provided the guards allow
reporting at all (`allowed`). -/
def missingReports (s : Subject) (evs : List Event) (allowed : Bool) (reports : List Report) : List Nat :=
  if !allowed then [] else
  [0, 1, 2, 3].filter fun p =>
    happened evs p && requested s evs p && !reports.any (fun r => assertedPositions r == [p])

end Dtn7.Reports
