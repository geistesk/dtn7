/-
Model of pkg/routing/algorithm_prophet.go (PRoPHET routing), core-only and executable.

The arithmetic is parametric in the number type (`Ops α`): instantiated with exact rationals
(`ratOps`) and with the binary64 model of `Dtn7.Model.F64` (`f64Ops`, every operation is
`rne ∘ exact operation`, in the operation order of the Go expressions — Go on amd64 does not fuse
multiply-add).  The code that exists is mirrored, including its quirks:

* `encounter`:      pNew = pOld + ((1 − pOld) · PInit)          (a missing entry reads as 0, so the
                                                                 first encounter yields PInit)
* `agePred`:        pNew = pOld · Gamma                          one multiplication per cron tick
                                                                 (no power, no time units)
* `transitivity`:   pNew = pOld + ((((1 − pOld) · peerPred) · otherPeerPred) · Beta)
                    — the additive form, NOT `max(old, …)`; it runs over the received vector in
                    Go's (unspecified) map iteration order and re-reads `predictabilities[peer]` in
                    every iteration, so if the vector contains the sender itself the result depends
                    on the order: the model takes the order as the order of the list.
* `NotifyNewBundle`: a metadata bundle is imported only if addressed to this node; the stored vector
                    of the peer is replaced, then `transitivity(peer)`.
* `SenderForBundle`: metadata bundles → (nil, delete); otherwise every connected sender whose
                    `peerPredictabilities[peer][dest] > predictabilities[dest]` and which is not
                    yet in the bundle's sent list (the list grows while iterating).
Maps are association lists (first match wins; `mset` replaces in place or appends).
-/
import Dtn7.Model.F64

namespace Dtn7.Prophet

/-- The arithmetic the algorithm uses. `lt a b` is Go's `a < b`. -/
structure Ops (α : Type) where
  zero : α
  one : α
  add : α → α → α
  sub : α → α → α
  mul : α → α → α
  lt : α → α → Bool

/-- Exact rational arithmetic. -/
def ratOps : Ops Rat := ⟨0, 1, (· + ·), (· - ·), (· * ·), fun a b => decide (a < b)⟩

/-- binary64 arithmetic (values in units of 2^-1074, see `Dtn7.Model.F64`). -/
def f64Ops : Ops Int := ⟨0, F64.one, F64.fadd, F64.fsub, F64.fmul, fun a b => decide (a < b)⟩

section
variable {κ : Type} [DecidableEq κ] {α : Type}

/-- Go's `m[k]` on a `map[K]float64`: the zero value if absent. -/
def mget (z : α) : List (κ × α) → κ → α
  | [], _ => z
  | (k', v) :: t, k => if k' = k then v else mget z t k

/-- Go's `m[k] = v`. -/
def mset : List (κ × α) → κ → α → List (κ × α)
  | [], k, v => [(k, v)]
  | (k', v') :: t, k, v => if k' = k then (k, v) :: t else (k', v') :: mset t k v

def lookupVec : List (κ × List (κ × α)) → κ → Option (List (κ × α))
  | [], _ => none
  | (k', v) :: t, k => if k' = k then some v else lookupVec t k

def setVec : List (κ × List (κ × α)) → κ → List (κ × α) → List (κ × List (κ × α))
  | [], k, v => [(k, v)]
  | (k', v') :: t, k, v => if k' = k then (k, v) :: t else (k', v') :: setVec t k v

/-- `ProphetConfig` (the age interval is a cron period, not part of the arithmetic). -/
structure Cfg (α : Type) where
  pInit : α
  beta : α
  gamma : α

/-- `Prophet.predictabilities` and `Prophet.peerPredictabilities`. -/
structure St (κ α : Type) where
  own : List (κ × α) := []
  peers : List (κ × List (κ × α)) := []

/-- `pOld + ((1 - pOld) * prophet.config.PInit)` -/
def encounterVal (o : Ops α) (pInit pOld : α) : α :=
  o.add pOld (o.mul (o.sub o.one pOld) pInit)

/-- `pOld * prophet.config.Gamma` -/
def ageVal (o : Ops α) (gamma pOld : α) : α := o.mul pOld gamma

/-- `pOld + ((1 - pOld) * peerPred * otherPeerPred * prophet.config.Beta)` (products left to right) -/
def transVal (o : Ops α) (beta pOld peerPred otherPeerPred : α) : α :=
  o.add pOld (o.mul (o.mul (o.mul (o.sub o.one pOld) peerPred) otherPeerPred) beta)

/-- `Prophet.encounter(peer)` -/
def encounter (o : Ops α) (cfg : Cfg α) (st : St κ α) (peer : κ) : St κ α :=
  { st with own := mset st.own peer (encounterVal o cfg.pInit (mget o.zero st.own peer)) }

/-- `Prophet.ageCron()`: every entry once. -/
def ageAll (o : Ops α) (cfg : Cfg α) (st : St κ α) : St κ α :=
  { st with own := st.own.map fun kv => (kv.1, ageVal o cfg.gamma kv.2) }

/-- One iteration of the loop in `Prophet.transitivity`. -/
def transStep (o : Ops α) (cfg : Cfg α) (peer : κ) (own : List (κ × α)) (e : κ × α) : List (κ × α) :=
  mset own e.1 (transVal o cfg.beta (mget o.zero own e.1) (mget o.zero own peer) e.2)

/-- `Prophet.transitivity(peer)`; the peer's vector is traversed in list order. -/
def transitivity (o : Ops α) (cfg : Cfg α) (st : St κ α) (peer : κ) : St κ α :=
  match lookupVec st.peers peer with
  | none => st
  | some vec => { st with own := vec.foldl (transStep o cfg peer) st.own }

/-- The metadata branch of `Prophet.NotifyNewBundle`: `toMe` = the bundle's destination is this
node's id. -/
def receiveVec (o : Ops α) (cfg : Cfg α) (st : St κ α) (toMe : Bool) (peer : κ)
    (vec : List (κ × α)) : St κ α :=
  if toMe then transitivity o cfg { st with peers := setVec st.peers peer vec } peer else st

/-- What can happen to the tables. -/
inductive Ev (κ α : Type) where
  /-- `ReportPeerAppeared(peer)` -/
  | encounter (peer : κ)
  /-- a cron tick of `ageCron` -/
  | age
  /-- a metadata bundle from `peer` carrying `vec` arrived -/
  | receive (toMe : Bool) (peer : κ) (vec : List (κ × α))

def step (o : Ops α) (cfg : Cfg α) (st : St κ α) : Ev κ α → St κ α
  | .encounter p => encounter o cfg st p
  | .age => ageAll o cfg st
  | .receive toMe p vec => receiveVec o cfg st toMe p vec

def run (o : Ops α) (cfg : Cfg α) (st : St κ α) (evs : List (Ev κ α)) : St κ α :=
  evs.foldl (step o cfg) st

/-- `prophet.peerPredictabilities[peerID][destination]` (nil map and missing key read as 0). -/
def peerPred (o : Ops α) (st : St κ α) (peer dest : κ) : α :=
  match lookupVec st.peers peer with
  | none => o.zero
  | some vec => mget o.zero vec dest

/-- The loop of `SenderForBundle`. Returns the chosen senders (in order) and the grown sent list. -/
def chooseLoop (o : Ops α) (st : St κ α) (dest : κ) : List κ → List κ → List κ → List κ × List κ
  | [], chosen, sent => (chosen, sent)
  | cs :: rest, chosen, sent =>
    if o.lt (mget o.zero st.own dest) (peerPred o st cs dest) then
      if cs ∈ sent then chooseLoop o st dest rest chosen sent
      else chooseLoop o st dest rest (chosen ++ [cs]) (sent ++ [cs])
    else chooseLoop o st dest rest chosen sent

/-- `Prophet.SenderForBundle`: (senders, delete flag). `connected` = `claManager.Sender()` as peer
ids, `sent` = the bundle's `routing/prophet/sent` list. -/
def senderForBundle (o : Ops α) (st : St κ α) (isMeta : Bool) (dest : κ) (connected sent : List κ) :
    List κ × Bool :=
  if isMeta then ([], true) else ((chooseLoop o st dest connected [] sent).1, false)

/-- `Core.forward`'s choice: direct delivery if the destination node is connected, otherwise the
routing algorithm. -/
def forwardTargets (o : Ops α) (st : St κ α) (isMeta : Bool) (dest : κ) (connected sent : List κ) :
    List κ :=
  let direct := connected.filter (· = dest)
  if direct.isEmpty then (senderForBundle o st isMeta dest connected sent).1 else direct

/-! ### Spec side (decidable, independent of the model) -/

/-- Every chosen peer advertised a strictly greater predictability for the destination than the
node's own, and had not been sent the bundle. -/
def chosenOk (o : Ops α) (st : St κ α) (dest : κ) (sent chosen : List κ) : Bool :=
  chosen.all fun p => o.lt (mget o.zero st.own dest) (peerPred o st p dest) && !(sent.contains p)

end

/-- A binary64 value (units of 2^-1074) lies in [0, 1]. -/
def inUnit (v : Int) : Bool := decide (0 ≤ v) && decide (v ≤ F64.one)

/-- Spec: every held value lies in [0, 1]. -/
def allInUnit {κ : Type} (m : List (κ × Int)) : Bool := m.all fun kv => inUnit kv.2

/-! ### The arithmetic expressions as the extractor reads them from the source (post-order /
reverse Polish, see extract/c19.go): 0 = literal 1, 1 = pOld, 2 = the configuration constant,
3 = peerPred, 4 = otherPeerPred, 10 = +, 11 = −, 12 = ·. -/

def evalRpn {α : Type} (o : Ops α) (pOld cfgc peerP otherP : α) : List Nat → List α → Option α
  | [], [v] => some v
  | [], _ => none
  | 0 :: t, st => evalRpn o pOld cfgc peerP otherP t (o.one :: st)
  | 1 :: t, st => evalRpn o pOld cfgc peerP otherP t (pOld :: st)
  | 2 :: t, st => evalRpn o pOld cfgc peerP otherP t (cfgc :: st)
  | 3 :: t, st => evalRpn o pOld cfgc peerP otherP t (peerP :: st)
  | 4 :: t, st => evalRpn o pOld cfgc peerP otherP t (otherP :: st)
  | 10 :: t, b :: a :: st => evalRpn o pOld cfgc peerP otherP t (o.add a b :: st)
  | 11 :: t, b :: a :: st => evalRpn o pOld cfgc peerP otherP t (o.sub a b :: st)
  | 12 :: t, b :: a :: st => evalRpn o pOld cfgc peerP otherP t (o.mul a b :: st)
  | _ :: _, _ => none

end Dtn7.Prophet
