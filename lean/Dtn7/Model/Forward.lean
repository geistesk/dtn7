/-
Model of bundle forwarding (C06)
  pkg/routing/processing.go            Core.receive (unknown blocks), Core.forward (first half + hop reset)
  pkg/routing/bundle_descriptor.go     UpdateBundleAge
  pkg/routing/core.go                  checkPendingBundles (every retry reloads the stored bundle)
  pkg/bpv7/extension_block_hop_count.go  Increment / IsExceeded / Decrement on uint8
  pkg/bpv7/bundle.go                   IsLifetimeExceeded, AddExtensionBlock, sortBlocks

Core-only; used by the driver `drv_c06` and by `Dtn7.Props.C06`.

The bundle is a *structural* view: the primary block is opaque (its bytes plus the three fields the
forwarding decision reads), a canonical block is number / flags / CRC type / typed value.  The hop
count uses the machine type `UInt8` on purpose: the property is about the 255 boundary.
-/
namespace Dtn7.Forward

abbrev Bytes := List UInt8

/-- Block-type specific data. Which constructor is used is decided by the block type code, exactly
as `ExtensionBlockManager.createBlock` does: 10, 7, 6, 1 are always registered. -/
inductive Value where
  | hop (limit count : UInt8)
  | age (ms : Nat)                 -- `BundleAgeBlock uint64`
  | prevNode (eid : Bytes)
  | payload (data : Bytes)
  | other (type : Nat) (data : Bytes)
deriving DecidableEq, Repr

def Value.type : Value → Nat
  | .hop _ _ => 10
  | .age _ => 7
  | .prevNode _ => 6
  | .payload _ => 1
  | .other t _ => t

structure Block where
  num   : Nat
  flags : Nat
  crc   : Nat
  value : Value
deriving DecidableEq, Repr

def Block.type (b : Block) : Nat := b.value.type

structure Primary where
  raw      : Bytes   -- serialised primary block (opaque)
  created  : Nat     -- creation time, DTN milliseconds; 0 = "no clock"
  lifetime : Nat     -- milliseconds
  flags    : Nat
deriving DecidableEq, Repr

structure Bundle where
  primary : Primary
  blocks  : List Block
deriving DecidableEq, Repr

/-- Which variant of the code is modelled, one switch per defect: `fixed` (all three on) is the code of
/repo, as the extractor reports it; `original` has all three off. The witness theorems of
`Dtn7.Props.C06` switch off one at a time. -/
structure Cfg where
  ageInMs        : Bool   -- D19: `time.Since(ts).Milliseconds()` instead of `uint64(time.Since(ts))/1000`
  hopSaturates   : Bool   -- D20: `Increment` keeps 255 and reports "exceeded" instead of wrapping
  persistRemoval : Bool   -- D21: `receive` replaces the stored bundle after removing unknown blocks
deriving DecidableEq, Repr

def Cfg.fixed : Cfg := ⟨true, true, true⟩
def Cfg.original : Cfg := ⟨false, false, false⟩

/-! ### Block classes -/

def isHop (b : Block) : Bool := match b.value with | .hop _ _ => true | _ => false
def isAge (b : Block) : Bool := match b.value with | .age _ => true | _ => false
def isPrev (b : Block) : Bool := match b.value with | .prevNode _ => true | _ => false
def isPayload (b : Block) : Bool := match b.value with | .payload _ => true | _ => false
/-- hop count, bundle age, previous node: the blocks a forwarding node rewrites. -/
def isSpecial (b : Block) : Bool := isHop b || isAge b || isPrev b

/-- The type codes of the four block types every node registers (payload, previous node, bundle age,
hop count); `isKnown` below is `ExtensionBlockManager.IsKnown`: these plus whatever the active routing
algorithm registered. -/
def builtinTypes : List Nat := [1, 6, 7, 10]
def isKnown (known : List Nat) (t : Nat) : Bool := builtinTypes.contains t || known.contains t

/-- Block processing control flags. -/
def flagReport (f : Nat) : Bool := f.testBit 1    -- 0x02 StatusReportBlock
def flagDelete (f : Nat) : Bool := f.testBit 2    -- 0x04 DeleteBundle
def flagRemove (f : Nat) : Bool := f.testBit 4    -- 0x10 RemoveBlock

/-- Apply `f` to the first block satisfying `p` (`Bundle.ExtensionBlock` returns a pointer to the
first block of a type; the caller mutates it in place). -/
def mapFirst (p : Block → Bool) (f : Block → Block) : List Block → List Block
  | [] => []
  | b :: bs => if p b then f b :: bs else b :: mapFirst p f bs

def firstHop : List Block → Option (UInt8 × UInt8)
  | [] => none
  | b :: bs => match b.value with | .hop l c => some (l, c) | _ => firstHop bs

def firstAge : List Block → Option Nat
  | [] => none
  | b :: bs => match b.value with | .age a => some a | _ => firstAge bs

/-! ### Hop count block (`uint8` arithmetic) -/

/-- `HopCountBlock.Increment`: new count and the returned "exceeded". -/
def hopIncrement (cfg : Cfg) (limit count : UInt8) : UInt8 × Bool :=
  if cfg.hopSaturates && count == 255 then (count, true)
  else
    let c := count + 1
    (c, decide (c > limit))

def hopIsExceeded (limit count : UInt8) : Bool := decide (count > limit)
def hopDecrement (count : UInt8) : UInt8 := count - 1

def setHopCount (c : UInt8) (b : Block) : Block :=
  match b.value with | .hop l _ => { b with value := .hop l c } | _ => b
def setAge (a : Nat) (b : Block) : Block :=
  match b.value with | .age _ => { b with value := .age a } | _ => b
def setPrev (node : Bytes) (b : Block) : Block :=
  match b.value with | .prevNode _ => { b with value := .prevNode node } | _ => b

/-! ### `Bundle.AddExtensionBlock` -/

/-- Smallest number `≥ n` that is not used (the `for` loop of `AddExtensionBlock`). -/
def freeNumFuel : Nat → Nat → List Nat → Nat
  | 0, n, _ => n
  | fuel + 1, n, used => if used.contains n then freeNumFuel fuel (n + 1) used else n

def freeNum (start : Nat) (used : List Nat) : Nat := freeNumFuel (used.length + 1) start used

/-- `canonicalBlockNumberSort.Less`: ascending block numbers, number 1 (the payload) last. -/
def blkLess (a b : Block) : Bool :=
  if a.num == 1 then false else if b.num == 1 then true else decide (a.num < b.num)

def insertBlk (x : Block) : List Block → List Block
  | [] => [x]
  | y :: ys => if blkLess x y then x :: y :: ys else y :: insertBlk x ys

/-- `sort.Sort(canonicalBlockNumberSort(..))`. Go's sort is not stable; for pairwise different block
numbers (every valid bundle) the result is unique and equals this insertion sort. -/
def sortBlocks : List Block → List Block
  | [] => []
  | b :: bs => insertBlk b (sortBlocks bs)

def addExtensionBlock (bs : List Block) (b : Block) : List Block :=
  let start := if b.type == 1 then 1 else 2
  let n := freeNum start (bs.map (·.num))
  sortBlocks (bs ++ [{ b with num := n }])

/-! ### `Core.forward`, first half -/

inductive Refusal where
  | hopLimit      -- bundleDeletion(HopLimitExceeded)
  | lifetime      -- IsLifetimeExceeded ⇒ bundleDeletion(LifetimeExpired)
  | age           -- updated age ≥ lifetime ⇒ bundleDeletion(LifetimeExpired)
deriving DecidableEq, Repr

/-- `UpdateBundleAge`'s argument to `BundleAgeBlock.Increment`, from the residence time in ns. -/
def ageDelta (cfg : Cfg) (elapsedNs : Nat) : Nat :=
  if cfg.ageInMs then elapsedNs / 1000000 else elapsedNs / 1000

/-- `Bundle.IsLifetimeExceeded` at DTN time `now` (ms). -/
def isLifetimeExceeded (p : Primary) (bs : List Block) (now : Nat) : Bool :=
  if p.created == 0 then
    match firstAge bs with
    | none => true
    | some a => decide (a > p.lifetime)
  else decide (now > p.created + p.lifetime)

def stepHop (cfg : Cfg) (bs : List Block) : Except Refusal (List Block) :=
  match firstHop bs with
  | none => .ok bs
  | some (l, c) =>
    let r := hopIncrement cfg l c
    if r.2 then .error .hopLimit else .ok (mapFirst isHop (setHopCount r.1) bs)

def stepAge (cfg : Cfg) (lifetime : Nat) (elapsedNs : Nat) (bs : List Block) : Except Refusal (List Block) :=
  match firstAge bs with
  | none => .ok bs
  | some a =>
    let a' := (a + ageDelta cfg elapsedNs) % 2 ^ 64
    if a' ≥ lifetime then .error .age else .ok (mapFirst isAge (setAge a') bs)

def stepPrev (node : Bytes) (bs : List Block) : List Block :=
  if bs.any isPrev then mapFirst isPrev (setPrev node) bs
  else addExtensionBlock bs ⟨0, 0, 0, .prevNode node⟩

/-- What `forward` hands to every selected convergence sender, or why it deletes the bundle.
`elapsedNs` = `time.Since(descriptor.Timestamp)`, `now` = DTN time in ms. -/
def transform (cfg : Cfg) (node : Bytes) (b : Bundle) (elapsedNs now : Nat) : Except Refusal Bundle :=
  match stepHop cfg b.blocks with
  | .error e => .error e
  | .ok bs1 =>
    if isLifetimeExceeded b.primary bs1 now then .error .lifetime
    else
      match stepAge cfg b.primary.lifetime elapsedNs bs1 with
      | .error e => .error e
      | .ok bs2 => .ok { b with blocks := stepPrev node bs2 }

/-- After `wg.Wait()`: the hop count of the (shared) in-memory bundle is decremented again. -/
def afterSend (b : Bundle) : Bundle :=
  { b with blocks := match firstHop b.blocks with
      | none => b.blocks
      | some (_, c) => mapFirst isHop (setHopCount (hopDecrement c)) b.blocks }

/-! ### `Core.receive`: blocks of unknown type -/

/-- The loop runs from the last block to the first. Result: the remaining blocks (`none` = the
bundle is deleted) and the number of status reports requested. -/
def recvBlocks (known : List Nat) : List Block → Option (List Block) × Nat
  | [] => (some [], 0)
  | b :: rest =>
    match recvBlocks known rest with
    | (none, r) => (none, r)
    | (some rest', r) =>
      if isKnown known b.type then (some (b :: rest'), r)
      else
        let r' := if flagReport b.flags then r + 1 else r
        if flagDelete b.flags then (none, r')
        else if flagRemove b.flags then (some rest', r')
        else (some (b :: rest'), r')

/-! ### One bundle at one node: reception, then retries from the store

`store` is the serialised bundle in the store (`none` = not stored). `forward` never rewrites it:
the descriptor of a retry is created by `NewBundleDescriptor` without a bundle and loads the stored
bytes. Output of a run = the bundle offered to the convergence senders (`none` = nothing).
The bundle stays in the store after a transmission (epidemic-style `deleteAfterwards = false`; with
`true` there simply are no further runs). -/

def forward (cfg : Cfg) (node : Bytes) (mem : Bundle) (elapsedNs now : Nat) (store : Option Bundle) :
    Option Bundle × Option Bundle :=
  match transform cfg node mem elapsedNs now with
  | .ok s => (some s, store)
  | .error _ => (none, none)

/-- The processed in-memory bundle (`none` = deleted on reception). -/
def processed (known : List Nat) (acc : Bundle) : Option Bundle :=
  match (recvBlocks known acc.blocks).1 with
  | none => none
  | some bs => some { acc with blocks := bs }

def receive (cfg : Cfg) (known : List Nat) (node : Bytes) (acc : Bundle) (elapsedNs now : Nat) :
    Option Bundle × Option Bundle :=
  match processed known acc with
  | none => (none, none)
  | some mem => forward cfg node mem elapsedNs now (some (if cfg.persistRemoval then mem else acc))

/-- `ParseBundle` of the stored bytes ends in `CheckValid`, which contains `IsLifetimeExceeded`:
an expired stored bundle does not load, `dispatching` logs and returns. -/
def loadOk (b : Bundle) (now : Nat) : Bool := !isLifetimeExceeded b.primary b.blocks now

def retry (cfg : Cfg) (node : Bytes) (store : Option Bundle) (elapsedNs now : Nat) :
    Option Bundle × Option Bundle :=
  match store with
  | none => (none, none)
  | some st => if loadOk st now then forward cfg node st elapsedNs now (some st) else (none, some st)

def retries (cfg : Cfg) (node : Bytes) : Option Bundle → List (Nat × Nat) → List (Option Bundle) × Option Bundle
  | st, [] => ([], st)
  | st, (el, now) :: evs =>
    let r := retry cfg node st el now
    let rest := retries cfg node r.2 evs
    (r.1 :: rest.1, rest.2)

/-- Reception at `(el₀, now₀)` followed by retries: outputs of all runs and the final store. -/
def run (cfg : Cfg) (known : List Nat) (node : Bytes) (acc : Bundle) (first : Nat × Nat)
    (evs : List (Nat × Nat)) : List (Option Bundle) × Option Bundle :=
  let r := receive cfg known node acc first.1 first.2
  let rest := retries cfg node r.2 evs
  (r.1 :: rest.1, rest.2)

/-! ### Spec (independent of the model): what the property demands of a transmitted bundle -/

/-- Blocks the property requires to be passed on untouched: everything except hop count, bundle
age, previous node and the blocks owned by the active routing algorithm. -/
def plain (owned : List Nat) (bs : List Block) : List Block :=
  bs.filter (fun b => !isSpecial b && !owned.contains b.type)

/-- An unsupported block that asks to be removed. -/
def removable (known : List Nat) (b : Block) : Bool := !isKnown known b.type && flagRemove b.flags

def hopOk : List Block → List Block → Bool
  | [], [] => true
  | [a], [s] =>
    match a.value, s.value with
    | .hop l c, .hop l' c' =>
      s.num == a.num && s.flags == a.flags && s.crc == a.crc && l' == l &&
        c'.toNat == c.toNat + 1 && decide (c'.toNat ≤ l'.toNat)
    | _, _ => false
  | _, _ => false

/-- `elLo`/`elHi` bracket the residence time in nanoseconds; the block counts milliseconds. -/
def ageOk (elLo elHi : Nat) : List Block → List Block → Bool
  | [], [] => true
  | [a], [s] =>
    match a.value, s.value with
    | .age x, .age y =>
      s.num == a.num && s.flags == a.flags && s.crc == a.crc &&
        decide (x + elLo / 1000000 ≤ y) && decide (y ≤ x + elHi / 1000000)
    | _, _ => false
  | _, _ => false

/-- Exactly one previous-node block, naming this node; it keeps the place of the received one, or
is new with a number no other block of the transmitted bundle uses. -/
def prevOk (node : Bytes) (sentAll : List Block) : List Block → List Block → Bool
  | [], [s] => s.value == .prevNode node && (sentAll.filter (·.num == s.num)).length == 1
  | [a], [s] => s.value == .prevNode node && s.num == a.num && s.flags == a.flags && s.crc == a.crc
  | _, _ => false

structure FaithfulCopy (known owned : List Nat) (node : Bytes) (acc sent : Bundle) (elLo elHi : Nat) : Prop where
  primary : sent.primary = acc.primary
  payload : (sent.blocks.filter isPayload).Perm (acc.blocks.filter isPayload)
  others  : (plain owned sent.blocks).Perm ((plain owned acc.blocks).filter (fun b => !removable known b))
  hop     : hopOk (acc.blocks.filter isHop) (sent.blocks.filter isHop) = true
  age     : ageOk elLo elHi (acc.blocks.filter isAge) (sent.blocks.filter isAge) = true
  prev    : prevOk node sent.blocks (acc.blocks.filter isPrev) (sent.blocks.filter isPrev) = true

instance (known owned : List Nat) (node : Bytes) (acc sent : Bundle) (elLo elHi : Nat) :
    Decidable (FaithfulCopy known owned node acc sent elLo elHi) :=
  if h : sent.primary = acc.primary ∧
      (sent.blocks.filter isPayload).Perm (acc.blocks.filter isPayload) ∧
      (plain owned sent.blocks).Perm ((plain owned acc.blocks).filter (fun b => !removable known b)) ∧
      hopOk (acc.blocks.filter isHop) (sent.blocks.filter isHop) = true ∧
      ageOk elLo elHi (acc.blocks.filter isAge) (sent.blocks.filter isAge) = true ∧
      prevOk node sent.blocks (acc.blocks.filter isPrev) (sent.blocks.filter isPrev) = true
  then .isTrue ⟨h.1, h.2.1, h.2.2.1, h.2.2.2.1, h.2.2.2.2.1, h.2.2.2.2.2⟩
  else .isFalse (fun f => h ⟨f.primary, f.payload, f.others, f.hop, f.age, f.prev⟩)

/-- Which clause fails (for the `specfail` class), `none` = all hold. -/
def faithfulFail (known owned : List Nat) (node : Bytes) (acc sent : Bundle) (elLo elHi : Nat) : Option String :=
  if sent.primary != acc.primary then some "primary-block-differs"
  else if !(sent.blocks.filter isPayload).isPerm (acc.blocks.filter isPayload) then some "payload-block-differs"
  else if !(plain owned sent.blocks).isPerm ((plain owned acc.blocks).filter (fun b => !removable known b)) then
    (if ((plain owned sent.blocks).filter (removable known)).isEmpty then some "other-block-changed"
     else some "removable-unsupported-block-transmitted")
  else if !hopOk (acc.blocks.filter isHop) (sent.blocks.filter isHop) then
    (match firstHop acc.blocks with
     | some (_, c) => if c == 255 then some "hop-count-not-plus-one-at-255" else some "hop-count-not-plus-one"
     | none => some "hop-count-block-appeared")
  else if !ageOk elLo elHi (acc.blocks.filter isAge) (sent.blocks.filter isAge) then some "bundle-age-not-grown-by-residence-ms"
  else if !prevOk node sent.blocks (acc.blocks.filter isPrev) (sent.blocks.filter isPrev) then some "previous-node-block"
  else none

/-! The second sentence of the property: when a bundle must not be transmitted (and must go). -/

/-- The hop count would exceed its limit. -/
def hopWouldExceed (acc : Bundle) : Bool :=
  match firstHop acc.blocks with
  | none => false
  | some (l, c) => decide (c.toNat + 1 > l.toNat)

/-- Lifetime run out by creation time (`now` in DTN ms). -/
def expiredByCreation (acc : Bundle) (now : Nat) : Bool :=
  acc.primary.created != 0 && decide (now > acc.primary.created + acc.primary.lifetime)

/-- Lifetime run out by age, for a bundle without creation time; `elapsedNs` residence here. -/
def expiredByAge (acc : Bundle) (elapsedNs : Nat) : Bool :=
  acc.primary.created == 0 &&
    match firstAge acc.blocks with
    | none => false
    | some a => decide (a + elapsedNs / 1000000 > acc.primary.lifetime)

end Dtn7.Forward
