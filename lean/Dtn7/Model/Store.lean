/-
Model of the bundle store
  pkg/storage/store.go        (Store.Push / Update / Delete / DeleteExpired / QueryId / QueryPending / KnowsBundle)
  pkg/storage/bundle_item.go  (BundleItem.IsComplete / Load, BundlePart.storeBundle / deleteBundle / Load)

The durable state is `(index, files)`:
* `index`  — the badgerhold records `BundleItem`, keyed by the scrubbed bundle ID (an atomic durable
  map: trusted, see DESIGN §4), kept as an association list in insertion order;
* `files`  — one file per bundle part under `<dir>/bndl/`, named `sha256(full bundle id)`. File
  names are modelled by the pair (scrubbed id, fragment offset/total), i.e. SHA-256 is assumed to
  be collision free on the ids in use.

Every mutating operation is a *plan*: the list of durable micro-steps the Go code performs, in the
code's order, computed from the state the operation reads first (`QueryId`, and — for a fragment
whose offset and total are already stored — `BundlePart.Load` of the stored fragment). `exec` runs the whole
plan, `crash k` only its first `k` steps (process killed there), `reopen` is the identity on the
durable state. Bundles are opaque byte strings together with what the store reads from them (id,
fragment offset/total, payload length, expiry); the bundle parser is a parameter `parse` (property
C01), of which only "a reader positioned at the start of an encoded bundle returns that bundle,
whatever follows it" is used (`WF`): part files are opened without `O_TRUNC`.

Core-only; used by the driver `drv_c08` and by `Dtn7.Props.C08`.
-/
namespace Dtn7.Store

abbrev Bytes := List UInt8

/-! ### Association lists (first match wins; `put` replaces in place or appends) -/

section AList
variable {κ : Type} {α : Type} [DecidableEq κ]

def get (k : κ) : List (κ × α) → Option α
  | [] => none
  | (k', v) :: r => if k' = k then some v else get k r

def put (k : κ) (v : α) : List (κ × α) → List (κ × α)
  | [] => [(k, v)]
  | (k', v') :: r => if k' = k then (k, v) :: r else (k', v') :: put k v r

def del (k : κ) (l : List (κ × α)) : List (κ × α) := l.filter (fun e => !decide (e.1 = k))

def keys (l : List (κ × α)) : List κ := l.map (·.1)

end AList

/-! ### Data -/

/-- Scrubbed bundle ID: source node, creation time, sequence number. -/
structure Id where
  src : Nat
  ts  : Nat
  seq : Nat
deriving DecidableEq, Repr

/-- Fragment offset and total application data length, `none` for an unfragmented bundle. -/
abbrev Frag := Option (Nat × Nat)

/-- File name of a part: `sha256(BundleID.String())`, the string contains offset and total exactly for fragments. -/
structure Name where
  id   : Id
  frag : Frag
  /-- the temporary file `<name>.tmp` of `BundlePart.replaceBundle` -/
  tmp  : Bool := false
deriving DecidableEq, Repr

def tmpOf (n : Name) : Name := { n with tmp := true }

abbrev Props := List (String × String)

/-- What the store sees of a bundle. `bytes` is its CBOR encoding, `payLen` the length of its
payload block, `expires` = creation time + lifetime (`calcExpirationDate`, milliseconds). -/
structure Bundle where
  id      : Id
  frag    : Frag
  payLen  : Nat
  expires : Nat
  bytes   : Bytes
deriving DecidableEq, Repr

/-- `BundlePart`. -/
structure Part where
  name  : Name
  off   : Nat
  total : Nat
deriving DecidableEq, Repr

/-- `BundleItem` (the key `Id`/`BId` is the association-list key). -/
structure Item where
  pending    : Bool
  expires    : Nat
  fragmented : Bool
  parts      : List Part
  props      : Props
deriving DecidableEq, Repr

structure State where
  index : List (Id × Item)
  files : List (Name × Bytes)
deriving DecidableEq, Repr

def State.empty : State := ⟨[], []⟩

/-! ### Micro-steps -/

inductive Step where
  | writeFile  (n : Name) (d : Bytes)   -- os.OpenFile(O_WRONLY|O_CREATE) + WriteBundle: no truncation
  | removeFile (n : Name)               -- os.Remove (an error is only logged)
  | writeTmp   (n : Name) (d : Bytes)   -- replaceBundle: OpenFile(n.tmp, O_WRONLY|O_CREATE|O_TRUNC), write, close
  | renameTmp  (n : Name)               -- replaceBundle: os.Rename(n.tmp, n): atomic replacement
  | idxInsert  (id : Id) (it : Item)    -- badgerhold Insert: ErrKeyExists if present
  | idxUpdate  (id : Id) (it : Item)    -- badgerhold Update: ErrNotFound if absent
  | idxDelete  (id : Id)                -- badgerhold Delete
deriving DecidableEq, Repr

/-- Writing `d` at offset 0 of a file holding `old` without truncating it. -/
def overwrite (d old : Bytes) : Bytes := d ++ old.drop d.length

def applyStep (s : State) : Step → State
  | .writeFile n d  => { s with files := put n (overwrite d ((get n s.files).getD [])) s.files }
  | .removeFile n   => { s with files := del n s.files }
  | .writeTmp n d   => { s with files := put (tmpOf n) d s.files }
  | .renameTmp n    =>
    match get (tmpOf n) s.files with
    | some d => { s with files := put n d (del (tmpOf n) s.files) }
    | none => s
  | .idxInsert id it => if (get id s.index).isSome then s else { s with index := put id it s.index }
  | .idxUpdate id it => if (get id s.index).isSome then { s with index := put id it s.index } else s
  | .idxDelete id   => { s with index := del id s.index }

/-- Does the step succeed (no error returned by the file system / badgerhold)? -/
def stepOk (s : State) : Step → Bool
  | .writeFile _ _   => true
  | .removeFile n    => (get n s.files).isSome
  | .writeTmp _ _    => true
  | .renameTmp n     => (get (tmpOf n) s.files).isSome
  | .idxInsert id _  => (get id s.index).isNone
  | .idxUpdate id _  => (get id s.index).isSome
  | .idxDelete id    => (get id s.index).isSome

def runSteps (s : State) : List Step → State
  | [] => s
  | st :: r => runSteps (applyStep s st) r

/-- All steps succeed when run from `s`. -/
def stepsOk (s : State) : List Step → Bool
  | [] => true
  | st :: r => stepOk s st && stepsOk (applyStep s st) r

/-! ### Operations -/

def bOff (b : Bundle) : Nat := (b.frag.map (·.1)).getD 0
def bTotal (b : Bundle) : Nat := (b.frag.map (·.2)).getD 0

/-- `newBundleItem`'s part (offset and total are 0 for an unfragmented bundle). -/
def partOf (b : Bundle) : Part := ⟨⟨b.id, b.frag, false⟩, bOff b, bTotal b⟩

/-- `newBundleItem`. -/
def newItem (b : Bundle) : Item := ⟨false, b.expires, b.frag.isSome, [partOf b], []⟩

def fragKey (b : Bundle) : Nat × Nat := (bOff b, bTotal b)

/-- The stored part `p` has the offset and total of the pushed fragment `b`. -/
def sameFrag (b : Bundle) (p : Part) : Bool := (p.off, p.total) == fragKey b

inductive Op where
  | push    (b : Bundle)
  | update  (id : Id) (pending : Bool) (expires : Nat) (props : Props)  -- QueryId; modify; Store.Update
  | delete  (id : Id)
  | replace (b : Bundle)                                               -- Store.ReplaceBundle
deriving DecidableEq, Repr

section Plan
-- the bundle parser (`bpv7.ParseBundle`, property C01)
variable (parse : Bytes → Option Bundle)

/-- `BundlePart.Load`: open the file, parse one bundle from its start. -/
def loadPart (s : State) (p : Part) : Option Bundle := (get p.name s.files).bind parse

/-- `BundlePart.replaceBundle`: write `<name>.tmp`, rename it over `<name>`. -/
def replaceSteps (n : Name) (d : Bytes) : List Step := [.writeTmp n d, .renameTmp n]

/-- The micro-steps of one operation, in the code's order, from the state it reads first.

* `Push`: `QueryId`; unknown ⇒ write the part file, insert the item. Known and the pushed bundle is
  a fragment of a fragment record: if no part has this offset and total, write the part file, then
  update the item with `Parts ++ [part]`; if one has, load the stored fragment (from the file name
  derived from the pushed bundle's id) and, unless it loads with a payload at least as long as the
  pushed one, replace the file (temporary file, rename) — the index is not written. Known otherwise
  (a fragment for a stored whole bundle, a whole bundle for any record): ignored.
* `Update`: the callers' `QueryId`, change of `Pending`/`Expires`/`Properties`, `Store.Update`.
* `Delete`: `QueryId`; known ⇒ delete the index entry, then remove the file of each part.
* `ReplaceBundle`: `QueryId`; the first part with the bundle's offset and total (0, 0 for an
  unfragmented bundle) gets its file replaced; error (no step) otherwise. It takes no lock and
  writes no index entry: all it does is the atomic replacement of one file. -/
def plan (s : State) : Op → List Step
  | .push b =>
    match get b.id s.index with
    | none => [.writeFile (partOf b).name b.bytes, .idxInsert b.id (newItem b)]
    | some it =>
      if b.frag.isSome && it.fragmented then
        if it.parts.any (sameFrag b) then
          match loadPart parse s (partOf b) with
          | some st => if b.payLen ≤ st.payLen then [] else replaceSteps (partOf b).name b.bytes
          | none => replaceSteps (partOf b).name b.bytes
        else
          [.writeFile (partOf b).name b.bytes,
           .idxUpdate b.id { it with parts := it.parts ++ [partOf b] }]
      else []
  | .update id pending expires props =>
    match get id s.index with
    | none => []
    | some it => [.idxUpdate id { it with pending := pending, expires := expires, props := props }]
  | .delete id =>
    match get id s.index with
    | none => []
    | some it => .idxDelete id :: it.parts.map (fun p => .removeFile p.name)
  | .replace b =>
    match get b.id s.index with
    | none => []
    | some it =>
      match it.parts.find? (sameFrag b) with
      | none => []
      | some p => replaceSteps p.name b.bytes

def exec (s : State) (op : Op) : State := runSteps s (plan parse s op)

/-- The process is killed after the first `k` micro-steps of `op`. -/
def crash (k : Nat) (s : State) (op : Op) : State := runSteps s ((plan parse s op).take k)

end Plan

/-- `Delete`'s micro-steps in the other order (files first, index entry last), which is not /repo's;
the witness of D31 in `Dtn7.Props.C08` runs it. -/
def planDeleteFilesFirst (s : State) (id : Id) : List Step :=
  match get id s.index with
  | none => []
  | some it => it.parts.map (fun p => .removeFile p.name) ++ [.idxDelete id]

/-- `Close` + `NewStore` on the same directory. -/
def reopen (s : State) : State := s

/-- Ids `DeleteExpired` finds at time `now` (`Where("Expires").Lt(now)`). -/
def expiredIds (s : State) (now : Nat) : List Id :=
  keys (s.index.filter (fun e => decide (e.2.expires < now)))

/-- Commands of a history. -/
inductive Cmd where
  | op (o : Op)
  | sweep (now : Nat)
  | reopen
deriving DecidableEq, Repr

section Run
variable (parse : Bytes → Option Bundle)

/-- `DeleteExpired`: one `Delete` per found item. -/
def sweep (s : State) (now : Nat) : State :=
  (expiredIds s now).foldl (fun s id => exec parse s (.delete id)) s

def step (s : State) : Cmd → State
  | .op o => exec parse s o
  | .sweep now => sweep parse s now
  | .reopen => reopen s

def run (s : State) (cs : List Cmd) : State := cs.foldl (step parse) s

end Run

/-! ### Queries -/

def queryId (s : State) (id : Id) : Option Item := get id s.index

def knows (s : State) (id : Id) : Bool := (queryId s id).isSome

def queryPending (s : State) : List (Id × Item) := s.index.filter (fun e => e.2.pending)

section Read
variable (parse : Bytes → Option Bundle)

def loadParts (s : State) : List Part → Option (List Bundle)
  | [] => some []
  | p :: r =>
    match loadPart parse s p, loadParts s r with
    | some b, some bs => some (b :: bs)
    | _, _ => none

/-- A bundle the store can be given: the parser returns `b` from a reader positioned at the start
of `b.bytes`, whatever follows; and a fragment has a positive total length.
(`bpv7.ParseBundle` also validates: a bundle whose lifetime is exceeded at read time is rejected. That
is not modelled: `WF` says nothing about expiry; the store's `Expires` field is independent of it and
is what the expiry sweep looks at.) -/
def WF (b : Bundle) : Prop :=
  (∀ rest, parse (b.bytes ++ rest) = some b) ∧ ∀ o t, b.frag = some (o, t) → 0 < t

end Read

/-! ### Reassembly check (`bpv7.prepareReassembly`) -/

def insertByOff (b : Bundle) : List Bundle → List Bundle
  | [] => [b]
  | c :: r => if bOff b < bOff c then b :: c :: r else c :: insertByOff b r

/-- Insertion sort by fragment offset; fragments with equal offsets come out in reverse input order
(`sort.Slice` fixes no order for them either; it is only visible for two fragments with the same
offset, i.e. one contained in the other). -/
def sortByOff : List Bundle → List Bundle
  | [] => []
  | b :: r => insertByOff b (sortByOff r)

/-- The sweep over the sorted fragments: `none` on a gap, otherwise the end index reached.
`useMax = true` is the loop with the running end index *maximised* (the repair of D3),
`useMax = false` the loop that overwrites it with the current fragment's end. -/
def sweepEnd (useMax : Bool) : Nat → List (Nat × Nat) → Option Nat
  | last, [] => some last
  | last, (o, l) :: r =>
    if last < o then none else sweepEnd useMax (if useMax then max last (o + l) else o + l) r

def reassemblable (useMax : Bool) (bs : List Bundle) : Bool :=
  match sortByOff bs with
  | [] => false
  | b0 :: r =>
    (b0 :: r).all (fun b => b.frag.isSome) &&
      sweepEnd useMax 0 ((b0 :: r).map (fun b => (bOff b, b.payLen))) == some (bTotal b0)

section Read2
variable (parse : Bytes → Option Bundle)

/-- `BundleItem.IsComplete`. -/
def isComplete (useMax : Bool) (s : State) (it : Item) : Bool :=
  !it.fragmented ||
    match loadParts parse s it.parts with
    | some bs => reassemblable useMax bs
    | none => false

/-- `BundleItem.Load` of /repo succeeds (an unfragmented item with its single part is loaded
directly; everything else goes through `ReassembleFragments`, whose result is the subject of C10). -/
def loadable (useMax : Bool) (s : State) (it : Item) : Bool :=
  match it.fragmented, it.parts with
  | false, [p] => (loadPart parse s p).isSome
  | _, ps =>
    match loadParts parse s ps with
    | some bs => reassemblable useMax bs
    | none => false

/-- The variant of `BundleItem.Load` that always goes through `ReassembleFragments` (not /repo's; the
witness of D24 uses it). -/
def loadableD24 (useMax : Bool) (s : State) (it : Item) : Bool :=
  match loadParts parse s it.parts with
  | some bs => reassemblable useMax bs
  | none => false

end Read2

/-! ### Spec: a plain association map `Id ↦ Record` (independent of files and micro-steps) -/

structure Record where
  fragmented : Bool
  /-- (offset, total) ↦ what reads back: payload length and bytes (`none`: unreadable) -/
  parts      : List ((Nat × Nat) × Option (Nat × Bytes))
  pending    : Bool
  expires    : Nat
  props      : Props
deriving DecidableEq, Repr

abbrev SMap := List (Id × Record)

/-- What reads back after `b` was written. -/
def content (b : Bundle) : Option (Nat × Bytes) := some (b.payLen, b.bytes)

/-- Replace the content of the part(s) with key `k`. -/
def setPart (k : Nat × Nat) (v : Option (Nat × Bytes)) (ps : List ((Nat × Nat) × Option (Nat × Bytes))) :
    List ((Nat × Nat) × Option (Nat × Bytes)) :=
  ps.map (fun p => if p.1 = k then (k, v) else p)

/-- Does the pushed fragment `b` replace the stored one with content `c`? Yes unless the stored
one reads back with a payload at least as long. -/
def replaces (c : Option (Nat × Bytes)) (b : Bundle) : Bool :=
  match c with
  | some (l, _) => decide (l < b.payLen)
  | none => true

def hasKey (k : Nat × Nat) (ps : List ((Nat × Nat) × Option (Nat × Bytes))) : Bool :=
  ps.any (fun p => p.1 == k)

def specStep (m : SMap) : Cmd → SMap
  | .op (.push b) =>
    match get b.id m with
    | none => put b.id ⟨b.frag.isSome, [(fragKey b, content b)], false, b.expires, []⟩ m
    | some r =>
      if b.frag.isSome && r.fragmented then
        if hasKey (fragKey b) r.parts then
          -- same offset and total: the longer fragment wins
          if replaces ((r.parts.find? (fun p => p.1 == fragKey b)).bind (·.2)) b then
            put b.id { r with parts := setPart (fragKey b) (content b) r.parts } m
          else m
        else put b.id { r with parts := r.parts ++ [(fragKey b, content b)] } m
      else m
  | .op (.update id pending expires props) =>
    match get id m with
    | none => m
    | some r => put id { r with pending := pending, expires := expires, props := props } m
  | .op (.delete id) => del id m
  | .op (.replace b) =>
    match get b.id m with
    | none => m
    | some r =>
      if hasKey (fragKey b) r.parts then
        put b.id { r with parts := setPart (fragKey b) (content b) r.parts } m
      else m
  | .sweep now => m.filter (fun e => !decide (e.2.expires < now))
  | .reopen => m

def specRun (m : SMap) (cs : List Cmd) : SMap := cs.foldl specStep m

/-- The fragments cover the payload: every position below `total` lies in some fragment and no
fragment reaches beyond `total`. Intervals are (offset, length). -/
def Covers (ivs : List (Nat × Nat)) (total : Nat) : Prop :=
  ivs ≠ [] ∧ (∀ x, x < total → ∃ iv ∈ ivs, iv.1 ≤ x ∧ x < iv.1 + iv.2) ∧
    ∀ iv ∈ ivs, iv.1 + iv.2 ≤ total

instance (ivs : List (Nat × Nat)) (total : Nat) : Decidable (Covers ivs total) := by
  unfold Covers; infer_instance

/-- No fragment of the set is contained in another one (the sets on which the loops with and
without the repair of D3 agree): in offset order the ends increase strictly. -/
def noContained : List (Nat × Nat) → Bool
  | [] => true
  | [_] => true
  | (o, l) :: (o', l') :: r => o < o' && o + l < o' + l' && noContained ((o', l') :: r)

section Abs
variable (parse : Bytes → Option Bundle)

def absItem (s : State) (it : Item) : Record :=
  ⟨it.fragmented,
   it.parts.map (fun p => ((p.off, p.total), (loadPart parse s p).map (fun b => (b.payLen, b.bytes)))),
   it.pending, it.expires, it.props⟩

/-- Abstraction: what a reader of the store sees. -/
def abs (s : State) : SMap := s.index.map (fun e => (e.1, absItem parse s e.2))

end Abs

/-! ### Two concurrent pushes -/

/-- Thread of one `Push`. `idle`: not started. `busy steps`: has read the index (`QueryId`)
and — in the locked variant — holds the store mutex; `steps` are the micro-steps still to do.
`done`: returned (mutex released). -/
inductive TState where
  | idle
  | busy (steps : List Step)
  | done
deriving DecidableEq, Repr

structure Conf where
  st : State
  t1 : TState
  t2 : TState
deriving DecidableEq, Repr

def TState.inside : TState → Bool
  | .busy _ => true
  | _ => false

section Sched
variable (parse : Bytes → Option Bundle)

/-- One scheduling decision for a thread pushing `b`; `other` is the other thread's state.
With `locked`, a thread that wants to start while the other one is inside its critical section
does not move (it is blocked in `mutex.Lock`). The first move of a thread is `QueryId` (and
`Lock`, and the `Load` of the replace-if-longer branch), which fixes its plan; the following moves
are its micro-steps; the move on an empty plan is the return (and `Unlock`). -/
def tstep (locked : Bool) (b : Bundle) (s : State) (me other : TState) : State × TState :=
  match me with
  | .idle => if locked && other.inside then (s, .idle) else (s, .busy (plan parse s (.push b)))
  | .busy [] => (s, .done)
  | .busy (x :: r) => (applyStep s x, .busy r)
  | .done => (s, .done)

/-- A schedule is a list of thread choices (`false` = thread 1, `true` = thread 2). -/
def cstep (locked : Bool) (b1 b2 : Bundle) (c : Conf) (who : Bool) : Conf :=
  if who then
    let (s, t) := tstep parse locked b2 c.st c.t2 c.t1
    { c with st := s, t2 := t }
  else
    let (s, t) := tstep parse locked b1 c.st c.t1 c.t2
    { c with st := s, t1 := t }

def runSched (locked : Bool) (b1 b2 : Bundle) (s : State) (sched : List Bool) : Conf :=
  sched.foldl (cstep parse locked b1 b2) ⟨s, .idle, .idle⟩

end Sched

def Conf.finished (c : Conf) : Bool := c.t1 == .done && c.t2 == .done

end Dtn7.Store
