/-
IEEE-754 binary64 arithmetic on exact values (core-only, executable, no `Float`).

A finite double is an integer multiple of 2^-1074 (the smallest subnormal) — so a finite binary64
value `v` is represented EXACTLY by the integer `n` with `v = n · 2^-1074` ("units").  The set of
doubles is then  F = { ± m · 2^q | m < 2^53, q : Nat }  (bounded above by the overflow threshold
2^1024 = 2^2098 units, which the PRoPHET computations never approach: everything stays in [0, 1]).

Sums and differences of doubles are again integers in units of 2^-1074; the product of two doubles
is an integer in units of 2^-2148.  `rneNat x k` rounds the exact value `k · 2^-(1074+x)` to the
nearest double, ties to even, honouring the subnormal range (the quantum never drops below
2^-1074), and returns it in units of 2^-1074.  `fadd`, `fsub`, `fmul` are `rne ∘ exact operation`,
which is what IEEE-754 prescribes and what Go does on amd64 (no fused multiply-add).

Conversions `ofBits`/`toBits` connect to `math.Float64bits`, so the correspondence run compares the
model with the implementation bit for bit.

Domain limits (documented, not hidden): NaN, ±Inf and −0 have no representation (`ofBits = none`);
a result ≥ 2^1024 is not turned into +Inf (`toBits = none` there).
-/
namespace Dtn7.F64

/-- Number of fraction bits of the unit: a value `n : Int` denotes `n · 2^-1074`. -/
def unitBits : Nat := 1074

/-- The double 1.0 in units of 2^-1074. -/
def one : Int := 2 ^ 1074

/-- Number of binary digits of `n` (0 for 0). -/
def bitLen (n : Nat) : Nat := if n = 0 then 0 else Nat.log2 n + 1

/-- `k / 2^s` rounded to the nearest integer, ties to even. -/
def roundShift (k s : Nat) : Nat :=
  let n := k / 2 ^ s
  let r := k % 2 ^ s
  if 2 * r > 2 ^ s ∨ (2 * r = 2 ^ s ∧ n % 2 = 1) then n + 1 else n

/-- The shift (number of discarded low bits) binary64 applies to the exact value `k · 2^-(1074+x)`:
53 significant bits, but never a quantum below 2^-1074. -/
def shiftOf (x k : Nat) : Nat := max (bitLen k - 53) x

/-- Round-to-nearest-even of the exact non-negative value `k · 2^-(1074+x)` to binary64;
result in units of 2^-1074. -/
def rneNat (x k : Nat) : Nat :=
  roundShift k (shiftOf x k) * 2 ^ (shiftOf x k - x)

/-- Round-to-nearest-even of the exact value `k · 2^-(1074+x)` (sign-symmetric). -/
def rne (x : Nat) (k : Int) : Int :=
  if k < 0 then -((rneNat x k.natAbs : Nat) : Int) else ((rneNat x k.natAbs : Nat) : Int)

/-- binary64 addition. -/
def fadd (a b : Int) : Int := rne 0 (a + b)
/-- binary64 subtraction. -/
def fsub (a b : Int) : Int := rne 0 (a - b)
/-- binary64 multiplication (the exact product is in units of 2^-2148). -/
def fmul (a b : Int) : Int := rne 1074 (a * b)

/-- `n` units of 2^-1074 is a (non-negative, finite, overflow ignored) binary64 value. -/
def IsF64 (n : Nat) : Prop := ∃ m q : Nat, m < 2 ^ 53 ∧ n = m * 2 ^ q

/-- Executable version of `IsF64`. -/
def isF64 (n : Nat) : Bool := n % 2 ^ (bitLen n - 53) == 0

/-- Decode a `math.Float64bits` pattern. NaN, ±Inf, −0 → `none`. -/
def ofBits (b : Nat) : Option Int :=
  let sign := b / 2 ^ 63 % 2
  let e := b / 2 ^ 52 % 2 ^ 11
  let f := b % 2 ^ 52
  if b ≥ 2 ^ 64 ∨ e = 2047 ∨ (sign = 1 ∧ e = 0 ∧ f = 0) then none
  else
    let mag : Nat := if e = 0 then f else (2 ^ 52 + f) * 2 ^ (e - 1)
    some (if sign = 1 then -(mag : Int) else (mag : Int))

/-- Encode as a `math.Float64bits` pattern; `none` if the value is not a finite double. -/
def toBits (v : Int) : Option Nat :=
  let n := v.natAbs
  let s : Nat := if v < 0 then 2 ^ 63 else 0
  let l := bitLen n
  if l ≤ 52 then some (s + n)
  else
    let e := l - 52
    if e > 2046 ∨ n % 2 ^ (e - 1) ≠ 0 then none
    else some (s + e * 2 ^ 52 + (n / 2 ^ (e - 1) - 2 ^ 52))

end Dtn7.F64
