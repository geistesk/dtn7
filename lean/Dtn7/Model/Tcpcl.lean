/-
Model of TCPCLv4 bundle transfers
  pkg/cla/tcpclv4/internal/utils/transfer_out.go   (OutgoingTransfer.NextSegment)
  pkg/cla/tcpclv4/internal/utils/transfer_in.go    (IncomingTransfer.NextSegment / ToBundle)
  pkg/cla/tcpclv4/internal/utils/transfer_manager.go (handle demultiplexing, Send decision loop)

Core-only; used by the driver `drv_c11` and by `Dtn7.Props.C11`.
-/
namespace Dtn7.Tcpcl

abbrev Bytes := List UInt8

/-- One XFER_SEGMENT as far as the property is concerned. -/
structure Seg where
  start : Bool
  fin   : Bool
  data  : Bytes
deriving Repr, DecidableEq

/-- Outcome of one `OutgoingTransfer.NextSegment` call on the remaining stream.

`io.ReadFull(stream, buf[0:mtu])`:
* `mtu` bytes available          → full buffer, no error;
* `0 < n < mtu` bytes then EOF   → `io.ErrUnexpectedEOF`, the code sets END and truncates;
* `0` bytes then EOF             → `io.EOF`, returned to the caller as "transfer finished".
`nextSegment` takes the variant as its first argument: with `lookahead = true` (what /repo has, `Gen.C11.lookahead`)
the stream is peeked after a full read and END is set when nothing is left; `lookahead = false` is the code
without the peek (D12). -/
inductive Next where
  | seg (s : Seg) (rest : Bytes)
  | eof
deriving Repr, DecidableEq

def nextSegment (lookahead : Bool) (start : Bool) (rest : Bytes) (mtu : Nat) : Next :=
  if rest.length = 0 then .eof
  else if rest.length < mtu then .seg ⟨start, true, rest⟩ []
  else
    let r := rest.drop mtu
    .seg ⟨start, lookahead && r.length = 0, rest.take mtu⟩ r

/-- All segments of a transfer: the sender goroutine's loop in `TransferManager.Send`, i.e.
`nextSegment` iterated until `eof`. `fuel` bounds the number of iterations (every iteration with
`0 < mtu` consumes at least one byte, so `rest.length` iterations suffice). -/
def segmentsFuel (lookahead : Bool) (mtu : Nat) : Nat → Bool → Bytes → List Seg
  | 0, _, _ => []
  | fuel + 1, start, rest =>
    match nextSegment lookahead start rest mtu with
    | .eof => []
    | .seg s r => s :: segmentsFuel lookahead mtu fuel false r

def segments (lookahead : Bool) (mtu : Nat) (data : Bytes) : List Seg :=
  if 0 < mtu then segmentsFuel lookahead mtu data.length true data else []

/-- `NextSegment` limits the segment size to `MaxSegmentMtu` whatever the peer declared
(`cap = 0`: the code has no such limit). -/
def effMtu (cap mtu : Nat) : Nat := if cap = 0 then mtu else min mtu cap

/-- The train the sender emits for a peer-declared segment size `mtu`. -/
def segmentsCapped (lookahead : Bool) (cap mtu : Nat) (data : Bytes) : List Seg :=
  segments lookahead (effMtu cap mtu) data

/-! ### Spec (independent of the model): what the property demands of a segment train -/

def concatData : List Seg → Bytes
  | [] => []
  | s :: ss => s.data ++ concatData ss

/-- START exactly on the first element. -/
def startsOk : List Seg → Bool
  | [] => false
  | s :: ss => s.start && ss.all (fun t => !t.start)

/-- END exactly on the last element. -/
def endsOk : List Seg → Bool
  | [] => false
  | [s] => s.fin
  | s :: ss => !s.fin && endsOk ss

def SegmentsOk (data : Bytes) (m : Nat) (segs : List Seg) : Prop :=
  (∀ s ∈ segs, s.data.length ≤ m) ∧ concatData segs = data ∧ startsOk segs = true ∧ endsOk segs = true

instance (data : Bytes) (m : Nat) (segs : List Seg) : Decidable (SegmentsOk data m segs) := by
  unfold SegmentsOk; infer_instance

def segmentsOkB (data : Bytes) (m : Nat) (segs : List Seg) : Bool :=
  segs.all (fun s => s.data.length ≤ m) && concatData segs == data && startsOk segs && endsOk segs

/-- Which clause fails (for the `specfail` class). -/
def segmentsFail (data : Bytes) (m : Nat) (segs : List Seg) : Option String :=
  if segs.isEmpty then some "no-segment"
  else if !segs.all (fun s => s.data.length ≤ m) then some "segment-larger-than-mtu"
  else if concatData segs != data then some "concat-differs"
  else if !startsOk segs then some "start-flag"
  else if !endsOk segs then
    (if segs.all (fun s => !s.fin) then
      (if m ∣ data.length then some "no-end-flag-mtu-divides-length" else some "no-end-flag")
     else some "end-flag-misplaced")
  else none

/-! ### Receiver: `IncomingTransfer` -/

structure InT where
  fin : Bool := false
  buf : Bytes := []
deriving Repr, DecidableEq

inductive RxOut where
  | ack (len : Nat)
  | err
deriving Repr, DecidableEq

/-- `IncomingTransfer.NextSegment` (the transfer-id check is done by the demultiplexer). -/
def InT.next (t : InT) (s : Seg) : InT × RxOut :=
  if t.fin then (t, .err)
  else
    let t' : InT := { fin := s.fin, buf := t.buf ++ s.data }
    (t', .ack t'.buf.length)

/-- Feed a train into a fresh receiver: acks emitted, and the payload handed to the bundle
parser if (and when) END was seen. Segments after END are an error in the real code. -/
def receive : InT → List Seg → List RxOut × Option Bytes
  | t, [] => ([], if t.fin then some t.buf else none)
  | t, s :: ss =>
    let (t', o) := t.next s
    match o with
    | .err => ([.err], none)
    | .ack n =>
      if t'.fin then ([.ack n], some t'.buf)   -- handle(): ToBundle, delivered, entry deleted
      else
        let (os, r) := receive t' ss
        (.ack n :: os, r)

/-! ### Demultiplexer: `TransferManager.handle` for XFER_SEGMENT messages -/

structure Msg where
  tid : Nat
  seg : Seg
deriving Repr, DecidableEq

/-- Table of open incoming transfers (`inTransfers`), association list. -/
abbrev Table := List (Nat × InT)

def Table.get (t : Table) (k : Nat) : InT :=
  match t.find? (·.1 == k) with
  | some (_, v) => v
  | none => {}

def Table.set (t : Table) (k : Nat) (v : InT) : Table :=
  (k, v) :: t.filter (·.1 != k)

def Table.del (t : Table) (k : Nat) : Table := t.filter (·.1 != k)

/-- One step of `handle` on a data segment: delivered bundle bytes (if any). `none` = error exit. -/
def demuxStep (tab : Table) (m : Msg) : Option (Table × Option (Nat × Bytes)) :=
  let (t', o) := (tab.get m.tid).next m.seg
  match o with
  | .err => none
  | .ack _ => if t'.fin then some (tab.del m.tid, some (m.tid, t'.buf)) else some (tab.set m.tid t', none)

def demux : Table → List Msg → List (Nat × Bytes)
  | _, [] => []
  | tab, m :: ms =>
    match demuxStep tab m with
    | none => []
    | some (tab', d) =>
      match d with
      | some x => x :: demux tab' ms
      | none => demux tab' ms

/-! ### `TransferManager.Send` decision loop -/

inductive Ev where
  | allSent (l : Nat)     -- sender goroutine hit io.EOF after writing l bytes (lenChan)
  | ack (n : Nat)         -- XFER_ACK with acknowledged length n
  | refuse                -- XFER_REFUSE (any non-ack message on the feedback channel)
  | sendErr               -- errChan (read error / manager stopped)
  | timeout               -- 10 s without any event
deriving Repr, DecidableEq

inductive SendRes where
  | ok | error | blocked   -- blocked: event list exhausted, Send would still be waiting
deriving Repr, DecidableEq

def sendLoop : Nat → Nat → List Ev → SendRes
  | _, _, [] => .blocked
  | inLen, outLen, e :: es =>
    match e with
    | .sendErr => .error
    | .allSent l => if l = inLen then .ok else sendLoop inLen l es
    | .ack n => if outLen = n then .ok else sendLoop n outLen es
    | .refuse => .error
    | .timeout => .error

def send (evs : List Ev) : SendRes := sendLoop 0 0 evs

end Dtn7.Tcpcl
