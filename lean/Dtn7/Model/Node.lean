/-
Model of the node core (store-carry-forward) of dtn7
  pkg/routing/processing.go        SendBundle / transmit / receive / dispatching / forward /
                                   localDelivery / bundleContraindicated / bundleDeletion
  pkg/routing/bundle_descriptor.go NewBundleDescriptor(FromBundle) / Sync / PurgeConstraints
  pkg/routing/core.go              checkPendingBundles / senderForDestination / HasEndpoint / handler
  pkg/routing/algorithm.go         filterCLAs
  pkg/routing/algorithm_*.go       NotifyNewBundle / DispatchingAllowed / SenderForBundle / ReportFailure
                                   of epidemic, spray, binary_spray, prophet, dtlsr and the sensor-mule wrapper
  pkg/routing/id_keeper.go         IdKeeper.update
  pkg/storage/store.go             Push / Update / Delete / DeleteExpired / QueryPending
  pkg/storage/bundle_item.go       newBundleItem / calcExpirationDate

Bundles are abstract (bytes are other properties' business): identity (source, creation time, sequence
number), destination, previous node, lifetime, hop count block, age block, "unknown block that demands
deletion", binary-spray block.  `tag` names the concrete bundle (the harness puts it into the payload) so
that two different bundles with one ID can be told apart.

Environment: CLA send outcomes, the iteration order of `sync.Map.Range` in `cla.Manager.Sender()` and the
numeric routing decisions of PRoPHET / DTLSR (properties C19 / C20) are oracle arguments (`Env`).
Wall-clock time is the `now` field; it only advances with `cleanTick t`.

Core-only, executable; used by `drv_c05`, `drv_c13`, `Dtn7.Props.C05`, `Dtn7.Props.C13`.
-/
namespace Dtn7.Node

/-! ## Data -/

/-- An endpoint ID `dtn://<node>/<svc>`. `==` is Go's struct equality on `bpv7.EndpointID`
(what `filterCLAs` and the sent lists use); `sameNode` is `EndpointID.SameNode`. -/
structure Eid where
  node : Nat
  svc : Nat
deriving DecidableEq, Repr

def Eid.sameNode (a b : Eid) : Bool := a.node == b.node

/-- `bpv7.BundleID` of an unfragmented bundle = the store key (`BundleID.Scrub().String()`). -/
structure Key where
  src : Eid
  ts : Nat
  seq : Nat
deriving DecidableEq, Repr

structure Bundle where
  tag : Nat
  src : Eid
  /-- creation time in ms; `0` = source without a clock -/
  ts : Nat
  seq : Nat
  dst : Eid
  /-- previous node block -/
  prev : Option Eid
  lifetime : Nat
  /-- hop count block `(limit, count)` -/
  hop : Option (Nat × Nat)
  /-- bundle age block (ms) -/
  age : Option Nat
  /-- carries a block of unknown type whose flags demand deletion of the bundle -/
  delBlock : Bool
  /-- binary spray block (remaining copies) -/
  bsCopies : Option Nat
deriving DecidableEq, Repr

def Bundle.key (b : Bundle) : Key := ⟨b.src, b.ts, b.seq⟩

/-- Retention constraints (`constraint.go`), a set. -/
structure Cons where
  dp : Bool   -- DispatchPending
  fp : Bool   -- ForwardPending
  rp : Bool   -- ReassemblyPending_
  ci : Bool   -- Contraindicated
  le : Bool   -- LocalEndpoint
deriving DecidableEq, Repr

def Cons.empty : Cons := ⟨false, false, false, false, false⟩
def Cons.isEmpty (c : Cons) : Bool := !(c.dp || c.fp || c.rp || c.ci || c.le)
/-- `PurgeConstraints`: everything except LocalEndpoint. -/
def Cons.purge (c : Cons) : Cons := { Cons.empty with le := c.le }
/-- The pending rule of `BundleDescriptor.Sync`. -/
def Cons.pendingRule (c : Cons) : Bool := !c.rp && (c.fp || c.ci)

/-- The properties of a store item that belong to the routing algorithms. -/
structure Routing where
  /-- `Properties["routing/epidemic/destination"]` -/
  epiDst : Option Eid
  /-- `Properties["routing/epidemic/sent"]`, `…/prophet/sent`, `…/dtlsr/sent` -/
  sentE : List Eid
  sentP : List Eid
  sentD : List Eid
deriving DecidableEq, Repr

def Routing.empty : Routing := ⟨none, [], [], []⟩

/-- `storage.BundleItem` as far as routing uses it. -/
structure Item where
  /-- the bundle whose serialisation is in the part file -/
  bundle : Bundle
  pending : Bool
  expires : Nat
  /-- `Properties["bundlepack/constraints"]` (absent = empty) -/
  cons : Cons
  /-- `Properties["bundlepack/receiver"]` (absent / dtn:none = none) -/
  receiver : Option Eid
  rt : Routing
deriving DecidableEq, Repr

/-- The store index: an association list in insertion order. -/
abbrev Store := List (Key × Item)

def Store.get : Store → Key → Option Item
  | [], _ => none
  | (k', it) :: s, k => if k' = k then some it else Store.get s k

def Store.set : Store → Key → Item → Store
  | [], k, it => [(k, it)]
  | (k', it') :: s, k, it => if k' = k then (k, it) :: s else (k', it') :: Store.set s k it

def Store.erase : Store → Key → Store
  | [], _ => []
  | (k', it') :: s, k => if k' = k then Store.erase s k else (k', it') :: Store.erase s k

/-- A connected convergence sender: its address (unique per CLA) and the peer's endpoint ID. -/
structure Peer where
  addr : Nat
  eid : Eid
deriving DecidableEq, Repr

inductive Algo where
  | epidemic | spray | binarySpray | prophet | dtlsr
deriving DecidableEq, Repr

structure Cfg where
  /-- own node number (`Core.NodeId = dtn://<self>/`) -/
  self : Nat
  algo : Algo
  /-- wrapped into `SensorNetworkMuleRouting` -/
  mule : Bool
  /-- node numbers matched by the sensor-node regular expression -/
  sensorNodes : List Nat
  /-- `SprayConfig.Multiplicity` -/
  sprayL : Nat
  /-- DTLSR broadcast address -/
  bcast : Eid
  /-- code variant: `SendBundle` assigns the sequence number before it creates the descriptor
      (D17 repaired); `false` = `transmit` assigns it afterwards -/
  seqFirst : Bool
  /-- code variant: `SendBundle` skips sequence numbers whose bundle ID is still in the store
      (/repo 43cf7bc; `false` = the number of the IdKeeper is used as it is). Only with `seqFirst`. -/
  skipStored : Bool
  /-- code variant: `calcExpirationDate` counts from reception when the creation time is zero
      (D22 repaired) -/
  expiryNow : Bool
  /-- code variant: `DTLSR.ReportFailure` removes the peer from the sent list of a broadcast bundle
      (`false` = the original empty function) -/
  dtlsrFail : Bool
  /-- code variant: `Core.dispatching` marks a bundle contraindicated when the routing algorithm does
      not allow its dispatching (`false` = the original code just returns) -/
  holdFix : Bool
  /-- code variant: the gate of epidemic routing lets a bundle through whose destination is a directly
      connected peer, whatever its sent list says (`false` = the original gate, which keeps a bundle that
      came from its own destination away from that destination) -/
  gateDirect : Bool := false
deriving DecidableEq, Repr

/-- `sprayMetaData` (in memory only). -/
structure SprayMeta where
  sent : List Eid
  copies : Nat
deriving DecidableEq, Repr

structure Node where
  cfg : Cfg
  store : Store
  /-- active convergence senders, in registration order -/
  peers : List Peer
  /-- `SprayAndWait.bundleData` / `BinarySpray.bundleData` -/
  spray : List (Key × SprayMeta)
  /-- `IdKeeper.data` -/
  idk : List ((Eid × Nat) × Nat)
  /-- environment bookkeeping: number of `Send` calls so far per (CLA address, bundle tag, sequence number),
      i.e. per CLA and concrete bundle on the wire -/
  attempts : List ((Nat × Nat × Nat) × Nat)
  now : Nat
  /-- number of events processed so far (index into `Env.prefer`) -/
  evNo : Nat
deriving DecidableEq, Repr

/-- The environment's choices. -/
structure Env where
  /-- answer of CLA `addr` to its `n`-th `Send` of one concrete bundle (tag and sequence number) made from the
      definition `tag` (the mock CLA's script) -/
  sendOk : Nat → Nat → Nat → Bool
  /-- iteration order of `Manager.Sender()` while the bundle with this key is processed in event
      number `evNo`: addresses listed here come first (in this order), the others follow -/
  prefer : Nat → Key → List Nat
  /-- PRoPHET: "the peer's predictability for the destination exceeds ours";
      DTLSR: "the routing table names this peer as next hop for the destination" -/
  cand : Eid → Bundle → Bool

inductive Event where
  | submit (b : Bundle)
  | receive (b : Bundle) (receiver : Option Eid)
  | peerUp (p : Peer)
  | peerDown (addr : Nat)
  | retryTick
  | cleanTick (now : Nat)
  | restart
deriving DecidableEq, Repr

inductive Output where
  /-- `ConvergenceSender.Send` of this CLA was called with this bundle and answered `ok` -/
  | sent (p : Peer) (b : Bundle) (ok : Bool)
  /-- the item with this key was in the store before the event and is not afterwards -/
  | deleted (k : Key)
deriving DecidableEq, Repr

/-- `BundleDescriptor`: the copies handed around in processing.go share the constraint map and the
bundle pointer, so one value threaded through the calls is faithful. -/
structure Desc where
  key : Key
  receiver : Option Eid
  cons : Cons
  /-- `descriptor.bndl` (nil until `Bundle()` loads it from the store) -/
  bndl : Option Bundle
deriving DecidableEq, Repr

/-! ## Small helpers -/

def eraseFirst (e : Eid) : List Eid → List Eid
  | [] => []
  | x :: xs => if x = e then xs else x :: eraseFirst e xs

def lookupNat {α} [DecidableEq α] : List (α × Nat) → α → Option Nat
  | [], _ => none
  | (a, n) :: l, x => if a = x then some n else lookupNat l x

def setNat {α} [DecidableEq α] : List (α × Nat) → α → Nat → List (α × Nat)
  | [], x, n => [(x, n)]
  | (a, m) :: l, x, n => if a = x then (x, n) :: l else (a, m) :: setNat l x n

def lookupMeta : List (Key × SprayMeta) → Key → Option SprayMeta
  | [], _ => none
  | (a, m) :: l, k => if a = k then some m else lookupMeta l k

def setMeta : List (Key × SprayMeta) → Key → SprayMeta → List (Key × SprayMeta)
  | [], k, m => [(k, m)]
  | (a, m') :: l, k, m => if a = k then (k, m) :: l else (a, m') :: setMeta l k m

/-- `Core.HasEndpoint` for a node without application agents, listeners and convergence receivers
(the configuration the harness builds): only the node's own ID. -/
def hasEndpoint (c : Cfg) (e : Eid) : Bool := e.node == c.self

def Node.setItem (n : Node) (k : Key) (it : Item) : Node := { n with store := n.store.set k it }

/-- `QueryId` · modify · `Update`: nothing happens when the item does not exist. -/
def modItem (k : Key) (f : Item → Item) (n : Node) : Node :=
  match n.store.get k with
  | none => n
  | some it => n.setItem k (f it)

/-- A read-modify-write that only touches the routing properties. -/
def modRt (k : Key) (f : Routing → Routing) (n : Node) : Node :=
  modItem k (fun it => { it with rt := f it.rt }) n

/-! ## storage -/

/-- `calcExpirationDate`. The original code adds the lifetime to the creation time even when that
is zero (DTN epoch, year 2000); the repaired code counts from now, minus the age already accumulated. -/
def calcExpires (c : Cfg) (now : Nat) (b : Bundle) : Nat :=
  if c.expiryNow && b.ts == 0 then now + (b.lifetime - b.age.getD 0) else b.ts + b.lifetime

def newItem (c : Cfg) (now : Nat) (b : Bundle) : Item :=
  { bundle := b, pending := false, expires := calcExpires c now b, cons := Cons.empty,
    receiver := none, rt := Routing.empty }

/-- `Store.Push` (unfragmented bundles): insert if the ID is unknown, else ignore. -/
def push (b : Bundle) (n : Node) : Node :=
  match n.store.get b.key with
  | none => n.setItem b.key (newItem n.cfg n.now b)
  | some _ => n

def Store.keys (s : Store) : List Key := s.map (·.1)

/-- `Store.DeleteExpired`: find the items with `Expires < now`, delete each. -/
def expiredKeys (s : Store) (now : Nat) : List Key :=
  s.keys.filter fun k =>
    match s.get k with
    | some it => decide (it.expires < now)
    | none => false

def deleteExpired (n : Node) : Node :=
  { n with store := (expiredKeys n.store n.now).foldl Store.erase n.store }

/-! ## BundleDescriptor -/

/-- `NewBundleDescriptor`. -/
def newDesc (n : Node) (k : Key) : Desc :=
  match n.store.get k with
  | some it => { key := k, receiver := it.receiver, cons := it.cons, bndl := none }
  | none => { key := k, receiver := none, cons := Cons.empty, bndl := none }

/-- `BundleDescriptor.Sync`. -/
def sync (d : Desc) (n : Node) : Node :=
  match n.store.get d.key with
  | none =>
    match d.bndl with
    | some b => push b n
    | none => n
  | some it =>
    if d.cons.isEmpty then { n with store := n.store.erase d.key }
    else n.setItem d.key { it with pending := d.cons.pendingRule, receiver := d.receiver, cons := d.cons }

/-- `NewBundleDescriptorFromBundle`. -/
def newDescFromBundle (b : Bundle) (n : Node) : Desc × Node :=
  let d := { newDesc n b.key with bndl := some b }
  (d, sync d n)

def Node.setIdk (n : Node) (x : List ((Eid × Nat) × Nat)) : Node := { n with idk := x }

/-- `IdKeeper.update`: first bundle of a (source, time) pair gets 0, the next ones 1, 2, … -/
def idkUpdate (b : Bundle) (n : Node) : Bundle × Node :=
  let s := match lookupNat n.idk (b.src, b.ts) with
    | some v => v + 1
    | none => 0
  ({ b with seq := s }, n.setIdk (setNat n.idk (b.src, b.ts) s))

/-- The loop of `SendBundle`: while a bundle with this ID is in the store, take the next number of the
IdKeeper. `fuel` bounds the number of rounds; `n.store.length + 1` rounds always reach a free number
(`Dtn7.Node.idkSkip_spec`, `Dtn7.Node.assignSeq_free`), so the bound is never hit. -/
def idkSkip : Nat → Bundle → Node → Bundle × Node
  | 0, b, n => (b, n)
  | fuel + 1, b, n =>
    if (n.store.get b.key).isSome then
      let bn := idkUpdate b n
      idkSkip fuel bn.1 bn.2
    else (b, n)

/-- The first statements of `SendBundle`: `c.idKeeper.update(bndl)` and the loop over stored IDs. -/
def assignSeq (b : Bundle) (n : Node) : Bundle × Node :=
  let bn := idkUpdate b n
  if n.cfg.skipStored then idkSkip (n.store.length + 1) bn.1 bn.2 else bn

/-! ## Routing algorithms -/

/-- `Manager.Sender()` in the order the environment picked for this bundle in this event. -/
def arrange (pref : List Nat) (peers : List Peer) : List Peer :=
  let pref := pref.eraseDups
  pref.filterMap (fun a => peers.find? (fun p => p.addr == a)) ++
    peers.filter (fun p => !pref.contains p.addr)

def senders (env : Env) (n : Node) (k : Key) : List Peer :=
  arrange (env.prefer n.evNo k) n.peers

/-- `filterCLAs`: the senders whose endpoint ID is not in the sent list, and the extended list. -/
def filterCLAs : List Eid → List Peer → List Peer × List Eid
  | sent, [] => ([], sent)
  | sent, p :: ps =>
    if sent.contains p.eid then filterCLAs sent ps
    else
      let r := filterCLAs (sent ++ [p.eid]) ps
      (p :: r.1, r.2)

def isSensor (c : Cfg) (e : Eid) : Bool := c.sensorNodes.contains e.node

/-- `EpidemicRouting.NotifyNewBundle` on the routing properties. -/
def epiNotify (b : Bundle) (r : Routing) : Routing :=
  let r1 := if r.epiDst.isNone then { r with epiDst := some b.dst } else r
  match b.prev with
  | none => r1
  | some p => if r1.sentE.contains p then r1 else { r1 with sentE := r1.sentE ++ [p] }

/-- `NotifyNewBundle` of the configured algorithm for the descriptor key `k` and the in-memory bundle `b`. -/
def notifyNew (k : Key) (b : Bundle) (n : Node) : Node :=
  match n.cfg.algo with
  | .epidemic => modRt k (epiNotify b) n
  | .spray =>
    let m : SprayMeta :=
      if hasEndpoint n.cfg b.src then { sent := [], copies := n.cfg.sprayL }
      else { sent := b.prev.toList, copies := 1 }
    { n with spray := setMeta n.spray k m }
  | .binarySpray =>
    let m : SprayMeta :=
      match b.bsCopies with
      | some c => { sent := b.prev.toList, copies := c }
      | none =>
        -- without a block: originated here ⇒ the full multiplicity; a foreign bundle ⇒ one copy, previous node
        -- remembered (/repo: "binary spray: a relayed bundle without metadata block …")
        if hasEndpoint n.cfg b.src then { sent := [], copies := n.cfg.sprayL }
        else { sent := b.prev.toList, copies := 1 }
    { n with spray := setMeta n.spray k m }
  | .prophet =>
    match b.prev with
    | none => n
    | some p => modRt k (fun r => if r.sentP.contains p then r else { r with sentP := r.sentP ++ [p] }) n
  | .dtlsr =>
    match b.prev with
    | none => n
    | some p => modRt k (fun r => { r with sentD := r.sentD ++ [p] }) n

/-- `routing/epidemic/destination` names an endpoint of this node. -/
def epiLocal (c : Cfg) (it : Item) : Bool :=
  match it.rt.epiDst with
  | some e => hasEndpoint c e
  | none => false

/-- `len(c.senderForDestination(dst)) > 0` for the stored `routing/epidemic/destination`. -/
def epiDirect (n : Node) (it : Item) : Bool :=
  match it.rt.epiDst with
  | some e => n.peers.any (fun p => p.eid.sameNode e)
  | none => false

/-- `DispatchingAllowed`. Epidemic: allowed iff the bundle is for this node, (`gateDirect`) its destination
is a connected peer, or some connected sender is not in the sent list; when it says no it marks the item
pending itself. All others: always. -/
def dispatchingAllowed (env : Env) (d : Desc) (n : Node) : Bool × Node :=
  match n.cfg.algo with
  | .epidemic =>
    match n.store.get d.key with
    | none => (true, n)
    | some it =>
      if epiLocal n.cfg it then (true, n)
      else if n.cfg.gateDirect && epiDirect n it then (true, n)
      else if (filterCLAs it.rt.sentE (senders env n d.key)).1.isEmpty
      then (false, modItem d.key (fun it => { it with pending := true }) n)
      else (true, n)
  | _ => (true, n)

/-- The loop of `SprayAndWait.SenderForBundle`. -/
def sprayPick : SprayMeta → List Peer → List Peer × SprayMeta
  | m, [] => ([], m)
  | m, p :: ps =>
    if m.copies < 2 then ([], m)
    else if m.sent.contains p.eid then sprayPick m ps
    else
      let r := sprayPick { sent := m.sent ++ [p.eid], copies := m.copies - 1 } ps
      (p :: r.1, r.2)

/-- `ReportFailure` of the underlying algorithm. -/
def reportFailure (d : Desc) (p : Peer) (n : Node) : Node :=
  match n.cfg.algo with
  | .epidemic => modRt d.key (fun r => { r with sentE := eraseFirst p.eid r.sentE }) n
  | .spray =>
    match lookupMeta n.spray d.key with
    | none => n
    | some m =>
      -- only a peer found in the sent list (one chosen by `SenderForBundle`) gives its copy back
      let m' : SprayMeta :=
        { sent := eraseFirst p.eid m.sent, copies := if m.sent.contains p.eid then m.copies + 1 else m.copies }
      { n with spray := setMeta n.spray d.key m' }
  | .binarySpray =>
    match d.bndl.bind (·.bsCopies) with
    | none => n
    | some back =>
      match lookupMeta n.spray d.key with
      | none => n
      | some m =>
        -- the copies written into the bundle's block for this peer are taken back
        let m' : SprayMeta :=
          { sent := eraseFirst p.eid m.sent, copies := if m.sent.contains p.eid then m.copies + back else m.copies }
        { n with spray := setMeta n.spray d.key m' }
  | .prophet => modRt d.key (fun r => { r with sentP := eraseFirst p.eid r.sentP }) n
  | .dtlsr =>
    if n.cfg.dtlsrFail && (match d.bndl with | some b => decide (b.dst = n.cfg.bcast) | none => false) then
      modRt d.key (fun r => { r with sentD := eraseFirst p.eid r.sentD }) n
    else n

/-- `SenderForBundle` of the underlying algorithm: the chosen senders, the delete-afterwards flag,
the descriptor (binary spray writes its block into the in-memory bundle) and the new state. -/
def innerSenders (env : Env) (d : Desc) (b : Bundle) (n : Node) : List Peer × Bool × Desc × Node :=
  let all := senders env n d.key
  match n.cfg.algo with
  | .epidemic =>
    match n.store.get d.key with
    | none => ([], false, d, n)
    | some it =>
      let r := filterCLAs it.rt.sentE all
      (r.1, false, d, modRt d.key (fun rt => { rt with sentE := r.2 }) n)
  | .spray =>
    match lookupMeta n.spray d.key with
    | none => ([], false, d, n)
    | some m =>
      if m.copies < 2 then ([], false, d, n)
      else
        let r := sprayPick m all
        (r.1, false, d, { n with spray := setMeta n.spray d.key r.2 })
  | .binarySpray =>
    match lookupMeta n.spray d.key with
    | none => ([], false, d, n)
    | some m =>
      if m.copies < 2 then ([], false, d, n)
      else
        match all.find? (fun p => !m.sent.contains p.eid) with
        | none => ([], false, d, { n with spray := setMeta n.spray d.key m })
        | some p =>
          let sendCopies := m.copies / 2
          let m' : SprayMeta := { sent := m.sent ++ [p.eid], copies := m.copies - sendCopies }
          ([p], false, { d with bndl := some { b with bsCopies := some sendCopies } },
            { n with spray := setMeta n.spray d.key m' })
  | .prophet =>
    match n.store.get d.key with
    | none => ([], false, d, n)
    | some it =>
      let r := filterCLAs it.rt.sentP (all.filter (fun p => env.cand p.eid b))
      if r.1.isEmpty then ([], false, d, n)
      else (r.1, false, d, modRt d.key (fun rt => { rt with sentP := r.2 }) n)
  | .dtlsr =>
    if b.dst = n.cfg.bcast then
      match n.store.get d.key with
      | none => ([], false, d, n)
      | some it =>
        let r := filterCLAs it.rt.sentD all
        (r.1, false, d, modRt d.key (fun rt => { rt with sentD := r.2 }) n)
    else
      match all.find? (fun p => env.cand p.eid b) with
      | some p => ([p], true, d, n)
      | none => ([], false, d, n)

/-- The sensor-mule wrapper excludes a sender: a sensor node that the bundle was not received from. -/
def muleDrops (c : Cfg) (d : Desc) (p : Peer) : Bool :=
  isSensor c p.eid &&
    !(match d.receiver with
      | some e => p.eid.sameNode e
      | none => false)

/-- The filter loop of `SensorNetworkMuleRouting.SenderForBundle` (it walks the slice from the end):
every excluded sender is reported as a failure to the underlying algorithm. Returns the kept senders
and the state. -/
def muleFilter (d : Desc) : List Peer → Node → List Peer × Node
  | [], n => ([], n)
  | p :: ps, n =>
    let r := muleFilter d ps n
    if muleDrops n.cfg d p then (r.1, reportFailure d p r.2)
    else (p :: r.1, r.2)

/-- `c.routing.SenderForBundle`. -/
def sendersFor (env : Env) (d : Desc) (b : Bundle) (n : Node) : List Peer × Bool × Desc × Node :=
  let r := innerSenders env d b n
  if n.cfg.mule then
    let f := muleFilter r.2.2.1 r.1 r.2.2.2
    (f.1, r.2.1 && !f.1.isEmpty, r.2.2.1, f.2)
  else r

/-! ## processing.go -/

def bundleDeletion (d : Desc) (n : Node) : Node := sync { d with cons := d.cons.purge } n

def bundleContraindicated (d : Desc) (n : Node) : Node :=
  sync { d with cons := { d.cons with ci := true } } n

/-- `localDelivery` on a node without application agents: `Deliver` fails, the LocalEndpoint
constraint stays. -/
def localDelivery (d : Desc) (n : Node) : Node :=
  let d1 := { d with cons := { d.cons with le := true } }
  let n1 := sync d1 n
  sync { d1 with cons := d1.cons.purge } n1

def hopExceeded (b : Bundle) : Bool :=
  match b.hop with
  | some (limit, count) => decide (limit < count + 1)
  | none => false

/-- `Bundle.IsLifetimeExceeded`. -/
def lifetimeExceeded (now : Nat) (b : Bundle) : Bool :=
  if b.ts == 0 then
    match b.age with
    | none => true
    | some a => decide (b.lifetime < a)
  else decide (b.ts + b.lifetime < now)

/-- `UpdateBundleAge` followed by `age >= Lifetime` (the time spent on this node is taken as 0). -/
def ageExpired (b : Bundle) : Bool :=
  match b.age with
  | some a => decide (b.lifetime ≤ a)
  | none => false

def attemptNo (n : Node) (addr tag seq : Nat) : Nat := (lookupNat n.attempts (addr, tag, seq)).getD 0

/-- The per-sender goroutines of `forward`, run one after the other:
`Send`; on failure `routing.ReportFailure`. Returns the state, the outputs and `bundleSent`. -/
def sendAll (env : Env) (d : Desc) (b : Bundle) : List Peer → Node → Node × List Output × Bool
  | [], n => (n, [], false)
  | p :: ps, n =>
    let k := attemptNo n p.addr b.tag b.seq
    let ok := env.sendOk p.addr b.tag k
    let n1 := { n with attempts := setNat n.attempts (p.addr, b.tag, b.seq) (k + 1) }
    let n2 := if ok then n1 else reportFailure d p n1
    let r := sendAll env d b ps n2
    (r.1, Output.sent p b ok :: r.2.1, ok || r.2.2)

/-- The second half of `Core.forward`: transmit to the selected senders, then purge (delete) or mark
contraindicated. `r` = (senders, delete-afterwards, descriptor, state). -/
def forwardSend (env : Env) (b : Bundle) (r : List Peer × Bool × Desc × Node) : Node × List Output :=
  -- (the bundle handed to the CLAs is `r.2.2.1.bndl`: `b` with the hop count, previous node, age and spray
  -- blocks rewritten — the bytes are other properties' business; the outputs name the bundle `b`)
  let s := sendAll env r.2.2.1 b r.1 r.2.2.2
  if s.2.2 && r.2.1 then (sync { r.2.2.1 with cons := r.2.2.1.cons.purge } s.1, s.2.1)
  else (bundleContraindicated r.2.2.1 s.1, s.2.1)

/-- Direct delivery (`senderForDestination`) if a sender of the destination node is connected, else the
algorithm's choice. -/
def selectSenders (env : Env) (d : Desc) (b : Bundle) (n : Node) : List Peer × Bool × Desc × Node :=
  let direct := (senders env n d.key).filter (fun p => p.eid.sameNode b.dst)
  if direct.isEmpty then sendersFor env d b n else (direct, true, d, n)

/-- `Core.forward`. -/
def forward (env : Env) (d : Desc) (b : Bundle) (n : Node) : Node × List Output :=
  let d := { d with cons := { d.cons with fp := true, dp := false } }
  let n := sync d n
  if hopExceeded b then (bundleDeletion d n, [])
  else if lifetimeExceeded n.now b then (bundleDeletion d n, [])
  else if ageExpired b then (bundleDeletion d n, [])
  else forwardSend env b (selectSenders env d b n)

/-- `BundlePart.Load`: parsing ends with `CheckValid`, which refuses a bundle whose lifetime is over or
whose hop count exceeds its limit. -/
def loadable (now : Nat) (b : Bundle) : Bool :=
  !lifetimeExceeded now b &&
  (match b.hop with
   | some (limit, count) => !decide (limit < count)
   | none => true)

/-- `BundleDescriptor.Bundle`: the in-memory bundle, else the stored one. -/
def Desc.bundle (d : Desc) (n : Node) : Option Bundle :=
  match d.bndl with
  | some b => some b
  | none =>
    match n.store.get d.key with
    | some it => if loadable n.now it.bundle then some it.bundle else none
    | none => none

/-- `Core.dispatching`. -/
def dispatching (env : Env) (d : Desc) (n : Node) : Node × List Output :=
  let a := dispatchingAllowed env d n
  if !a.1 then ((if n.cfg.holdFix then bundleContraindicated d a.2 else a.2), [])
  else
    let n := a.2
    match d.bundle n with
    | none => (n, [])
    | some b =>
      let d := { d with bndl := some b }
      if hasEndpoint n.cfg b.dst then (localDelivery d n, [])
      else forward env d b n

/-- `Core.transmit`. -/
def transmit (env : Env) (d : Desc) (b : Bundle) (n : Node) : Node × List Output :=
  let bn := if n.cfg.seqFirst then (b, n) else idkUpdate b n
  let b := bn.1
  let d := { d with bndl := some b, cons := { d.cons with dp := true } }
  let n := sync d bn.2
  if !hasEndpoint n.cfg b.src then (bundleDeletion d n, [])
  else dispatching env d n

/-- `Core.SendBundle`. -/
def sendBundle (env : Env) (b : Bundle) (n : Node) : Node × List Output :=
  let bn := if n.cfg.seqFirst then assignSeq b n else (b, n)
  let dn := newDescFromBundle bn.1 bn.2
  let n := notifyNew dn.1.key bn.1 dn.2
  transmit env dn.1 bn.1 n

/-- The `cla.ReceivedBundle` case of `Core.handler` followed by `Core.receive`. -/
def receive (env : Env) (b : Bundle) (receiver : Option Eid) (n : Node) : Node × List Output :=
  let dn := newDescFromBundle b n
  let d := { dn.1 with receiver := receiver }
  let n := sync d dn.2
  if !d.cons.isEmpty then (n, [])
  else
    let d := { d with cons := { d.cons with dp := true } }
    let n := sync d n
    if b.delBlock then (bundleDeletion d n, [])
    else dispatching env d (notifyNew d.key b n)

/-- `Store.QueryPending`. -/
def pendingKeys (s : Store) : List Key :=
  s.keys.filter fun k =>
    match s.get k with
    | some it => it.pending
    | none => false

def dispatchKeys (env : Env) : List Key → Node → Node × List Output
  | [], n => (n, [])
  | k :: ks, n =>
    let r := dispatching env (newDesc n k) n
    let r' := dispatchKeys env ks r.1
    (r'.1, r.2 ++ r'.2)

/-- `Core.checkPendingBundles`. -/
def checkPending (env : Env) (n : Node) : Node × List Output :=
  dispatchKeys env (pendingKeys n.store) n

/-- Keys present before and absent afterwards. -/
def deletedKeys (before after : Store) : List Output :=
  (before.filter (fun kv => (after.get kv.1).isNone)).map (fun kv => Output.deleted kv.1)

def stepCore (env : Env) (n : Node) : Event → Node × List Output
  | .submit b => sendBundle env b n
  | .receive b r => receive env b r n
  | .peerUp p =>
    let n1 := if n.peers.any (fun q => q.addr == p.addr) then n else { n with peers := n.peers ++ [p] }
    checkPending env n1
  | .peerDown a => ({ n with peers := n.peers.filter (fun q => q.addr != a) }, [])
  | .retryTick => checkPending env n
  | .cleanTick t => (deleteExpired { n with now := t }, [])
  | .restart => ({ n with peers := [], spray := [], idk := [] }, [])

/-- One event. -/
def step (env : Env) (n : Node) (e : Event) : Node × List Output :=
  let r := stepCore env n e
  ({ r.1 with evNo := n.evNo + 1 }, r.2 ++ deletedKeys n.store r.1.store)

def init (c : Cfg) (now : Nat) : Node :=
  { cfg := c, store := [], peers := [], spray := [], idk := [], attempts := [], now := now, evNo := 0 }

/-- The state after a history. -/
def run (env : Env) (n : Node) : List Event → Node
  | [] => n
  | e :: es => run env (step env n e).1 es

/-- The history with the outputs and the state after every event. -/
def trace (env : Env) (n : Node) : List Event → List (Event × List Output × Node)
  | [] => []
  | e :: es =>
    let r := step env n e
    (e, r.2, r.1) :: trace env r.1 es

end Dtn7.Node
