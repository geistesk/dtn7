/-
Model of local delivery (property C07)
  pkg/agent/application_agent.go  (bagContainsEndpoint, AppAgentContainsEndpoint)
  pkg/agent/mux_agent.go          (MuxAgent.handle fan-out, Register, unregister, Endpoints)
  pkg/agent/rest_agent.go         (RestAgent: register, unregister, receiveBundleMessage, fetch, Endpoints)
  pkg/agent/ws_agent.go, ws_agent_client.go (WebSocketAgent = inner MuxAgent over web clients)
  pkg/agent/ping_agent.go         (PingAgent acknowledges every bundle it is handed)
  pkg/routing/agent_manager.go    (HasEndpoint, Deliver)
  pkg/routing/core.go             (Core.HasEndpoint)
  pkg/routing/processing.go       (receive: duplicate test, dispatching, localDelivery)

Core-only; used by the driver `drv_c07` and by `Dtn7.Props.C07`.
-/
namespace Dtn7.Delivery

/-! ## Data -/

/-- A `dtn://node/svc` endpoint identifier. Go compares `bpv7.EndpointID` values with `==` in
`bagContainsEndpoint` (both parts) and with `SameNode` (authority only) in `Core.HasEndpoint`. -/
structure Eid where
  node : String
  svc  : String
deriving DecidableEq, Repr, Inhabited

def Eid.sameNode (a b : Eid) : Bool := a.node == b.node

/-- What local delivery looks at. `tok` stands for the complete content (the harness resolves
received bytes to a token by exact lookup of the serialisation). -/
structure Bundle where
  tok         : Nat
  dest        : Eid
  reportTo    : Eid
  admin       : Bool := false   -- AdministrativeRecordPayload flag
  adminOk     : Bool := true    -- the payload parses as an administrative record (checkAdministrativeRecord)
  reqDelivery : Bool := false   -- StatusRequestDelivery flag
deriving DecidableEq, Repr, Inhabited

/-- Who can be handed a bundle: a ping agent, a mock/other agent, a REST client (agent, client
number ≙ uuid), a web socket client (agent, connection). -/
inductive Rcpt where
  | ping (a : Nat)
  | mock (a : Nat)
  | rest (a c : Nat)
  | ws   (a c : Nat)
deriving DecidableEq, Repr, Inhabited

/-! ## sync.Map as an association list -/

def aload {κ β : Type} [DecidableEq κ] (k : κ) : List (κ × β) → Option β
  | [] => none
  | (k', v) :: t => if k' = k then some v else aload k t

def astore {κ β : Type} [DecidableEq κ] (k : κ) (v : β) : List (κ × β) → List (κ × β)
  | [] => [(k, v)]
  | (k', v') :: t => if k' = k then (k, v) :: t else (k', v') :: astore k v t

def adelete {κ β : Type} [DecidableEq κ] (k : κ) (l : List (κ × β)) : List (κ × β) :=
  l.filter (fun e => e.1 ≠ k)

/-- Parameters that select the code variant / resolve its nondeterminism.
`rangeAll`: the `sync.Map.Range` callbacks in `RestAgent.receiveBundleMessage` and `Endpoints`
return `true` (the repaired code). With `false` (the code before the D14 repair) `Range` stops
after the first element it happens to visit; `pickE` / `pickR` say which one that is. -/
structure Cfg where
  rangeAll : Bool := true
  pickE    : Nat := 0
  pickR    : Nat := 0
deriving Repr

/-- The elements a `Range` loop visits. -/
def rangeVisit {α : Type} (all : Bool) (pick : Nat) (l : List α) : List α :=
  if all then l else (l[pick % l.length]?).toList

/-! ## RestAgent -/

structure Rest where
  clients : List (Nat × Eid) := []           -- uuid ↦ endpoint
  mailbox : List (Nat × List Bundle) := []   -- uuid ↦ undelivered bundles
deriving DecidableEq, Repr, Inhabited

def Rest.endpoints (cfg : Cfg) (ra : Rest) : List Eid :=
  (rangeVisit cfg.rangeAll cfg.pickE ra.clients).map (·.2)

/-- load, append, store of `receiveBundleMessage` for one client. -/
def putMailbox (mb : List (Nat × List Bundle)) (u : Nat) (b : Bundle) : List (Nat × List Bundle) :=
  astore u ((aload u mb).getD [] ++ [b]) mb

/-- The uuids `receiveBundleMessage` collects. -/
def Rest.matching (cfg : Cfg) (ra : Rest) (dest : Eid) : List Nat :=
  ((rangeVisit cfg.rangeAll cfg.pickR ra.clients).filter (fun c => c.2 = dest)).map (·.1)

def Rest.receive (cfg : Cfg) (ra : Rest) (b : Bundle) : Rest × List Nat :=
  let uuids := ra.matching cfg b.dest
  ({ ra with mailbox := uuids.foldl (fun mb u => putMailbox mb u b) ra.mailbox }, uuids)

def Rest.register (ra : Rest) (u : Nat) (ep : Eid) : Rest :=
  { ra with clients := astore u ep ra.clients }

def Rest.unregister (ra : Rest) (u : Nat) : Rest :=
  { clients := adelete u ra.clients, mailbox := adelete u ra.mailbox }

def Rest.fetch (ra : Rest) (u : Nat) : Rest × List Bundle :=
  match aload u ra.mailbox with
  | some l => ({ ra with mailbox := adelete u ra.mailbox }, l)
  | none => (ra, [])

/-! ## Agents behind the MuxAgent -/

inductive Agent where
  | ping (ep : Eid)
  | mock (eps : List Eid)
  | rest (ra : Rest)
  | ws (conns : List (Nat × Option Eid))   -- connection ↦ registered endpoint, if any
deriving DecidableEq, Repr, Inhabited

def Agent.endpoints (cfg : Cfg) : Agent → List Eid
  | .ping ep => [ep]
  | .mock eps => eps
  | .rest ra => ra.endpoints cfg
  | .ws conns => conns.flatMap (fun c => c.2.toList)     -- inner MuxAgent.Endpoints()

/-- `bagContainsEndpoint(bag, eids)`. -/
def bagContains (bag eids : List Eid) : Bool := bag.any (fun e => eids.contains e)

/-- What a child does with a `BundleMessage` it is handed: the resulting state and the hand-overs. -/
def Agent.receive (cfg : Cfg) (i : Nat) (a : Agent) (b : Bundle) : Agent × List (Rcpt × Bundle) :=
  match a with
  | .ping _ => (a, [(.ping i, b)])
  | .mock _ => (a, [(.mock i, b)])
  | .rest ra =>
    let r := ra.receive cfg b
    (.rest r.1, r.2.map (fun u => (.rest i u, b)))
  | .ws conns =>
    -- WebSocketAgent.handler passes the message to its inner MuxAgent, whose children are the clients
    (a, (conns.filter (fun c => bagContains c.2.toList [b.dest])).map (fun c => (.ws i c.1, b)))

structure Mux where
  children : List (Nat × Agent) := []
deriving DecidableEq, Repr, Inhabited

/-- `MuxAgent.handle` for a message with `Recipients() = [b.dest]`. -/
def deliverChildren (cfg : Cfg) (b : Bundle) :
    List (Nat × Agent) → List (Nat × Agent) × List (Rcpt × Bundle)
  | [] => ([], [])
  | (i, a) :: rest =>
    let r := deliverChildren cfg b rest
    if bagContains (a.endpoints cfg) [b.dest] then
      let x := a.receive cfg i b
      ((i, x.1) :: r.1, x.2 ++ r.2)
    else ((i, a) :: r.1, r.2)

def Mux.deliver (cfg : Cfg) (m : Mux) (b : Bundle) : Mux × List (Rcpt × Bundle) :=
  let r := deliverChildren cfg b m.children
  (⟨r.1⟩, r.2)

def Mux.endpoints (cfg : Cfg) (m : Mux) : List Eid :=
  m.children.flatMap (fun c => c.2.endpoints cfg)

/-- `AgentManager.HasEndpoint` = `AppAgentHasEndpoint(mux, eid)`. -/
def Mux.hasEndpoint (cfg : Cfg) (m : Mux) (e : Eid) : Bool :=
  bagContains (m.endpoints cfg) [e]

/-- Apply `f` to the child with identifier `i`. -/
def Mux.update (m : Mux) (i : Nat) (f : Agent → Agent) : Mux :=
  ⟨m.children.map (fun c => if c.1 = i then (c.1, f c.2) else c)⟩

def Mux.child (m : Mux) (i : Nat) : Option Agent := aload i m.children

/-! ## Histories -/

inductive Op where
  | addPing (a : Nat) (ep : Eid)
  | addMock (a : Nat) (eps : List Eid)
  | addRest (a : Nat)
  | addWs (a : Nat)
  | dropAgent (a : Nat)                       -- the agent closed its sender channel: MuxAgent.unregister
  | restReg (a c : Nat) (ep : Eid)
  | restUnreg (a c : Nat)
  | restFetch (a c : Nat)
  | wsConnect (a c : Nat) (ep : Option Eid)   -- ServeHTTP (+ the client's register message)
  | wsClose (a c : Nat)
  | deliver (b : Bundle)
deriving DecidableEq, Repr

/-- `MuxAgent.Register` (identifiers are the harness's names; a name is used once). -/
def Mux.add (m : Mux) (i : Nat) (a : Agent) : Mux :=
  if (aload i m.children).isSome then m else ⟨m.children ++ [(i, a)]⟩

def step (cfg : Cfg) (m : Mux) : Op → Mux × List (Rcpt × Bundle)
  | .addPing a ep => (m.add a (.ping ep), [])
  | .addMock a eps => (m.add a (.mock eps), [])
  | .addRest a => (m.add a (.rest {}), [])
  | .addWs a => (m.add a (.ws []), [])
  | .dropAgent a => (⟨adelete a m.children⟩, [])
  | .restReg a c ep =>
    (m.update a (fun | .rest ra => .rest (ra.register c ep) | x => x), [])
  | .restUnreg a c =>
    (m.update a (fun | .rest ra => .rest (ra.unregister c) | x => x), [])
  | .restFetch a c =>
    match m.child a with
    | some (.rest ra) =>
      let r := ra.fetch c
      (m.update a (fun _ => .rest r.1), r.2.map (fun b => (.rest a c, b)))
    | _ => (m, [])
  | .wsConnect a c ep =>
    (m.update a (fun | .ws conns => .ws (astore c ep conns) | x => x), [])
  | .wsClose a c =>
    (m.update a (fun | .ws conns => .ws (adelete c conns) | x => x), [])
  | .deliver b => m.deliver cfg b

def run (cfg : Cfg) : Mux → List Op → Mux
  | m, [] => m
  | m, op :: ops => run cfg (step cfg m op).1 ops

/-- The trace: every operation with the events it caused. -/
def trace (cfg : Cfg) : Mux → List Op → List (Op × List (Rcpt × Bundle))
  | _, [] => []
  | m, op :: ops => (op, (step cfg m op).2) :: trace cfg (step cfg m op).1 ops

/-- All mailboxes (the harness dumps them after every operation). -/
def Mux.mailboxes (m : Mux) : List (Rcpt × List Bundle) :=
  m.children.flatMap (fun c =>
    match c.2 with
    | .rest ra => ra.mailbox.map (fun e => (Rcpt.rest c.1 e.1, e.2))
    | _ => [])

/-- The registrations a state represents: recipient and the endpoints it answers to. -/
def Agent.registered (i : Nat) : Agent → List (Rcpt × List Eid)
  | .ping ep => [(.ping i, [ep])]
  | .mock eps => [(.mock i, eps)]
  | .rest ra => ra.clients.map (fun c => (.rest i c.1, [c.2]))
  | .ws conns => conns.map (fun c => (.ws i c.1, c.2.toList))

def Mux.registered (m : Mux) : List (Rcpt × List Eid) :=
  m.children.flatMap (fun c => c.2.registered c.1)

/-- No key twice: identifiers are names. `Mux.WF` below demands it of the children and of every agent's
tables; every operation preserves it. -/
def keysNodup {κ β : Type} (l : List (κ × β)) : Prop := (l.map (·.1)).Nodup

def Agent.WF : Agent → Prop
  | .rest ra => keysNodup ra.clients ∧ keysNodup ra.mailbox
  | .ws conns => keysNodup conns
  | _ => True

def Mux.WF (m : Mux) : Prop := keysNodup m.children ∧ ∀ c ∈ m.children, c.2.WF

/-! ## Spec — independent of the model above

These predicates are what the theorems conclude and what the driver evaluates on the
implementation's own observations. -/

abbrev Regs := List (Rcpt × List Eid)

/-- The recipients registered for exactly this endpoint. -/
def registeredFor (regs : Regs) (dest : Eid) : List Rcpt :=
  (regs.filter (fun r => r.2.contains dest)).map (·.1)

/-- **DeliveredExactly**: every hand-over went to a recipient registered for exactly the bundle's
destination and carried the unchanged bundle; every such recipient got it exactly once. -/
def DeliveredExactly (regs : Regs) (b : Bundle) (out : List (Rcpt × Bundle)) : Bool :=
  out.all (fun o => o.2 == b && (registeredFor regs b.dest).contains o.1) &&
  (registeredFor regs b.dest).all (fun r => (out.map (·.1)).count r == 1)

/-- The kind of a recipient; `deliveredFail` below names the failing clause of `DeliveredExactly`
together with it (for the specfail class). -/
def Rcpt.kind : Rcpt → String
  | .ping _ => "ping" | .mock _ => "mock" | .rest _ _ => "rest" | .ws _ _ => "ws"

def deliveredFail (regs : Regs) (b : Bundle) (out : List (Rcpt × Bundle)) : Option String :=
  let want := registeredFor regs b.dest
  match out.find? (fun o => !want.contains o.1) with
  | some o => some s!"recipient-not-registered-{o.1.kind}"
  | none =>
    match out.find? (fun o => o.2 != b) with
    | some o => some s!"content-differs-{o.1.kind}"
    | none =>
      match want.find? (fun r => (out.map (·.1)).count r == 0) with
      | some r => some s!"recipient-missed-{r.kind}"
      | none =>
        match want.find? (fun r => (out.map (·.1)).count r != 1) with
        | some r => some s!"recipient-duplicate-{r.kind}"
        | none => none

/-- **FetchExactlyOnce**: the concatenation of a client's fetch results (plus what is still in
the mailbox) is a permutation of what was put into its mailbox. -/
def FetchExactlyOnce (put fetched : List Bundle) : Bool := fetched.isPerm put

/-! ### Reference registry (Spec side): a flat table of registrations and mailboxes, updated by the
operations in the obvious way. -/

inductive Kind where | ping | mock | rest | ws
deriving DecidableEq, Repr

structure Reg where
  kinds : List (Nat × Kind) := []
  regs  : Regs := []
  boxes : List (Rcpt × List Bundle) := []
deriving Repr

def Rcpt.agent : Rcpt → Nat
  | .ping a => a | .mock a => a | .rest a _ => a | .ws a _ => a

def Reg.kindOf (r : Reg) (a : Nat) : Option Kind := aload a r.kinds

def Reg.box (r : Reg) (x : Rcpt) : List Bundle := (aload x r.boxes).getD []

def Reg.addAgent (r : Reg) (a : Nat) (k : Kind) (entries : Regs) : Reg :=
  if (r.kindOf a).isSome then r else { r with kinds := r.kinds ++ [(a, k)], regs := r.regs ++ entries }

def isRest : Rcpt → Bool
  | .rest _ _ => true
  | _ => false

/-- Append `b` to the mailbox of `x`. -/
def putBox (bx : List (Rcpt × List Bundle)) (x : Rcpt) (b : Bundle) : List (Rcpt × List Bundle) :=
  astore x ((aload x bx).getD [] ++ [b]) bx

def Reg.step (r : Reg) : Op → Reg × List (Rcpt × Bundle)
  | .addPing a ep => (r.addAgent a .ping [(.ping a, [ep])], [])
  | .addMock a eps => (r.addAgent a .mock [(.mock a, eps)], [])
  | .addRest a => (r.addAgent a .rest [], [])
  | .addWs a => (r.addAgent a .ws [], [])
  | .dropAgent a =>
    ({ kinds := adelete a r.kinds, regs := r.regs.filter (fun e => e.1.agent ≠ a),
       boxes := r.boxes.filter (fun e => e.1.agent ≠ a) }, [])
  | .restReg a c ep =>
    if r.kindOf a = some .rest then ({ r with regs := astore (.rest a c) [ep] r.regs }, [])
    else (r, [])
  | .restUnreg a c =>
    if r.kindOf a = some .rest then
      ({ r with regs := adelete (.rest a c) r.regs, boxes := adelete (.rest a c) r.boxes }, [])
    else (r, [])
  | .restFetch a c =>
    if r.kindOf a = some .rest then
      ({ r with boxes := adelete (.rest a c) r.boxes }, (r.box (.rest a c)).map (fun b => (.rest a c, b)))
    else (r, [])
  | .wsConnect a c ep =>
    if r.kindOf a = some .ws then ({ r with regs := astore (.ws a c) ep.toList r.regs }, [])
    else (r, [])
  | .wsClose a c =>
    if r.kindOf a = some .ws then ({ r with regs := adelete (.ws a c) r.regs }, [])
    else (r, [])
  | .deliver b =>
    let want := registeredFor r.regs b.dest
    ({ r with boxes := (want.filter isRest).foldl (fun bx x => putBox bx x b) r.boxes },
      want.map (fun x => (x, b)))

/-- Events of one operation agree with the reference: a delivery reaches exactly the registered
recipients (`DeliveredExactly`), a fetch returns exactly the mailbox (as a multiset), anything else
causes no event. -/
def eventsOk (r : Reg) (op : Op) (ev : List (Rcpt × Bundle)) : Bool :=
  match op with
  | .deliver b => DeliveredExactly r.regs b ev
  | .restFetch a c =>
    ev.all (fun e => e.1 == .rest a c) && FetchExactlyOnce (r.box (.rest a c)) (ev.map (·.2))
  | _ => ev.isEmpty

/-- A whole trace agrees with the reference. -/
def histOk : Reg → List (Op × List (Rcpt × Bundle)) → Bool
  | _, [] => true
  | r, (op, ev) :: rest => eventsOk r op ev && histOk (r.step op).1 rest

/-! ## Concurrency on one mailbox: micro-steps and schedules

One client's mailbox entry, a mutex, and any number of threads: deliveries (`receiveBundleMessage`
for this client: lock, load, store, unlock) and fetches (`fetchMailbox`: lock, load, delete, unlock).
`locked = false` is the code before the D15 repair (no mutex). -/

inductive Thr where
  | dIdle (b : Bundle)
  | dLocked (b : Bundle)
  | dLoaded (b : Bundle) (reg : Option (List Bundle))
  | dStored (b : Bundle)
  | dDone (b : Bundle)
  | fIdle
  | fLocked
  | fLoaded (l : List Bundle)
  | fDeleted (l : List Bundle)
  | fDone (l : List Bundle)
deriving DecidableEq, Repr

structure Shared where
  mbox : Option (List Bundle) := none
  lock : Option Nat := none
deriving DecidableEq, Repr

/-- One micro-step of thread `i`; `none` = not enabled (blocked on the mutex, or finished). -/
def stepThr (locked : Bool) (i : Nat) (s : Shared) : Thr → Option (Shared × Thr)
  | .dIdle b =>
    if locked then (if s.lock = none then some ({ s with lock := some i }, .dLocked b) else none)
    else some (s, .dLocked b)
  | .dLocked b => some (s, .dLoaded b s.mbox)
  | .dLoaded b r => some ({ s with mbox := some (r.getD [] ++ [b]) }, .dStored b)
  | .dStored b => some (if locked then { s with lock := none } else s, .dDone b)
  | .dDone _ => none
  | .fIdle =>
    if locked then (if s.lock = none then some ({ s with lock := some i }, .fLocked) else none)
    else some (s, .fLocked)
  | .fLocked =>
    match s.mbox with
    | some l => some (s, .fLoaded l)
    | none => some (s, .fDeleted [])
  | .fLoaded l => some ({ s with mbox := none }, .fDeleted l)
  | .fDeleted l => some (if locked then { s with lock := none } else s, .fDone l)
  | .fDone _ => none

/-- A schedule is a list of thread indices; a choice that is not enabled is skipped. Every
interleaving of the threads' micro-steps is `runSched … σ` for some `σ`, and vice versa. -/
def runSched (locked : Bool) : Shared × List Thr → List Nat → Shared × List Thr
  | st, [] => st
  | (s, ts), i :: σ =>
    match ts[i]? with
    | some t =>
      match stepThr locked i s t with
      | some (s', t') => runSched locked (s', ts.set i t') σ
      | none => runSched locked (s, ts) σ
    | none => runSched locked (s, ts) σ

def Thr.fetched : Thr → List Bundle
  | .fDeleted l => l
  | .fDone l => l
  | _ => []

def Thr.stored : Thr → List Bundle
  | .dStored b => [b]
  | .dDone b => [b]
  | _ => []

def Thr.bundle : Thr → List Bundle
  | .dIdle b | .dLocked b | .dLoaded b _ | .dStored b | .dDone b => [b]
  | _ => []

def Thr.done : Thr → Bool
  | .dDone _ => true
  | .fDone _ => true
  | _ => false

def Thr.idle : Thr → Bool
  | .dIdle _ => true
  | .fIdle => true
  | _ => false

/-- All fetch results so far / all bundles put into the mailbox so far. -/
def fetchedAll (ts : List Thr) : List Bundle := ts.flatMap Thr.fetched
def storedAll (ts : List Thr) : List Bundle := ts.flatMap Thr.stored
def bundlesAll (ts : List Thr) : List Bundle := ts.flatMap Thr.bundle

/-! ## The node: HasEndpoint, receive, dispatching, localDelivery -/

inductive Constraint where
  | dispatchPending | forwardPending | reassemblyPending | contraindicated | localEndpoint
deriving DecidableEq, Repr

inductive Out where
  | handed (r : Rcpt) (b : Bundle)   -- an application agent / client took the bundle
  | report (about : Bundle)          -- a "delivered" status report for `about`, sent to `about.reportTo`
  | forward (b : Bundle)             -- handed to Core.forward (routing algorithm, CLAs)
  | deletion (b : Bundle)            -- bundleDeletion
deriving DecidableEq, Repr

structure Node where
  nodeId : Eid
  mux    : Mux := {}
  claEps : List Eid := []                      -- endpoints of CLA listeners / receivers
  store  : List (Nat × Bundle × List Constraint) := []  -- bundle id ↦ bundle, retention constraints
deriving Repr

/-- `reportGuard = true` is the repaired `localDelivery` (returns when `Deliver` failed). -/
structure NCfg extends Cfg where
  reportGuard : Bool := true
deriving Repr

def Node.hasEndpoint (cfg : Cfg) (n : Node) (e : Eid) : Bool :=
  n.nodeId.sameNode e || n.mux.hasEndpoint cfg e || n.claEps.any (fun c => c.sameNode e)

/-- `Core.SendStatusReport(bp, DeliveredBundle, …)`. -/
def statusReport (cfg : Cfg) (n : Node) (b : Bundle) : List Out :=
  if b.admin then [] else if n.hasEndpoint cfg b.reportTo then [] else [.report b]

/-- `AgentManager.Deliver`: error when nobody registered the destination; otherwise the
LocalEndpoint constraint is removed and the bundle is handed to the MuxAgent. -/
def deliverAM (cfg : Cfg) (n : Node) (b : Bundle) (cons : List Constraint) :
    Bool × Node × List Out × List Constraint :=
  if n.mux.hasEndpoint cfg b.dest then
    let r := n.mux.deliver cfg b
    (true, { n with mux := r.1 }, r.2.map (fun h => .handed h.1 h.2),
      cons.filter (· ≠ .localEndpoint))
  else (false, n, [], cons)

def purge (cons : List Constraint) : List Constraint := cons.filter (· = .localEndpoint)

/-- `bp.AddConstraint(LocalEndpoint)` (the constraints are a set). -/
def addLocal (cons : List Constraint) : List Constraint :=
  if cons.contains .localEndpoint then cons else cons ++ [.localEndpoint]

/-- `Core.localDelivery`; the last component is the constraint set it leaves in the store
(`[]` = the bundle is removed from the store). -/
def localDelivery (cfg : NCfg) (n : Node) (b : Bundle) (cons : List Constraint) :
    Node × List Out × List Constraint :=
  if b.admin && !b.adminOk then (n, [.deletion b], purge cons)
  else
    let r := deliverAM cfg.toCfg n b (addLocal cons)
    if cfg.reportGuard && !r.1 then (r.2.1, r.2.2.1, r.2.2.2)
    else
      let rep := if b.reqDelivery then statusReport cfg.toCfg r.2.1 b else []
      (r.2.1, r.2.2.1 ++ rep, purge r.2.2.2)

/-- `descriptor.AddConstraint` (the constraints are a set). -/
def addC (c : Constraint) (cons : List Constraint) : List Constraint :=
  if cons.contains c then cons else cons ++ [c]

/-- `Core.dispatching` (the routing algorithm's veto is not modelled). -/
def dispatching (cfg : NCfg) (n : Node) (b : Bundle) (cons : List Constraint) :
    Node × List Out × List Constraint :=
  if n.hasEndpoint cfg.toCfg b.dest then localDelivery cfg n b cons
  else (n, [.forward b], addC .forwardPending (cons.filter (· ≠ .dispatchPending)))

/-- Write back what `dispatching` left: no constraints = the store deletes the bundle. -/
def Node.sync (n : Node) (b : Bundle) (cons : List Constraint) : Node :=
  { n with store := if cons.isEmpty then adelete b.tok n.store else astore b.tok (b, cons) n.store }

/-- `Core.receive` for one arriving copy: a bundle whose identifier is still in the store with
constraints is ignored; otherwise it is accepted and dispatched. -/
def receive (cfg : NCfg) (n : Node) (b : Bundle) : Node × List Out :=
  match aload b.tok n.store with
  | some (_, _ :: _) => (n, [])
  | _ =>
    let r := dispatching cfg n b [.dispatchPending]
    (r.1.sync b r.2.2, r.2.1)

/-- `BundleItem.Pending` as computed by `BundleDescriptor.Sync`. -/
def pendingC (cons : List Constraint) : Bool :=
  !cons.contains .reassemblyPending && (cons.contains .forwardPending || cons.contains .contraindicated)

/-- `Core.checkPendingBundles` (the cron job): every pending bundle of the store is dispatched
again — a bundle that was forwarded while nobody had registered its destination is delivered
locally once an agent has. -/
def tick (cfg : NCfg) (n : Node) : Node × List Out :=
  n.store.foldl (fun acc e =>
    if pendingC e.2.2 then
      let r := dispatching cfg acc.1 e.2.1 e.2.2
      (r.1.sync e.2.1 r.2.2, acc.2 ++ r.2.1)
    else acc) (n, [])

/-! ### Spec for the node -/

def Out.isHanded (b : Bundle) : Out → Bool
  | .handed _ b' => b' == b
  | _ => false

/-- **ReportOnlyAfterHandover**: a "delivered" report implies a hand-over of that bundle. -/
def ReportOnlyAfterHandover (b : Bundle) (outs : List Out) : Bool :=
  !outs.contains (.report b) || outs.any (Out.isHanded b)

/-- The retention constraint may only disappear after a hand-over (or because the bundle is a
malformed administrative record, which is deleted, not delivered). -/
def RetentionOk (b : Bundle) (outs : List Out) (cons : List Constraint) : Bool :=
  cons.contains .localEndpoint || outs.any (Out.isHanded b) || outs.contains (.deletion b)

def NotForwarded (outs : List Out) : Bool :=
  outs.all (fun | .forward _ => false | _ => true)

end Dtn7.Delivery
