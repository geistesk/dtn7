/-
Model of the spray-and-wait routing algorithms and of the part of the forwarding pipeline that
drives them.
  pkg/routing/algorithm_spray.go   SprayAndWait / BinarySpray: NotifyNewBundle, SenderForBundle,
                                   ReportFailure, sprayMetaData
  pkg/bpv7/extension_block_spray.go  BinarySprayBlock (one uint64: the copies handed over)
  pkg/routing/processing.go        Core.forward: direct delivery first (then the algorithm is not
                                   consulted), one goroutine per chosen sender, ReportFailure for
                                   every failed Send, delete-after-direct-delivery
  pkg/routing/core.go              checkPendingBundles (retry tick, peer appeared)

One bundle is followed through one node. Core-only, executable; used by `drv_c18` and by
`Dtn7.Props.C18`.

Abstractions (all stated in checks/C18.json):
* peers are natural numbers; the bundle's destination node is the peer `dest`; one convergence
  sender per peer; `EndpointID` equality and `SameNode` coincide on them;
* the order in which `claManager.Sender()` (a `sync.Map` range) lists the connected senders is an
  input of every forwarding step (`Env.order`), so is the outcome of every `Send` (`Env.fails`)
  and the interleaving of the `ReportFailure` calls of one `forward` run (`Env.sched`);
* `uint64` arithmetic is modelled in `Nat` (no overflow below 2^64 copies);
* lifetime / hop-count checks of `forward` never trigger (the harness uses long-lived bundles).
-/
namespace Dtn7.Spray

abbrev Peer := Nat

/-- `sprayMetaData`. -/
structure Meta where
  sent : List Peer
  remaining : Nat
deriving Repr, DecidableEq

inductive Algo where
  | spray | binary
deriving Repr, DecidableEq

/-- Switches selecting the behaviour of the code *before* the `fix:` commits for D26a, D26b and D27; the
defaults describe the code that exists. Only used for the witness theorems. -/
structure Params where
  /-- D26a fixed: `ReportFailure` and `SenderForBundle` do their read-modify-write under one `Lock`
  (`rfProgram` is the lock program of both in `concurrentUpdates`). -/
  atomicRF : Bool := true
  /-- D26b fixed: only a peer recorded in `sent` gives a copy back. -/
  onlySent : Bool := true
  /-- D27 fixed: binary spray adds the failed transmission's copies to `remainingCopies`. -/
  binaryRestores : Bool := true
deriving Repr, DecidableEq

/-! ### NotifyNewBundle -/

/-- What `NotifyNewBundle` looks at: is the source an endpoint of this node, the value of a
BinarySprayBlock if the bundle carries one, the previous node if there is a PreviousNodeBlock. -/
structure Incoming where
  srcLocal : Bool
  block : Option Nat
  prev : Option Peer
deriving Repr, DecidableEq

def notify (a : Algo) (l : Nat) (b : Incoming) : Meta :=
  match a with
  | .spray =>
    if b.srcLocal then ⟨[], l⟩ else ⟨b.prev.toList, 1⟩
  | .binary =>
    match b.block with
    | some k => ⟨b.prev.toList, k⟩
    | none => if b.srcLocal then ⟨[], l⟩ else ⟨b.prev.toList, 1⟩

/-! ### SenderForBundle -/

/-- The loop of `SprayAndWait.SenderForBundle` over the connected senders `cs`: stop as soon as
fewer than two copies remain, skip peers in `sent`, otherwise select the peer, append it to `sent`
and take one copy. -/
def sprayPick : List Peer → Meta → List Peer × Meta
  | [], m => ([], m)
  | p :: ps, m =>
    if m.remaining < 2 then ([], m)
    else if p ∈ m.sent then sprayPick ps m
    else
      let r := sprayPick ps ⟨m.sent ++ [p], m.remaining - 1⟩
      (p :: r.1, r.2)

/-- `BinarySpray.SenderForBundle` after the `< 2` test: the first sender not in `sent` gets
`⌊remaining/2⌋` copies (written into the bundle's BinarySprayBlock), the rest is kept.
Result: chosen peer, copies announced, new metadata. -/
def binaryPick (cs : List Peer) (m : Meta) : Option (Peer × Nat × Meta) :=
  match cs.find? (fun p => !(m.sent.contains p)) with
  | none => none
  | some p =>
    let send := m.remaining / 2
    some (p, send, ⟨m.sent ++ [p], m.remaining - send⟩)

/-- One transmission chosen by the algorithm: peer and the BinarySprayBlock value of the bundle
handed to the CLA (`none`: the bundle's own block, if any, is untouched). -/
structure Choice where
  peer : Peer
  announced : Option Nat
deriving Repr, DecidableEq

/-- `SenderForBundle` of both algorithms (the `delete` flag is `false` on every path).
No metadata ⇒ nobody. -/
def senderForBundle (a : Algo) (cs : List Peer) (md : Option Meta) : List Choice × Option Meta :=
  match md with
  | none => ([], none)
  | some m =>
    if m.remaining < 2 then ([], some m)
    else
      match a with
      | .spray =>
        let r := sprayPick cs m
        (r.1.map (fun p => ⟨p, none⟩), some r.2)
      | .binary =>
        match binaryPick cs m with
        | none => ([], some m)
        | some (p, send, m') => ([⟨p, some send⟩], some m')

/-! ### ReportFailure -/

/-- The modification `ReportFailure` applies to the copy of the metadata it read:
`give` is `1` for spray-and-wait and the value of the failed bundle's BinarySprayBlock for binary
spray. -/
def giveBack (P : Params) (a : Algo) (m : Meta) (p : Peer) (give : Nat) : Meta :=
  let credit := match a with
    | .spray => give
    | .binary => if P.binaryRestores then give else 0
  if P.onlySent then
    if p ∈ m.sent then ⟨m.sent.erase p, m.remaining + credit⟩ else m
  else ⟨m.sent.erase p, m.remaining + credit⟩

/-- The metadata `SenderForBundle` writes back (its other result, the chosen senders, does not matter
for the bookkeeping). -/
def pickMeta (a : Algo) (cs : List Peer) (m : Meta) : Meta :=
  if m.remaining < 2 then m
  else match a with
    | .spray => (sprayPick cs m).2
    | .binary =>
      match binaryPick cs m with
      | none => m
      | some (_, _, m') => m'

/-- A read-modify-write of a bundle's metadata, performed by one goroutine. -/
inductive Action where
  | giveBack (p : Peer) (give : Nat)   -- `ReportFailure` for peer `p`
  | pick (cs : List Peer)              -- `SenderForBundle`, the manager listing the senders `cs`
deriving Repr, DecidableEq

def Action.apply (P : Params) (a : Algo) (m : Meta) : Action → Meta
  | .giveBack p g => Dtn7.Spray.giveBack P a m p g
  | .pick cs => pickMeta a cs m

def Action.ofReport (f : Peer × Nat) : Action := .giveBack f.1 f.2

def Action.report? : Action → Option (Peer × Nat)
  | .giveBack p g => some (p, g)
  | .pick _ => none

/-- Micro-steps of `ReportFailure` / `SenderForBundle` as far as the mutex and the map are concerned. -/
inductive Op where
  | rlock | runlock | lock | unlock
  | read    -- `metadata, ok := bundleData[bp.Id]`
  | write   -- modify the local copy and `bundleData[bp.Id] = metadata` (nothing if `!ok`)
deriving Repr, DecidableEq

def Op.name : Op → String
  | .rlock => "rlock" | .runlock => "runlock" | .lock => "lock" | .unlock => "unlock"
  | .read => "read" | .write => "write"

/-- The order in which `ReportFailure` and `SenderForBundle` take the locks and touch the map
(`false`: the code before the repairs, copy out under `RLock`, write back under `Lock`). -/
def rfProgram (atomicRF : Bool) : List Op :=
  if atomicRF then [.lock, .read, .write, .unlock]
  else [.rlock, .read, .runlock, .lock, .write, .unlock]

/-- One call in flight (one goroutine). -/
structure Thread where
  act : Action
  pc : Nat := 0
  loc : Option Meta := none   -- the copy made by `read`
deriving Repr, DecidableEq

/-- The algorithm's shared state for the bundle, its `sync.RWMutex`, and (ghost) the write-backs in
the order they happened, each with the copy of the metadata it was computed from. -/
structure Shared where
  md : Option Meta
  readers : Nat := 0
  writer : Option Nat := none   -- index of the thread holding the write lock
  order : List (Action × Meta) := []
deriving Repr, DecidableEq

/-- Execute `op` for thread `i`; `none` = blocked. -/
def exec (P : Params) (a : Algo) (i : Nat) (op : Op) (sh : Shared) (t : Thread) :
    Option (Shared × Thread) :=
  match op with
  | .rlock => if sh.writer.isNone then some ({ sh with readers := sh.readers + 1 }, t) else none
  | .runlock => some ({ sh with readers := sh.readers - 1 }, t)
  | .lock =>
    if sh.writer.isNone && sh.readers == 0 then some ({ sh with writer := some i }, t) else none
  | .unlock => some ({ sh with writer := none }, t)
  | .read => some (sh, { t with loc := sh.md })
  | .write =>
    match t.loc with
    | none => some (sh, t)
    | some m =>
      some ({ sh with md := some (t.act.apply P a m), order := sh.order ++ [(t.act, m)] }, t)

abbrev SState := Shared × List Thread

/-- Thread `i` takes its next micro-step if it has one and is not blocked. -/
def stepThread (P : Params) (a : Algo) (prog : List Op) (st : SState) (i : Nat) : SState :=
  match st.2[i]? with
  | none => st
  | some t =>
    match prog[t.pc]? with
    | none => st
    | some op =>
      match exec P a i op st.1 t with
      | none => st
      | some (sh', t') => (sh', st.2.set i { t' with pc := t.pc + 1 })

/-- Run a schedule: the list of thread indices in the order in which they are given the processor.
Every interleaving of the goroutines is such a list. -/
def runSched (P : Params) (a : Algo) (prog : List Op) (st : SState) (σ : List Nat) : SState :=
  σ.foldl (stepThread P a prog) st

def initThreads (acts : List Action) : List Thread := acts.map (fun act => { act := act })

/-- All goroutines have returned (`wg.Wait()` is over). -/
def allDone (prog : List Op) (ts : List Thread) : Bool := ts.all (fun t => t.pc == prog.length)

/-- Concurrent `SenderForBundle` / `ReportFailure` calls for one bundle under schedule `σ`. -/
def concurrentUpdates (P : Params) (a : Algo) (md : Option Meta) (acts : List Action)
    (σ : List Nat) : SState :=
  runSched P a (rfProgram P.atomicRF) ({ md := md }, initThreads acts) σ

/-- Reference semantics: the updates one after the other. -/
def applyAll (P : Params) (a : Algo) (md : Option Meta) (acts : List Action) : Option Meta :=
  acts.foldl (fun m act => m.map (fun m => act.apply P a m)) md

/-- `Chained md l`: the updates `l` form a sequential execution from `md` — every update was computed
from the state its predecessor left behind (so what the call returned, e.g. the senders chosen by
`SenderForBundle`, is what it returns in that sequential execution). -/
def Chained (P : Params) (a : Algo) : Option Meta → List (Action × Meta) → Prop
  | _, [] => True
  | md, (act, m) :: rest => md = some m ∧ Chained P a (some (act.apply P a m)) rest

instance Chained.decidable (P : Params) (a : Algo) :
    (md : Option Meta) → (l : List (Action × Meta)) → Decidable (Chained P a md l)
  | _, [] => isTrue trivial
  | md, (act, m) :: rest =>
    have := Chained.decidable P a (some (act.apply P a m)) rest
    inferInstanceAs (Decidable (md = some m ∧ Chained P a (some (act.apply P a m)) rest))

/-- The concurrent `ReportFailure` calls of one `forward` run under schedule `σ`. -/
def reportFailures (P : Params) (a : Algo) (md : Option Meta) (fs : List (Peer × Nat))
    (σ : List Nat) : SState :=
  concurrentUpdates P a md (fs.map Action.ofReport) σ

/-- Reference semantics: the reports one after the other. -/
def giveBackAll (P : Params) (a : Algo) (md : Option Meta) (fs : List (Peer × Nat)) : Option Meta :=
  fs.foldl (fun m f => m.map (fun m => giveBack P a m f.1 f.2)) md

/-- A schedule that lets thread 0 run to completion, then thread 1, … (`n` threads). -/
def seqSched (progLen n : Nat) : List Nat :=
  (List.range n).flatMap (fun i => List.replicate progLen i)

/-! ### The node around the algorithm -/

/-- One `Send` of a mock CLA as the harness logs it. -/
structure Send where
  peer : Peer
  ok : Bool
  block : Option Nat   -- BinarySprayBlock value of the transmitted bundle
deriving Repr, DecidableEq

structure Node where
  algo : Algo
  l : Nat                      -- configured multiplicity
  dest : Peer
  md : Option Meta := none   -- bundleData[id]
  conn : List Peer := []       -- peers with an active sender
  stored : Bool := false       -- bundle in the store and pending
  bblock : Option Nat := none  -- BinarySprayBlock of the stored bundle
  log : List Send := []
deriving Repr, DecidableEq

/-- The environment's choices during one forwarding step. -/
structure Env where
  order : List Peer := []   -- order in which the manager lists its senders
  fails : List Peer := []   -- peers whose `Send` returns an error
  sched : List Nat := []    -- interleaving of the failure reports
deriving Repr, DecidableEq

inductive Event where
  | submit (e : Env)                                        -- `Core.SendBundle`, source = this node
  | receive (block : Option Nat) (prev : Option Peer) (e : Env)   -- from a CLA, foreign source
  | peerUp (p : Peer) (e : Env)                             -- PeerAppeared ⇒ checkPendingBundles
  | peerDown (p : Peer)
  | tick (e : Env)                                          -- cron: checkPendingBundles
  | restart                                                 -- process restart: metadata and CLAs gone
  | loopback (block : Option Nat) (prev : Option Peer)      -- the bundle is received AGAIN while it is in the store
deriving Repr, DecidableEq

/-- The senders `forward` uses: direct delivery (`senderForDestination`) if the destination is
connected — then the algorithm is not asked —, otherwise `SenderForBundle`. -/
def choose (s : Node) (e : Env) : List Choice × Option Meta :=
  if s.conn.contains s.dest then ([⟨s.dest, none⟩], s.md)
  else senderForBundle s.algo (e.order.filter (fun p => s.conn.contains p)) s.md

/-- The `Send` calls of the step with their outcome and the BinarySprayBlock of the bundle sent. -/
def mkSends (s : Node) (e : Env) (choices : List Choice) : List Send :=
  choices.map fun c =>
    { peer := c.peer, ok := !(e.fails.contains c.peer),
      block := match c.announced with | some k => some k | none => s.bblock }

/-- Every failed `Send` is reported; binary spray's `ReportFailure` returns at once if the bundle has
no BinarySprayBlock, otherwise the block's value is what it gives back. -/
def mkReports (a : Algo) (sends : List Send) : List (Peer × Nat) :=
  (sends.filter (fun x => !x.ok)).filterMap fun x =>
    match a with
    | .spray => some (x.peer, 1)
    | .binary => x.block.map (fun k => (x.peer, k))

/-- The `Send`s of one `forward` run. -/
def forwardSends (s : Node) (e : Env) : List Send :=
  if s.stored then mkSends s e (choose s e).1 else []

/-- The failure-report goroutines of one `forward` run after schedule `e.sched`. -/
def forwardReports (P : Params) (s : Node) (e : Env) : SState :=
  reportFailures P s.algo (choose s e).2 (mkReports s.algo (mkSends s e (choose s e).1)) e.sched

/-- Did `e.sched` let every failure report finish (as `wg.Wait()` guarantees in the code)? -/
def forwardComplete (P : Params) (s : Node) (e : Env) : Bool :=
  allDone (rfProgram P.atomicRF) (forwardReports P s e).2

/-- `Core.forward` for the bundle (only pending bundles are forwarded). A successful direct delivery
deletes the bundle (`deleteAfterwards` stays `true`); everything else leaves it pending. -/
def forward (P : Params) (s : Node) (e : Env) : Node :=
  if !s.stored then s else
  let sends := mkSends s e (choose s e).1
  { s with md := (forwardReports P s e).1.md, log := s.log ++ sends,
           stored := !(sends.any (·.ok) && s.conn.contains s.dest) }

/-- What an event does before (possibly) forwarding the bundle: the node handed to `forward` and the
environment of that forwarding step (`none`: the event does not forward). -/
def prepare (s : Node) : Event → Node × Option Env
  | .submit e =>
    ({ s with md := some (notify s.algo s.l ⟨true, none, none⟩), stored := true, bblock := none }, some e)
  | .receive b prev e =>
    ({ s with md := some (notify s.algo s.l ⟨false, b, prev⟩), stored := true, bblock := b }, some e)
  | .peerUp p e => ({ s with conn := if s.conn.contains p then s.conn else s.conn ++ [p] }, some e)
  | .peerDown p => ({ s with conn := s.conn.erase p }, none)
  | .tick e => (s, some e)
  | .restart => ({ s with md := none, conn := [] }, none)
  -- `Core.receive` returns before `NotifyNewBundle` when the descriptor loaded from the store already
  -- has constraints ("Received bundle's ID is already known"): the node's own bundle looped back by a
  -- peer, or a relayed bundle arriving a second time, changes nothing — whatever BinarySprayBlock /
  -- PreviousNodeBlock the duplicate carries. (The event stands for a reception while the bundle is
  -- stored; the harness performs it only then.)
  | .loopback _ _ => (s, none)

def step (P : Params) (s : Node) (ev : Event) : Node :=
  match prepare s ev with
  | (s', some e) => forward P s' e
  | (s', none) => s'

def run (P : Params) (s : Node) (evs : List Event) : Node := evs.foldl (step P) s

/-- The schedule of the event's forwarding step lets all failure reports finish. -/
def stepComplete (P : Params) (s : Node) (ev : Event) : Bool :=
  match prepare s ev with
  | (s', some e) => forwardComplete P s' e
  | (_, none) => true

/-- Every forwarding step of the history has a complete schedule (what `wg.Wait()` enforces). -/
def runComplete (P : Params) (s : Node) : List Event → Bool
  | [] => true
  | ev :: evs => stepComplete P s ev && runComplete P (step P s ev) evs

/-- What the node would do if `receive` notified the algorithm also for a known bundle (the early
return placed after `NotifyNewBundle`): the metadata is overwritten as for a new bundle. Only used
for the witness `renotify_refills_budget_witness`. -/
def loopbackRenotify (s : Node) (srcLocal : Bool) (block : Option Nat) (prev : Option Peer) : Node :=
  { s with md := some (notify s.algo s.l ⟨srcLocal, block, prev⟩) }

def Event.isEntry : Event → Bool
  | .submit _ => true
  | .receive _ _ _ => true
  | _ => false

/-! ### Spec: what the property demands, on observations (independent of the model) -/

/-- Successful transmissions to peers other than the destination. -/
def relayed (dest : Peer) (log : List Send) : List Send :=
  log.filter (fun x => x.ok && x.peer != dest)

/-- `Budget`: successful transmissions to non-destination peers never exceed `L − 1`. -/
def Budget (l : Nat) (dest : Peer) (log : List Send) : Prop := (relayed dest log).length ≤ l - 1

instance (l : Nat) (dest : Peer) (log : List Send) : Decidable (Budget l dest log) := by
  unfold Budget; infer_instance

/-- `Conservation` (originated bundle, metadata alive): copies kept + copies handed over = `L`. -/
def Conservation (l : Nat) (dest : Peer) (log : List Send) (remaining : Nat) : Prop :=
  remaining + (relayed dest log).length = l

instance (l : Nat) (dest : Peer) (log : List Send) (r : Nat) : Decidable (Conservation l dest log r) := by
  unfold Conservation; infer_instance

/-- `FailureReturnsCopy`, per forwarding step: the count drops by exactly the number of successful
transmissions of the step to non-destination peers — a failed one costs nothing. -/
def FailureReturnsCopy (dest : Peer) (before : Nat) (sends : List Send) (after : Nat) : Prop :=
  after + (relayed dest sends).length = before

instance (dest : Peer) (b : Nat) (sends : List Send) (a : Nat) : Decidable (FailureReturnsCopy dest b sends a) := by
  unfold FailureReturnsCopy; infer_instance

/-- `SingleCopyWaits`: holding fewer than two copies, only the destination is served. -/
def SingleCopyWaits (dest : Peer) (held : Nat) (sends : List Send) : Prop :=
  held < 2 → ∀ x ∈ sends, x.peer = dest

instance (dest : Peer) (held : Nat) (sends : List Send) : Decidable (SingleCopyWaits dest held sends) := by
  unfold SingleCopyWaits; infer_instance

/-- Binary spray, one transmission to a non-destination peer out of `held` copies, `kept` afterwards:
half rounded down is announced; a success keeps the rest, a failure restores the count. -/
def BinarySplit (held : Nat) (x : Send) (kept : Nat) : Prop :=
  x.block = some (held / 2) ∧ (if x.ok then held / 2 + kept = held else kept = held)

instance (held : Nat) (x : Send) (kept : Nat) : Decidable (BinarySplit held x kept) := by
  unfold BinarySplit; infer_instance

end Dtn7.Spray
