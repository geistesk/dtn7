/-
Model of DTLSR ("delay tolerant link state routing")
  pkg/routing/algorithm_dtlsr.go      (NotifyNewBundle, SenderForBundle, ReportPeer*, newNode,
                                       computeRoutingTable, purgePeers)
  pkg/bpv7/extension_block_dtlsr.go   (DTLSRPeerData.ShouldReplace)
  pkg/routing/algorithm.go            (filterCLAs)
  pkg/routing/processing.go           (Core.forward: direct delivery first, release after success)
  github.com/RyanCarrier/dijkstra v1.0.0  dijkstra.go / linked_list.go
                                      (Graph.Shortest = setup + postSetupEvaluate + bestPath, with the
                                       ascending linked list `visiting`)

Core-only and executable; used by the driver `drv_c20` and by `Dtn7.Props.C20`.

Contents
  §1  weighted digraphs, the Spec `MinCostNextHop` and the certificate checker `checkTable`
  §2  reference shortest paths: `n` rounds of Bellman–Ford relaxation, admissible next hops
  §3  line-by-line port of the library's `Shortest`
  §4  DTLSR state: link-state reception, node index, graph construction, routing table
  §5  SenderForBundle / filterCLAs / Core.forward's choice of convergence senders
-/
namespace Dtn7.Dtlsr

/-! ## §1 Graphs and the Spec -/

/-- An arc `(u, v, w)`: from `u` to `v` with cost `w` (Go: `int64`). -/
abbrev Arc := Nat × Nat × Int

/-- Vertices are `0 … n-1`; vertex `0` is the node itself (`nodeIndex[c.NodeId] = 0`). Parallel
arcs are allowed in the Spec (the cheapest one counts); the graph the code builds has none. -/
structure Graph where
  n : Nat
  arcs : List Arc
deriving Repr, DecidableEq

/-- `Walk g u v c`: the graph contains a walk from `u` to `v` of total cost `c`. -/
inductive Walk (g : Graph) : Nat → Nat → Int → Prop
  | nil (u : Nat) : Walk g u u 0
  | cons {u v x : Nat} {w c : Int} (ha : (u, v, w) ∈ g.arcs) (hw : Walk g v x c) :
      Walk g u x (w + c)

def Reachable (g : Graph) (u v : Nat) : Prop := ∃ c, Walk g u v c

/-- `d` is the least cost of a walk from `u` to `v`. -/
def IsDist (g : Graph) (u v : Nat) (d : Int) : Prop :=
  Walk g u v d ∧ ∀ c, Walk g u v c → d ≤ c

/-- **The property's statement about a routing table** (vertex level; `t d` is the next hop for
destination `d`):
* `dom`: the table has an entry for `d` exactly when `d` is another node that the known graph
  reaches from the node itself;
* `hop`: the entry `h` is an out-neighbour of the node (`(0,h,w)` is an arc: a current or recently
  lost neighbour) and lies on a minimum-cost path: `w + c` is the least cost of any walk `0 ⇝ d`,
  for some walk `h ⇝ d` of cost `c` (hence `c = dist(h,d)` and `w = cost(0,h)`). -/
structure MinCostNextHop (g : Graph) (t : Nat → Option Nat) : Prop where
  dom : ∀ d, (t d).isSome = true ↔ (d ≠ 0 ∧ Reachable g 0 d)
  hop : ∀ d h, t d = some h →
    ∃ w c, (0, h, w) ∈ g.arcs ∧ Walk g h d c ∧ IsDist g 0 d (w + c)

/-- A routing table as data: destination ↦ next hop (first entry wins). -/
abbrev Table := List (Nat × Nat)

def lookup (t : Table) (d : Nat) : Option Nat :=
  match t with
  | [] => none
  | (k, h) :: rest => if k = d then some h else lookup rest d

/-- Certificate for a table: `pot v = some p` claims "`v` is reachable and its distance from `0` is
`p`", `none` claims "unreachable"; `paths[d]` is a walk `0, h, …, d` claimed to be tight. -/
structure Cert where
  pot : List (Option Int)
  paths : List (List Nat)
deriving Repr

def Cert.potAt (c : Cert) (v : Nat) : Option Int := (c.pot[v]?).join

/-- `(a, b, w)` is an arc and it is tight for the potentials: `pot a + w = pot b`. -/
def tightArc (g : Graph) (pot : Nat → Option Int) (a b : Nat) : Bool :=
  g.arcs.any fun e =>
    e.1 == a && e.2.1 == b &&
      match pot a, pot b with
      | some pa, some pb => pa + e.2.2 == pb
      | _, _ => false

/-- Every consecutive pair of the vertex list is a tight arc. -/
def tightPath (g : Graph) (pot : Nat → Option Int) : List Nat → Bool
  | a :: b :: rest => tightArc g pot a b && tightPath g pot (b :: rest)
  | _ => true

/-- The path starts `0, h`, ends in `d`, and is tight. -/
def pathOk (g : Graph) (pot : Nat → Option Int) (h d : Nat) (p : List Nat) : Bool :=
  match p with
  | a :: b :: rest => a == 0 && b == h && (b :: rest).getLast? == some d && tightPath g pot p
  | _ => false

/-- Feasibility of the potentials on one arc, and closedness of the set of labelled vertices. -/
def arcFeasible (pot : Nat → Option Int) (e : Arc) : Bool :=
  match pot e.1 with
  | none => true
  | some pu =>
    match pot e.2.1 with
    | none => false
    | some pv => decide (pv ≤ pu + e.2.2)

/-- **Certificate checker.** Accepts only if
1. all arc end points are vertices, `0` is a vertex and `pot 0 = 0`;
2. the potentials are feasible on every arc leaving a labelled vertex and the labelled set is
   closed under arcs (so everything reachable from `0` is labelled, and `pot` is a lower bound of
   every walk's cost);
3. table keys are vertices other than `0`;
4. for every vertex `d ≠ 0`: unlabelled and no entry, or labelled with entry `h` and a tight path
   `0, h, …, d` (so `pot d` is attained by a walk whose first hop is `h`). -/
def checkTable (g : Graph) (t : Table) (c : Cert) : Bool :=
  let pot := c.potAt
  g.arcs.all (fun e => decide (e.1 < g.n) && decide (e.2.1 < g.n)) &&
  decide (0 < g.n) && pot 0 == some 0 &&
  g.arcs.all (arcFeasible pot) &&
  t.all (fun e => e.1 != 0 && decide (e.1 < g.n)) &&
  (List.range g.n).all fun d =>
    d == 0 ||
      match pot d, lookup t d with
      | none, none => true
      | some _, some h => pathOk g pot h d (c.paths.getD d [])
      | _, _ => false

/-! ## §2 Reference: Bellman–Ford relaxation -/

def upd {α : Type} (f : Nat → α) (k : Nat) (a : α) : Nat → α :=
  fun x => if x = k then a else f x

/-- Distance labels (`none` = not reached yet). A structure rather than a bare function so that the
compiled code evaluates every relaxation when it happens (a bare function would be a chain of
unevaluated closures). -/
structure Labels where
  get : Nat → Option Int

/-- Relax one arc. -/
def relaxArc (dist : Labels) (a : Arc) : Labels :=
  match dist.get a.1 with
  | none => dist
  | some du =>
    match dist.get a.2.1 with
    | none => ⟨upd dist.get a.2.1 (some (du + a.2.2))⟩
    | some dv => if du + a.2.2 < dv then ⟨upd dist.get a.2.1 (some (du + a.2.2))⟩ else dist

/-- One round: relax every arc once, in list order. -/
def relaxRound (arcs : List Arc) (dist : Labels) : Labels :=
  arcs.foldl relaxArc dist

def bfInit (src : Nat) : Labels := ⟨fun v => if v = src then some 0 else none⟩

def bfRounds (arcs : List Arc) : Nat → Labels → Labels
  | 0, d => d
  | k + 1, d => bfRounds arcs k (relaxRound arcs d)

/-- `n` rounds from `src` (`n - 1` suffice; the last one is a no-op). -/
def bf (g : Graph) (src : Nat) : Labels := bfRounds g.arcs g.n (bfInit src)

/-- Next hops that are admissible for destination `d`, given a distance oracle `D u v`:
out-neighbours `h` of `0` with `w(0,h) + D h d = D 0 d`. -/
def admissibleD (D : Nat → Nat → Option Int) (g : Graph) (d : Nat) : List Nat :=
  match D 0 d with
  | none => []
  | some dd =>
    g.arcs.filterMap fun a =>
      if a.1 = 0 then
        match D a.2.1 d with
        | some c => if a.2.2 + c = dd then some a.2.1 else none
        | none => none
      else none

def tableD (D : Nat → Nat → Option Int) (g : Graph) : Table :=
  (List.range g.n).filterMap fun d =>
    if d = 0 then none else (admissibleD D g d).head?.map fun h => (d, h)

def admissible (g : Graph) (d : Nat) : List Nat := admissibleD (fun u => (bf g u).get) g d

/-- The reference routing table: first admissible next hop for every reachable destination. -/
def refTable (g : Graph) : Table := tableD (fun u => (bf g u).get) g

/-! ## §3 Port of `dijkstra.Graph.Shortest` (v1.0.0)

`Shortest(src, dest)` = `setup(true, src, -1)`; `postSetupEvaluate`; `finally`/`bestPath`.
With fewer than 800 vertices `forceList(-1)` selects `linkedListNewLong()`, whose `PopOrdered` is
`popFront` of a list kept ascending by `pushOrdered`. The list holds *pointers* to vertices, so an
element's distance is always the vertex's current label: the port stores vertex ids and reads the
label from the state. `current.arcs` is a Go map: its iteration order is not specified, so the port
takes the adjacency lists (with their order) as an argument. `int64` additions are modelled in
`Int` (no wrap-around: assumption "path costs stay below 2^63"). -/

def maxInt64 : Int := 9223372036854775807

/-- `setDefaults(math.MaxInt64 - 2, -1)`. -/
def infDist : Int := maxInt64 - 2

structure LibSt where
  dist : Nat → Int              -- Verticies[v].distance
  pred : Nat → Option Nat       -- Verticies[v].bestVerticies[0]   (-1 ≙ none)
  best : Int                    -- g.best
  visitedDest : Bool            -- g.visitedDest
  visiting : List Nat           -- g.visiting, front first
  oldCurrent : Option Nat       -- oldCurrent (-1 ≙ none)

/-- The walk of `pushOrdered` from the front: stop at the first element whose label is not smaller
or which is `v` itself; found `v` ⇒ nothing inserted, otherwise insert before it. -/
def insertWalk (dist : Nat → Int) (v : Nat) : List Nat → List Nat
  | [] => [v]          -- unreachable: `pushOrdered` only walks when `back.distance ≥ v.distance`
  | c :: rest =>
    if dist c < dist v ∧ c ≠ v then c :: insertWalk dist v rest
    else if c = v then c :: rest
    else v :: c :: rest

/-- `linkedList.pushOrdered`. -/
def pushOrdered (dist : Nat → Int) (l : List Nat) (v : Nat) : List Nat :=
  match l.getLast? with
  | none => [v]
  | some back => if dist back < dist v then l ++ [v] else insertWalk dist v l

/-- A successful relaxation of the arc `cur → v` of cost `w`: new label and predecessor for `v`;
if `v` is the destination, `best` is updated and `v` is *not* pushed, otherwise `v` is pushed. -/
def relaxOne (dest cur v : Nat) (w : Int) (s : LibSt) : LibSt :=
  let s1 := { s with dist := upd s.dist v (s.dist cur + w), pred := upd s.pred v (some cur) }
  if v = dest then { s1 with best := s.dist cur + w, visitedDest := true }
  else { s1 with visiting := pushOrdered s1.dist s1.visiting v }

/-- The `for v, dist := range current.arcs` loop of `postSetupEvaluate`. `.error` is the
`newErrLoop` return. -/
def relaxArcs (dest cur : Nat) : List (Nat × Int) → LibSt → Except (Nat × Nat) LibSt
  | [], s => .ok s
  | (v, w) :: rest, s =>
    if s.dist cur + w < s.dist v then
      if s.pred cur = some v ∧ v ≠ dest then .error (cur, v)
      else relaxArcs dest cur rest (relaxOne dest cur v w s)
    else relaxArcs dest cur rest s

/-- The `for g.visiting.Len() > 0` loop. `none` = the fuel ran out; with `libFuel` this does not
happen (`Lemmas.libShortest_terminates`). -/
def evalLoop (adj : Nat → List (Nat × Int)) (dest : Nat) :
    Nat → LibSt → Except (Nat × Nat) (Option LibSt)
  | 0, s => .ok (if s.visiting.isEmpty then some s else none)
  | fuel + 1, s =>
    match s.visiting with
    | [] => .ok (some s)
    | cur :: rest =>
      let s := { s with visiting := rest }
      if s.oldCurrent = some cur then evalLoop adj dest fuel s
      else
        let s := { s with oldCurrent := some cur }
        if s.dist cur ≥ s.best then evalLoop adj dest fuel s
        else
          match relaxArcs dest cur (adj cur) s with
          | .error e => .error e
          | .ok s' => evalLoop adj dest fuel s'

/-- `bestPath`: follow `bestVerticies[0]` from `dest` back to `src`. `none`: the chain is broken
(Go would index `Verticies[-1]` and panic) or longer than the fuel. -/
def bestPathAux (pred : Nat → Option Nat) (src : Nat) : Nat → Nat → List Nat → Option (List Nat)
  | 0, _, _ => none
  | fuel + 1, c, acc =>
    if c = src then some (src :: acc)
    else
      match pred c with
      | none => none
      | some p => bestPathAux pred src fuel p (c :: acc)

inductive LibRes where
  | ok (distance : Int) (path : List Nat)
  | noPath
  | loopErr
  | outOfFuel
  | badPred
deriving Repr, DecidableEq

def libInit (src : Nat) : LibSt :=
  { dist := fun v => if v = src then 0 else infDist, pred := fun _ => none, best := maxInt64,
    visitedDest := false, visiting := [src], oldCurrent := none }

/-- `Graph.Shortest(src, dest)` on a graph with `n` vertices and adjacency lists `adj`. -/
def libShortest (fuel n : Nat) (adj : Nat → List (Nat × Int)) (src dest : Nat) : LibRes :=
  match evalLoop adj dest fuel (libInit src) with
  | .error _ => .loopErr
  | .ok none => .outOfFuel
  | .ok (some s) =>
    if s.visitedDest then
      match bestPathAux s.pred src (n + 1) dest [] with
      | some p => .ok (s.dist dest) p
      | none => .badPred
    else .noPath

/-- Adjacency lists of a graph, in arc-list order. -/
def adjOf (arcs : List Arc) (u : Nat) : List (Nat × Int) :=
  arcs.filterMap fun a => if a.1 = u then some (a.2.1, a.2.2) else none

/-- The fuel used for a graph. The Go loop has no bound; the port's bound is an upper bound of the
termination measure of the loop at its start (twice the sum of all labels plus the list length, see
`Lemmas.evalLoop_total`, `Lemmas.phi_libInit_le`), so it is never the reason for stopping: astronomically large, but the
loop ends as soon as the work list is empty. -/
def libFuel (g : Graph) : Nat := infDist.toNat * (2 * g.n + 1)

/-- `err == nil`, `len(Path) > 1`, next hop `Path[1]`. -/
def hopOf : LibRes → Option Nat
  | .ok _ (_ :: h :: _) => some h
  | _ => none

/-- `computeRoutingTable`'s use of the library: `Shortest(0, i)` and `hopOf`. -/
def libNextHop (g : Graph) (d : Nat) : Option Nat :=
  hopOf (libShortest (libFuel g) g.n (adjOf g.arcs) 0 d)

def libTable (g : Graph) : Table :=
  (List.range g.n).filterMap fun d =>
    if d = 0 then none else (libNextHop g d).map fun h => (d, h)

/-! ## §4 DTLSR state -/

/-- `bpv7.DTLSRPeerData`. Endpoint ids are abstracted to numbers; times are `DtnTime`
(milliseconds, `uint64`); in `peers` the value `0` means "currently connected", otherwise it is
the time of the connection loss. The Go maps are association lists here. -/
structure PeerData where
  id : Nat
  timestamp : Nat
  peers : List (Nat × Nat)
deriving Repr, DecidableEq

/-- `pd.ShouldReplace(other)`. -/
def shouldReplace (pd other : PeerData) : Bool := decide (pd.timestamp > other.timestamp)

/-- The `receivedData` part of `NotifyNewBundle`: store if nothing is stored for that node,
replace only if strictly newer. -/
def notifyData (r : Nat → Option PeerData) (d : PeerData) : Nat → Option PeerData :=
  match r d.id with
  | none => upd r d.id (some d)
  | some stored => if shouldReplace d stored then upd r d.id (some d) else r

/-- Does `NotifyNewBundle` change `receivedData` (and hence set `receivedChange`, track nodes)? -/
def notifyAccepts (r : Nat → Option PeerData) (d : PeerData) : Bool :=
  match r d.id with
  | none => true
  | some stored => shouldReplace d stored

structure State where
  peers : List (Nat × Nat)            -- dtlsr.peers.Peers
  received : Nat → Option PeerData    -- dtlsr.receivedData
  indexNode : List Nat                -- dtlsr.indexNode (nodeIndex = position; [0] = own node id)
  table : Table                       -- dtlsr.routingTable (endpoint level)
  peerChange : Bool
  receivedChange : Bool

def State.init (self : Nat) : State :=
  { peers := [], received := fun _ => none, indexNode := [self], table := [],
    peerChange := false, receivedChange := false }

/-- `newNode`. -/
def newNode (ix : List Nat) (id : Nat) : List Nat := if ix.contains id then ix else ix ++ [id]

/-- `NotifyNewBundle` for a bundle carrying a DTLSR block. New nodes are tracked: the sender (only
when it was unknown) and its peers. (Go iterates the peer map in unspecified order, so the index
numbers of peers first seen in the same block are not determined; nothing observable depends on
them.) -/
def State.notify (s : State) (d : PeerData) : State :=
  if notifyAccepts s.received d then
    let ix := if (s.received d.id).isNone then newNode s.indexNode d.id else s.indexNode
    { s with received := notifyData s.received d, receivedChange := true,
             indexNode := (d.peers.map (·.1)).foldl newNode ix }
  else s

def setKey (m : List (Nat × Nat)) (k v : Nat) : List (Nat × Nat) :=
  match m with
  | [] => [(k, v)]
  | (k', v') :: rest => if k' = k then (k, v) :: rest else (k', v') :: setKey rest k v

/-- `ReportPeerAppeared`. -/
def State.peerAppeared (s : State) (p : Nat) : State :=
  { s with indexNode := newNode s.indexNode p, peers := setKey s.peers p 0, peerChange := true }

/-- `ReportPeerDisappeared` at DTN time `now` (the node is *not* tracked here). -/
def State.peerDisappeared (s : State) (now p : Nat) : State :=
  { s with peers := setKey s.peers p now, peerChange := true }

/-- `purgePeers`: drop peers lost more than `purge` ms ago. -/
def State.purge (s : State) (now purge : Nat) : State :=
  let keep := s.peers.filter fun e => !(e.2 != 0 && decide (e.2 + purge < now))
  { s with peers := keep, peerChange := s.peerChange || decide (keep.length ≠ s.peers.length) }

def two64 : Nat := 18446744073709551616

/-- Go's `int64(x)` of a `uint64`. -/
def toInt64 (x : Nat) : Int :=
  if x % two64 < two64 / 2 then ((x % two64 : Nat) : Int) else ((x % two64 : Nat) : Int) - two64

/-- `if timestamp == 0 { 0 } else { int64(currentTime - timestamp) }` on `uint64` DTN times. -/
def edgeCost (now ts : Nat) : Int :=
  if ts = 0 then 0 else toInt64 ((now % two64 + two64 - ts % two64) % two64)

/-- `dtlsr.nodeIndex[id]` (a Go map: `0` for an unknown key). -/
def idxOf (ix : List Nat) (id : Nat) : Nat :=
  let i := ix.idxOf id
  if i < ix.length then i else 0

/-- `Vertex.AddArc`: overwrites an existing arc to the same destination. -/
def addArc (arcs : List Arc) (a : Arc) : List Arc :=
  arcs.filter (fun b => !(b.1 == a.1 && b.2.1 == a.2.1)) ++ [a]

def ownArcs (now : Nat) (s : State) : List Arc :=
  s.peers.map fun e => (0, idxOf s.indexNode e.1, edgeCost now e.2)

def recvArcs (now : Nat) (s : State) : List Arc :=
  s.indexNode.flatMap fun id =>
    match s.received id with
    | none => []
    | some d => d.peers.map fun e => (idxOf s.indexNode d.id, idxOf s.indexNode e.1, edgeCost now e.2)

/-- The graph `computeRoutingTable` builds at DTN time `now`. -/
def buildGraph (now : Nat) (s : State) : Graph :=
  { n := s.indexNode.length, arcs := (ownArcs now s ++ recvArcs now s).foldl addArc [] }

/-- Vertex-level table → endpoint-level table through `indexNode`. -/
def toEids (ix : List Nat) (t : Table) : Table :=
  t.map fun e => (ix.getD e.1 0, ix.getD e.2 0)

/-- `computeRoutingTable` with the reference shortest paths (a *fresh* table every time). -/
def State.computeRef (s : State) (now : Nat) : State :=
  { s with table := toEids s.indexNode (refTable (buildGraph now s)) }

/-- `computeRoutingTable` with the ported library loop. -/
def State.computeLib (s : State) (now : Nat) : State :=
  { s with table := toEids s.indexNode (libTable (buildGraph now s)) }

/-- `recomputeCron`. -/
def State.recompute (s : State) (now : Nat) : State :=
  if s.peerChange || s.receivedChange then { s.computeLib now with receivedChange := false } else s

/-! ## §5 Choosing convergence senders -/

/-- `filterCLAs`: convergence senders (given by their peer endpoint) that are not yet in the
bundle's sent list, and the extended sent list. -/
def filterCLAs (sent : List Nat) : List Nat → List Nat × List Nat
  | [] => ([], sent)
  | c :: cs =>
    if sent.contains c then filterCLAs sent cs
    else
      let r := filterCLAs (sent ++ [c]) cs
      (c :: r.1, r.2)

inductive Dest where
  | broadcast            -- dtn://routing/dtlsr/broadcast/
  | node (id : Nat)
deriving Repr, DecidableEq

structure Decision where
  senders : List Nat     -- peer endpoints of the chosen convergence senders
  delete : Bool          -- release the bundle after a successful transmission
  sent : List Nat        -- new value of the bundle's "routing/dtlsr/sent" list
deriving Repr, DecidableEq

/-- `DTLSR.SenderForBundle`. -/
def senderForBundle (table : Table) (clas sent : List Nat) : Dest → Decision
  | .broadcast =>
    let r := filterCLAs sent clas
    ⟨r.1, false, r.2⟩
  | .node d =>
    match lookup table d with
    | none => ⟨[], false, sent⟩
    | some fwd => if clas.contains fwd then ⟨[fwd], true, sent⟩ else ⟨[], false, sent⟩

/-- `Core.forward`: direct delivery (`senderForDestination`) if the destination is connected,
otherwise the routing algorithm decides. -/
def forwardTargets (table : Table) (clas sent : List Nat) (dest : Dest) : Decision :=
  match dest with
  | .node d =>
    let direct := clas.filter (· == d)
    if direct.isEmpty then senderForBundle table clas sent dest else ⟨direct, true, sent⟩
  | .broadcast => senderForBundle table clas sent dest

/-- Is the bundle released (all constraints purged) after the transmissions? `anyOk` = one of the
chosen senders reported success. -/
def released (d : Decision) (anyOk : Bool) : Bool := anyOk && d.delete

/-- `DTLSR.ReportFailure` for a broadcast bundle: the peer whose transmission failed is removed
from the bundle's sent list (first occurrence), so that the next forwarding run offers it again.
For other bundles it does nothing. -/
def reportFailure (sent : List Nat) (p : Nat) : List Nat := sent.erase p

/-- One forwarding run of a broadcast bundle: `SenderForBundle` chooses the connected peers that
are not in the sent list and records them; every chosen peer whose transmission fails
(`fails`) is taken out again by `ReportFailure`. Returns the peers the bundle was handed to and
the sent list afterwards. -/
def broadcastAttempt (sent clas fails : List Nat) : List Nat × List Nat :=
  let r := filterCLAs sent clas
  (r.1, (r.1.filter fails.contains).foldl reportFailure r.2)

/-- A history of forwarding runs of one broadcast bundle: each run sees the then connected senders
and has its own set of failing transmissions; the sent list is persisted in between. Returns all
transmissions in order, each with its outcome. -/
def broadcastLog (sent : List Nat) : List (List Nat × List Nat) → List (Nat × Bool)
  | [] => []
  | (clas, fails) :: later =>
    let a := broadcastAttempt sent clas fails
    a.1.map (fun p => (p, !fails.contains p)) ++ broadcastLog a.2 later

/-- **Spec for one forwarding run of a broadcast bundle** (independent of `filterCLAs`): given the
peers that already had the bundle when it arrived (`had0`) and the peers it was successfully
handed to in earlier runs (`succ`), the run must hand it to exactly the connected peers that are in
neither set — each once. So a peer is never served again after a success, and a peer whose
transmission failed is tried again. -/
def broadcastRunOk (had0 succ clas sends : List Nat) : Bool :=
  sends.all (fun p => clas.contains p && !had0.contains p && !succ.contains p) &&
  clas.all (fun c => had0.contains c || succ.contains c || sends.contains c) &&
  sends.all (fun p => sends.count p == 1)

/-! ### Spec for link-state reception (independent of `notifyData`) -/

/-- The largest timestamp of a list of updates (0 for none). -/
def maxTs (l : List PeerData) : Nat := l.foldl (fun m d => max m d.timestamp) 0

/-- Among the updates for node `id` (in arrival order) the one that must be stored at the end:
the earliest one carrying the maximal timestamp ("replaced only by NEWER data"). -/
def expectedStored (ups : List PeerData) (id : Nat) : Option PeerData :=
  let mine := ups.filter (·.id == id)
  mine.find? (·.timestamp == maxTs mine)

end Dtn7.Dtlsr
