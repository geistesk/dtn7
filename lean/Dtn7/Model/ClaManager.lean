/-
Model of dtn7's CLA manager (pkg/cla/manager.go, manager_elem.go) for property C16, and the Spec
predicates of C16 (section `Spec`, independent of the model: they only read observations).

What is mirrored
* `convergenceElem`  ↦ `Elem {conv, ttl, stop}`: `ttl < 0` is the encoding of "active"; `stop` is
  the state of the `stopSyn/stopAck` channel pair (`absent` = nil, `opened` = made by a successful
  `activate`, its `handler` goroutine is running, `closed` = closed by `deactivate`).
* `activate`/`deactivate`/`isActive`/`newConvergenceElement` statement by statement. Closing a nil
  or closed channel is an explicit `panic` outcome (`deactivate` returns `none`).
* `Manager.convs` (a `sync.Map` keyed by `Address()`) ↦ `reg : List Elem`, at most one element per
  address (an invariant, proved). Map iteration order is unspecified in Go; the model iterates in
  list order and every observation the Spec reads is per adapter, hence order independent.
* `registerConvergence`, `unregisterConvergence`, `Restart`, the three branches of `handler()`
  (retry ticker, `PeerDisappeared`, shutdown) and `Close` ↦ `register … close`.
* adapters are numbered; `Cfg` holds what the interface methods return (`Address`, sender and/or
  receiver, `IsPermanent`, `GetEndpointID`, `GetPeerEndpointID`); the answers of successive
  `Start()` calls come from `Env.script adapter callIndex`.
* every `Start()`/`Close()` call on an adapter and every operation is appended to `hist` (newest
  first) — the observation log the Spec speaks about.

`Env.fixed = false` is the code before the `fix:` commit for D13 (the ttl is decremented on every
retryable failure, also at 0).
-/
namespace Dtn7.ClaManager

/-- The answer of one `Convergence.Start()` call: `(nil, _)`, `(err, true)`, `(err, false)`. -/
inductive Ans | ok | failRetry | failNoRetry
  deriving DecidableEq, Repr

inductive Op
  | register (a : Nat) | unregister (a : Nat) | restart (a : Nat)
  | tick | peerDisappeared (a : Nat) | close
  deriving DecidableEq, Repr

/-- One entry of the observation log: an operation begins, `Start()` of adapter `a` answered `r`,
`Close()` of adapter `a` was called. -/
inductive Item | op (o : Op) | start (a : Nat) (r : Ans) | stop (a : Nat)
  deriving DecidableEq, Repr

/-- Newest entry first. -/
abbrev Hist := List Item

structure Cfg where
  addr : Nat
  sender : Bool
  receiver : Bool
  permanent : Bool
  eid : Nat
  peer : Nat
  deriving DecidableEq, Repr

structure Env where
  cfg : Nat → Cfg
  script : Nat → Nat → Ans
  /-- `Manager.queueTtl` -/
  budget : Nat
  /-- the D13 repair is present -/
  fixed : Bool := true

inductive Chan | absent | opened | closed
  deriving DecidableEq, Repr

structure Elem where
  conv : Nat
  ttl : Int
  stop : Chan
  deriving DecidableEq, Repr

/-- `isActive` -/
def Elem.active (e : Elem) : Bool := decide (e.ttl < 0)

/-- how often `Start()` of adapter `a` has been called -/
def startCount (a : Nat) : Hist → Nat
  | [] => 0
  | .start a' _ :: h => (if a' = a then 1 else 0) + startCount a h
  | _ :: h => startCount a h

structure ActRes where
  elem : Elem
  hist : Hist
  succ : Bool
  retry : Bool

/-- `convergenceElem.activate` -/
def activate (env : Env) (e : Elem) (h : Hist) : ActRes :=
  if e.ttl < 0 then ⟨e, h, false, false⟩
  else if e.ttl = 0 ∧ (env.cfg e.conv).permanent = false then ⟨e, h, false, false⟩
  else
    match env.script e.conv (startCount e.conv h) with
    | .ok => ⟨{ e with ttl := -1, stop := .opened }, .start e.conv .ok :: h, true, false⟩
    | .failRetry =>
      let ttl' := if env.fixed then (if 0 < e.ttl then e.ttl - 1 else e.ttl) else e.ttl - 1
      ⟨{ e with ttl := ttl' }, .start e.conv .failRetry :: h, false, true⟩
    | .failNoRetry => ⟨{ e with ttl := 0 }, .start e.conv .failNoRetry :: h, false, false⟩

/-- `convergenceElem.deactivate(queueTtl)`; `none` = run-time panic (close of a nil or closed
channel). -/
def deactivate (env : Env) (e : Elem) (h : Hist) : Option (Elem × Hist) :=
  if e.ttl < 0 then
    match e.stop with
    | .opened => some ({ e with ttl := env.budget, stop := .closed }, .stop e.conv :: h)
    | _ => none
  else some (e, h)

structure State where
  reg : List Elem := []
  hist : Hist := []
  /-- `Close` has been called (stopFlag set, handler gone) -/
  closed : Bool := false
  panicked : Bool := false

def addrOf (env : Env) (e : Elem) : Nat := (env.cfg e.conv).addr

def lookup (env : Env) (addr : Nat) (reg : List Elem) : Option Elem :=
  reg.find? (fun e => addrOf env e == addr)

def remove (env : Env) (addr : Nat) (reg : List Elem) : List Elem :=
  reg.filter (fun e => addrOf env e != addr)

def replace (env : Env) (e' : Elem) (reg : List Elem) : List Elem :=
  reg.map (fun e => if addrOf env e == addrOf env e' then e' else e)

/-- "this CLA is a sender to a registered receiver": `Receiver()` lists the active ones only. -/
def refused (env : Env) (reg : List Elem) (c : Nat) : Bool :=
  (env.cfg c).sender &&
    reg.any (fun r => r.active && (env.cfg r.conv).receiver && (env.cfg r.conv).eid == (env.cfg c).peer)

/-- `Register` → `registerConvergence` -/
def register (env : Env) (s : State) (a : Nat) : State :=
  if s.closed then s else
  match lookup env (env.cfg a).addr s.reg with
  | some e =>
    -- the OLD element (and its wrapped instance) is re-activated, `a` itself is ignored
    if e.ttl < 0 then s
    else if refused env s.reg e.conv then s
    else
      let r := activate env e s.hist
      { s with reg := replace env r.elem s.reg, hist := r.hist }
  | none =>
    if refused env s.reg a then s
    else
      let r := activate env ⟨a, env.budget, .absent⟩ s.hist
      if !r.succ && !r.retry then { s with hist := r.hist }
      else { s with reg := s.reg ++ [r.elem], hist := r.hist }

/-- `Unregister` → `unregisterConvergence` -/
def unregister (env : Env) (s : State) (a : Nat) : State :=
  match lookup env (env.cfg a).addr s.reg with
  | none => s
  | some e =>
    if e.conv ≠ a then s
    else
      match deactivate env e s.hist with
      | none => { s with panicked := true }
      | some (_, h) => { s with reg := remove env (env.cfg a).addr s.reg, hist := h }

/-- `Restart` -/
def restart (env : Env) (s : State) (a : Nat) : State :=
  let s₁ := unregister env s a
  if s₁.panicked then s₁ else register env s₁ a

/-- the retry pass of `handler()` over the elements -/
def tickList (env : Env) : List Elem → Hist → List Elem × Hist
  | [], h => ([], h)
  | e :: es, h =>
    if e.ttl < 0 then
      let r := tickList env es h
      (e :: r.1, r.2)
    else
      let res := activate env e h
      let r := tickList env es res.hist
      if !res.succ && !res.retry then r else (res.elem :: r.1, r.2)

def tick (env : Env) (s : State) : State :=
  if s.closed then s else
  let r := tickList env s.reg s.hist
  { s with reg := r.1, hist := r.2 }

/-- shutdown branch of `handler()`: `Unregister` every element -/
def closeAll (env : Env) : List Elem → Hist → Option Hist
  | [], h => some h
  | e :: es, h =>
    match deactivate env e h with
    | none => none
    | some (_, h') => closeAll env es h'

/-- `Close`: a second call closes the closed `stopSyn` channel. -/
def close (env : Env) (s : State) : State :=
  if s.closed then { s with panicked := true }
  else
    match closeAll env s.reg s.hist with
    | none => { s with closed := true, panicked := true }
    | some h => { s with reg := [], hist := h, closed := true }

def step (env : Env) (s : State) (o : Op) : State :=
  if s.panicked then s else
  let s := { s with hist := .op o :: s.hist }
  match o with
  | .register a => register env s a
  | .unregister a => unregister env s a
  | .restart a => restart env s a
  | .tick => tick env s
  | .peerDisappeared a => if s.closed then s else restart env s a
  | .close => close env s

def run (env : Env) (s : State) : List Op → State
  | [] => s
  | o :: os => run env (step env s o) os

/-! ### Observations -/

inductive Outcome | ok | panic | deadlock
  deriving DecidableEq, Repr

/-- What is visible after one operation: the log so far (it contains this operation's marker and
its `Start`/`Close` calls), `Sender()`, `Receiver()`, and whether the operation returned. -/
structure Obs where
  op : Op
  hist : Hist
  senders : List Nat
  receivers : List Nat
  outcome : Outcome

def sendersOf (env : Env) (s : State) : List Nat :=
  (s.reg.filter (fun e => e.active && (env.cfg e.conv).sender)).map (·.conv)

def receiversOf (env : Env) (s : State) : List Nat :=
  (s.reg.filter (fun e => e.active && (env.cfg e.conv).receiver)).map (·.conv)

def obsOf (env : Env) (o : Op) (s : State) : Obs :=
  if s.panicked then ⟨o, s.hist, [], [], .panic⟩
  else ⟨o, s.hist, sendersOf env s, receiversOf env s, .ok⟩

/-- The observations of a trace; it ends with the first panic. -/
def runObs (env : Env) (s : State) : List Op → List Obs
  | [] => []
  | o :: os =>
    let s' := step env s o
    obsOf env o s' :: (if s'.panicked then [] else runObs env s' os)

/-! ### Spec: predicates on observations only (no `Env.script`, no model state) -/
namespace Spec

/-- the most recent `Start` of `a` succeeded and `a` was not closed since -/
def running (a : Nat) : Hist → Bool
  | [] => false
  | .start a' r :: h => if a' = a then decide (r = .ok) else running a h
  | .stop a' :: h => if a' = a then false else running a h
  | .op _ :: h => running a h

/-- adapters with at least one `Start`/`Close` call -/
def adapters : Hist → List Nat
  | [] => []
  | .start a _ :: h => a :: adapters h
  | .stop a :: h => a :: adapters h
  | .op _ :: h => adapters h

/-- the log before the current operation -/
def prev : Hist → Hist
  | [] => []
  | .op _ :: h => h
  | _ :: h => prev h

/-- `Start` calls of `a` during the current operation -/
def startsInStep (a : Nat) : Hist → Nat
  | [] => 0
  | .op _ :: _ => 0
  | .start a' _ :: h => (if a' = a then 1 else 0) + startsInStep a h
  | .stop _ :: h => startsInStep a h

/-- **listed ⇔ started**: an adapter is listed by `Sender()` (`Receiver()`) exactly if it is a
sender (receiver) whose most recent start succeeded and which was not stopped since. -/
def activeIffStarted (cfg : Nat → Cfg) (o : Obs) : Bool :=
  (o.senders ++ o.receivers ++ adapters o.hist).all fun a =>
    (o.senders.contains a == (running a o.hist && (cfg a).sender)) &&
    (o.receivers.contains a == (running a o.hist && (cfg a).receiver))

/-- `Start` only on an adapter that is not running, `Close` only on a running one: every successful
start is closed at most once, nothing else is ever closed. -/
def discipline : Hist → Bool
  | [] => true
  | .start a _ :: h => !running a h && discipline h
  | .stop a :: h => running a h && discipline h
  | .op _ :: h => discipline h

def allStopped (h : Hist) : Bool := (adapters h).all fun a => !running a h

/-- successful `Start()` calls / `Close()` calls of adapter `a` -/
def okStarts (a : Nat) : Hist → Nat
  | [] => 0
  | .start a' r :: h => (if a' = a ∧ r = .ok then 1 else 0) + okStarts a h
  | _ :: h => okStarts a h

def stops (a : Nat) : Hist → Nat
  | [] => 0
  | .stop a' :: h => (if a' = a then 1 else 0) + stops a h
  | _ :: h => stops a h

/-- **close stops every started adapter exactly once** (with `discipline`) -/
def closeStops (o : Obs) : Bool :=
  !(o.op == .close) || allStopped o.hist

/-- the operation (re-)registers an adapter with `a`'s address -/
def registers (cfg : Nat → Cfg) (a : Nat) : Op → Bool
  | .register x => (cfg x).addr == (cfg a).addr
  | .restart x => (cfg x).addr == (cfg a).addr
  | .peerDisappeared x => (cfg x).addr == (cfg a).addr
  | _ => false

/-- start attempts a non-permanent adapter may still get: `b` from each (re-)registration of its
address, one less after each retryable failure, none after a success or a definitive failure. -/
def left (cfg : Nat → Cfg) (b : Nat) (a : Nat) : Hist → Nat
  | [] => 0
  | .op o :: h => if registers cfg a o then b else left cfg b a h
  | .start a' r :: h =>
    if a' = a then (match r with | .failRetry => left cfg b a h - 1 | _ => 0) else left cfg b a h
  | .stop _ :: h => left cfg b a h

def budgetOk (cfg : Nat → Cfg) (b : Nat) (a : Nat) : Hist → Bool
  | [] => true
  | .start a' _ :: h => (!(a' == a) || decide (0 < left cfg b a h)) && budgetOk cfg b a h
  | _ :: h => budgetOk cfg b a h

/-- **retry budget**: between two (re-)registrations of its address a non-permanent adapter is
started at most `b` times, and not again after `b` retryable failures, a success or a definitive
failure ("forgotten"). -/
def budgetRespected (cfg : Nat → Cfg) (b : Nat) (h : Hist) : Bool :=
  (adapters h).all fun a => (cfg a).permanent || budgetOk cfg b a h

/-- the operation takes adapter `a` (or the whole manager) down -/
def clears (a : Nat) : Op → Bool
  | .unregister x => x == a
  | .restart x => x == a
  | .peerDisappeared x => x == a
  | .close => true
  | _ => false

/-- adapter `a` waits for a retry: its last `Start` failed retryably and neither it nor the
manager was taken down since. -/
def pending (a : Nat) : Hist → Bool
  | [] => false
  | .op o :: h => !clears a o && pending a h
  | .start a' r :: h => if a' = a then decide (r = .failRetry) else pending a h
  | .stop a' :: h => if a' = a then false else pending a h

/-- **permanent adapters are retried for ever**: at every retry tick each waiting permanent adapter
is started exactly once. -/
def permanentRetried (cfg : Nat → Cfg) (o : Obs) : Bool :=
  !(o.op == .tick) ||
    (adapters (prev o.hist)).all fun a =>
      !((cfg a).permanent && pending a (prev o.hist)) || startsInStep a o.hist == 1

/-- `Close` calls of `a` during the current operation -/
def stopsInStep (a : Nat) : Hist → Nat
  | [] => 0
  | .op _ :: _ => 0
  | .stop a' :: h => (if a' = a then 1 else 0) + stopsInStep a h
  | .start _ _ :: h => stopsInStep a h

/-- `a` is a sender whose peer endpoint is the endpoint of another, running receiver (the manager
refuses to register such a sender) -/
def peerIsReceiver (cfg : Nat → Cfg) (a : Nat) (h : Hist) : Bool :=
  (cfg a).sender && (adapters h).any fun r =>
    r != a && running r h && (cfg r).receiver && (cfg r).eid == (cfg a).peer

/-- **a reported peer loss (or `Restart`) restarts a running adapter**: it is closed exactly once
and then started exactly once — not started only if it is refused as a sender to a registered
receiver, or if the budget is 0 and it is not permanent. -/
def restartRestarts (cfg : Nat → Cfg) (b : Nat) (o : Obs) : Bool :=
  match o.op with
  | .restart a | .peerDisappeared a =>
    !running a (prev o.hist) ||
      (stopsInStep a o.hist == 1 &&
        startsInStep a o.hist ==
          (if peerIsReceiver cfg a (prev o.hist) || (b == 0 && !(cfg a).permanent) then 0 else 1))
  | _ => true

/-- **no panic, no dead-lock**; calling `Close` a second time is outside the property. -/
def noPanic (o : Obs) : Bool :=
  match o.outcome with
  | .ok => true
  | .deadlock => false
  | .panic => o.op == .close && (prev o.hist).contains (.op .close)

/-- **one instance per address** is running at any time -/
def singleInstance (cfg : Nat → Cfg) (h : Hist) : Bool :=
  (adapters h).all fun a => (adapters h).all fun a' =>
    a == a' || !((cfg a).addr == (cfg a').addr) || !(running a h && running a' h)

/-- adapter `a` is registered: its address was (re-)registered and `a` was not taken down since
(`Unregister`, `Close`; `Restart` and a reported peer loss take it down and register it again) -/
def registeredIn (cfg : Nat → Cfg) (a : Nat) : Hist → Bool
  | [] => false
  | .op o :: h => registers cfg a o || (!clears a o && registeredIn cfg a h)
  | _ :: h => registeredIn cfg a h

/-- **an unregistered adapter is left alone**: the manager calls `Start` only on an adapter that is
registered at that moment — neither the retry ticker nor anything else revives an adapter after
`Unregister` or after the manager was closed. -/
def startedOnlyRegistered (cfg : Nat → Cfg) : Hist → Bool
  | [] => true
  | .start a _ :: h => registeredIn cfg a h && startedOnlyRegistered cfg h
  | _ :: h => startedOnlyRegistered cfg h

/-- The clauses checked on one observation (`startedOnlyRegistered` reads the log alone and is not
among them). -/
def obsOk (cfg : Nat → Cfg) (b : Nat) (o : Obs) : Bool :=
  noPanic o &&
  (o.outcome != .ok ||
    (activeIffStarted cfg o && discipline o.hist && closeStops o && budgetRespected cfg b o.hist &&
      permanentRetried cfg o && singleInstance cfg o.hist && restartRestarts cfg b o))

end Spec

end Dtn7.ClaManager
