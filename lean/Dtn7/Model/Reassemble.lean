/-
Model of bundle reassembly over intervals
  pkg/bpv7/fragmentation.go   prepareReassembly, IsBundleReassemblable, mergeFragmentPayload,
                              ReassembleFragments
  pkg/storage/bundle_item.go  BundleItem.IsComplete / Load (call the two functions above on the parts)

A fragment is its fragment flag, offset, total data length, payload bytes and the list of extension
blocks it carries (identified by their type codes). Core-only.
-/
namespace Dtn7.Frag

/-- A fragment as seen by reassembly. -/
structure RFrag where
  isFrag : Bool
  off : Nat
  total : Nat
  data : List UInt8
  blocks : List Nat
deriving Repr, DecidableEq

def RFrag.stop (f : RFrag) : Nat := f.off + f.data.length

/-! ### Sorting: `sort.Slice(bs, off_i < off_j)`

Go's `sort.Slice` is not stable. The model sorts with a (stable) insertion sort; the theorems are
proved for *every* arrangement of the input that is sorted by offset (`SortedOff`), so they cover any
tie order an unstable sort may produce. -/

def insertOff (f : RFrag) : List RFrag → List RFrag
  | [] => [f]
  | g :: gs => if f.off < g.off then f :: g :: gs else g :: insertOff f gs

def sortOff : List RFrag → List RFrag
  | [] => []
  | f :: fs => insertOff f (sortOff fs)

/-- Sorted by offset (ascending, ties in any order). -/
def SortedOff : List RFrag → Prop
  | [] => True
  | f :: fs => (∀ g ∈ fs, f.off ≤ g.off) ∧ SortedOff fs

inductive PErr where
  | empty          -- "slice of fragments is empty"
  | notFragment    -- "bundle is not a fragment"
  | gap            -- "next fragment starts at offset …, gap from … to …"
  | totalMismatch  -- "last index is … and does not match total length of …"
deriving Repr, DecidableEq

/-- The sweep of `prepareReassembly` over the sorted slice with the running end index `last`.
`maxEnd = true` is the code after the D3 repair (`last` only ever grows); `false` is the code before it
(`last` overwritten by the end of the current fragment). -/
def sweep (maxEnd : Bool) : Nat → List RFrag → Except PErr Nat
  | last, [] => .ok last
  | last, f :: fs =>
    if !f.isFrag then .error .notFragment
    else if f.off > last then .error .gap
    else sweep maxEnd (if maxEnd then max last f.stop else f.stop) fs

/-- `prepareReassembly` on an already sorted slice. -/
def checkSorted (maxEnd : Bool) (s : List RFrag) : Except PErr Unit :=
  match s with
  | [] => .error .empty
  | f :: _ =>
    match sweep maxEnd 0 s with
    | .error e => .error e
    | .ok last => if f.total != last then .error .totalMismatch else .ok ()

def prepareReassembly (maxEnd : Bool) (bs : List RFrag) : Except PErr Unit :=
  checkSorted maxEnd (sortOff bs)

def isReassemblable (maxEnd : Bool) (bs : List RFrag) : Bool :=
  match prepareReassembly maxEnd bs with
  | .ok _ => true
  | .error _ => false

/-- Go's `data[k:]`: a checked operation, `none` is the run-time panic "slice bounds out of range". -/
def sliceFrom (d : List UInt8) (k : Nat) : Option (List UInt8) :=
  if k ≤ d.length then some (d.drop k) else none

/-- `mergeFragmentPayload` over the sorted slice: `acc` is the payload rebuilt so far, `last` the
running end index. `none` = panic. With `maxEnd` a fragment that ends at or before `last` contributes
nothing and is skipped; without it every fragment is sliced at `last - off` (negative ⇒ panic too). -/
def merge (maxEnd : Bool) : Nat → List UInt8 → List RFrag → Option (List UInt8)
  | _, acc, [] => some acc
  | last, acc, f :: fs =>
    if maxEnd && f.stop ≤ last then merge maxEnd last acc fs
    else if last < f.off then none
    else
      match sliceFrom f.data (last - f.off) with
      | none => none
      | some d => merge maxEnd f.stop (acc ++ d) fs

inductive RRes where
  | error (e : PErr)
  | panic
  | ok (payload : List UInt8) (blocks : List Nat)
deriving Repr, DecidableEq

/-- `ReassembleFragments` on an already sorted slice: payload and the extension blocks of `bs[0]`. -/
def reassembleSorted (maxEnd : Bool) (s : List RFrag) : RRes :=
  match checkSorted maxEnd s with
  | .error e => .error e
  | .ok _ =>
    match merge maxEnd 0 [] s with
    | none => .panic
    | some p => .ok p (match s with | f :: _ => f.blocks | [] => [])

def reassemble (maxEnd : Bool) (bs : List RFrag) : RRes := reassembleSorted maxEnd (sortOff bs)

/-! ### The store: `storage.Store.Push` for fragments, `BundleItem.IsComplete` / `Load`

The parts of a fragmented item are keyed by (offset, total). `keepLonger = true` is `Push` of
/repo: a fragment whose key is known replaces the stored one if its payload is longer
(`Dtn7.Gen.C08.pushReplacesIfLonger`). `false` is the variant in which the fragment that arrived first
stays; `Dtn7.Props.C10.old_store_witness` runs it. -/

def storePush (keepLonger : Bool) : List RFrag → RFrag → List RFrag
  | [], f => [f]
  | g :: gs, f =>
    if g.off == f.off && g.total == f.total then
      (if keepLonger && g.data.length < f.data.length then f :: gs else g :: gs)
    else g :: storePush keepLonger gs f

/-- The parts held after pushing the fragments in the given order. -/
def storeParts (keepLonger : Bool) (fs : List RFrag) : List RFrag := fs.foldl (storePush keepLonger) []

/-- `BundleItem.IsComplete` of a fragmented item. -/
def storeIsComplete (keepLonger maxEnd : Bool) (fs : List RFrag) : Bool :=
  isReassemblable maxEnd (storeParts keepLonger fs)

/-- `BundleItem.Load`. -/
def storeLoad (keepLonger maxEnd : Bool) (fs : List RFrag) : RRes :=
  reassemble maxEnd (storeParts keepLonger fs)

/-! ### Spec -/

/-- The intervals `[off, off+len)` of the fragments together are exactly `[0, total)`. -/
def Covers (fs : List RFrag) (total : Nat) : Prop :=
  (∀ f ∈ fs, f.stop ≤ total) ∧ ∀ k, k < total → ∃ f ∈ fs, f.off ≤ k ∧ k < f.stop

instance (fs : List RFrag) (total : Nat) : Decidable (Covers fs total) := by
  unfold Covers; infer_instance

/-- `f` is a fragment of a bundle with payload `p`: flag set, total = `|p|`, bytes = the slice of `p`
at its offset. (Identity fields are not modelled here: the harness groups by bundle.) -/
def FragOf (p : List UInt8) (f : RFrag) : Prop :=
  f.isFrag = true ∧ f.total = p.length ∧ f.stop ≤ p.length ∧ f.data = (p.drop f.off).take f.data.length

instance (p : List UInt8) (f : RFrag) : Decidable (FragOf p f) := by
  unfold FragOf; infer_instance

end Dtn7.Frag
