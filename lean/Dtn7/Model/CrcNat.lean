/-
CRC-16/X-25 and CRC-32C (Castagnoli), table-free, bit-serial, reflected — the two checksums of
pkg/bpv7/crc.go (`howeyc/crc16` with the CCITT table, `hash/crc32` with the Castagnoli table).
Minimal and executable. The error-detection theorems of property C03 are about the separate bit-vector
definitions of `Model/CrcSpec.lean`; no theorem relates those to the functions defined here.
-/
namespace Dtn7.CrcNat

/-- One reflected shift step: the low bit decides whether the polynomial is folded in. -/
@[inline] def bitStep (poly s : Nat) : Nat :=
  if s % 2 = 1 then (s / 2) ^^^ poly else s / 2

/-- Feed one byte (LSB first). -/
def byteStep (poly s : Nat) (b : UInt8) : Nat :=
  let s := s ^^^ b.toNat
  bitStep poly (bitStep poly (bitStep poly (bitStep poly
    (bitStep poly (bitStep poly (bitStep poly (bitStep poly s)))))))

def poly16 : Nat := 0x8408
def poly32c : Nat := 0x82F63B78

/-- CRC-16/X-25: init 0xFFFF, reflected 0x1021, final complement. -/
def crc16 (d : List UInt8) : Nat := (d.foldl (byteStep poly16) 0xFFFF) ^^^ 0xFFFF

/-- CRC-32C: init 0xFFFFFFFF, reflected 0x1EDC6F41, final complement. -/
def crc32c (d : List UInt8) : Nat := (d.foldl (byteStep poly32c) 0xFFFFFFFF) ^^^ 0xFFFFFFFF

/-- "123456789" -/
def checkInput : List UInt8 := [0x31, 0x32, 0x33, 0x34, 0x35, 0x36, 0x37, 0x38, 0x39]

end Dtn7.CrcNat
