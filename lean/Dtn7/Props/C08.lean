/-
C08 — the bundle store behaves like a durable map and survives restarts and crashes.
The property theorems; the lemmas behind them are in `Dtn7.Lemmas.Store` (invariant, refinement, crash
points), `StoreCovers` and `StoreFrag` (fragments, concurrent pushes) and `StoreSpec` (the reference map).
`read_back`, `same_offset_longer_wins`, `crash_in_sweep` and `no_stuck` are proved here from those.

Reading guide. `parse` is the bundle parser (property C01), of which only `WF parse b` — "a reader at
the start of `b`'s encoding returns `b`, whatever follows" — is used for pushed bundles.
`Inv' parse s` is the invariant of every reachable state *including* states left by a process kill
(the index is a map, every index entry's files exist and parse to that entry's parts; unreferenced
files are allowed); `Inv parse s` additionally has no unreferenced file (states reached without a
kill). `abs parse s` is what a reader sees: `Id ↦ Record` with the bytes read back per part.
-/
import Dtn7.Lemmas.StoreSpec
import Dtn7.Gen.C08

namespace Dtn7.Props.C08
open Dtn7.Store Dtn7.Store.Lemmas

/-! ### The tie: facts regenerated from `pkg/storage/*.go` that the model relies on -/

theorem gen_no_failures : Dtn7.Gen.C08.extractionFailures = [] := rfl

/-- Micro-step order (codes: 1 Lock, 2 deferred Unlock, 3 QueryId, 4 storeBundle, 5 bh.Insert,
6 bh.Update, 7 deleteBundle, 8 bh.Delete, 9 bh.Find, 11 Store.Delete, 12 os.Remove, 13 os.OpenFile,
14 WriteBundle, 15 os.Open, 16 ParseBundle, 20 BundlePart.Load, 21 fragmentPayloadLen,
22 replaceBundle, 23 os.Rename, 24 f.Close): `Push` = query; write file; insert | load the stored
fragment; compare payload lengths; replaceBundle | write file; update — `Delete` = query; index
delete; file removals — `ReplaceBundle` = query; replaceBundle — `replaceBundle` = open the
temporary file; write; close; (remove it on error); rename — as in `Dtn7.Store.plan`. -/
theorem gen_step_order :
    Dtn7.Gen.C08.pushOrder = [1, 2, 3, 4, 5, 20, 21, 21, 22, 4, 6] ∧
    Dtn7.Gen.C08.replaceOpOrder = [3, 22] ∧
    Dtn7.Gen.C08.replaceFileOrder = [13, 14, 24, 24, 12, 23] ∧
    Dtn7.Gen.C08.updateOrder = [1, 2, 6] ∧
    Dtn7.Gen.C08.deleteOrder = [1, 2, 3, 8, 7] ∧
    Dtn7.Gen.C08.deleteExpiredOrder = [9, 11] ∧
    Dtn7.Gen.C08.storeBundleOrder = [13, 14] ∧
    Dtn7.Gen.C08.deleteBundleOrder = [12] ∧
    Dtn7.Gen.C08.partLoadOrder = [15, 16] ∧
    Dtn7.Gen.C08.queryIdOrder = [10] ∧ Dtn7.Gen.C08.queryPendingOrder = [9] ∧
    Dtn7.Gen.C08.knowsBundleOrder = [3] := by and_intros <;> rfl

/-- Lock discipline: `Push`, `Update`, `Delete` start with `mutex.Lock(); defer mutex.Unlock()`, have
no other lock operation and no `go` statement, so each of their index accesses (function·100 + call
code) is made while the mutex is held: the critical sections are atomic w.r.t. each other, which is
what `tstep true` models. -/
theorem gen_locks :
    Dtn7.Gen.C08.lockTable =
      [(103, true), (105, true), (106, true), (206, true), (303, true), (308, true), (403, false)] ∧
    ∀ a ∈ Dtn7.Gen.C08.lockTable, a.1 / 100 ≠ 4 → a.2 = true := by decide

/-- `ReplaceBundle` (function 4) takes no lock. Its only index access is the read `QueryId` (403);
it writes no index entry (no code 5, 6, 8 in `replaceOpOrder`); what it changes is one part file,
through `replaceBundle`: temporary file (created/truncated, written, closed), then `os.Rename` —
the atomic step `renameTmp` of the model. So it cannot disturb the read-modify-write of `Parts`
that the mutex protects; concurrent `ReplaceBundle`/`Push`-replacements of the *same* part share the
temporary file name (not modelled: the property's schedules are concurrent pushes of *different*
fragments). -/
theorem gen_replace_unlocked :
    (403, false) ∈ Dtn7.Gen.C08.lockTable ∧
    (∀ c ∈ Dtn7.Gen.C08.replaceOpOrder, c ≠ 5 ∧ c ≠ 6 ∧ c ≠ 8) ∧
    Dtn7.Gen.C08.replaceTruncatesTmp = true ∧ Dtn7.Gen.C08.replaceWritesTmpThenRenames = true ∧
    Dtn7.Gen.C08.replaceOpMatchesOffsetTotal = true ∧ Dtn7.Gen.C08.pushReplacesIfLonger = true := by
  decide

/-- Part files are created if missing and written from offset 0 without truncation (`overwrite`). -/
theorem gen_open_flags :
    Dtn7.Gen.C08.storeCreates = true ∧ Dtn7.Gen.C08.storeWriteOnly = true ∧
    Dtn7.Gen.C08.storeTruncates = false ∧ Dtn7.Gen.C08.storeAppends = false ∧
    Dtn7.Gen.C08.storeExclusive = false := by and_intros <;> rfl

/-- Index key = scrubbed id; file name = SHA-256 of the full id string; part carries offset/total;
new items are not pending; de-duplication compares offset and total; the two queries. -/
theorem gen_naming_guards :
    Dtn7.Gen.C08.keyIsScrubbedId = true ∧ Dtn7.Gen.C08.queryScrubs = true ∧
    Dtn7.Gen.C08.fileNameFromFullId = true ∧ Dtn7.Gen.C08.fileNameIsSha256OfIdString = true ∧
    Dtn7.Gen.C08.partCarriesOffsetTotal = true ∧ Dtn7.Gen.C08.newItemNotPending = true ∧
    Dtn7.Gen.C08.newItemFragmentedFlag = true ∧ Dtn7.Gen.C08.dedupByOffsetAndTotal = true ∧
    Dtn7.Gen.C08.pushAppendsPart = true ∧ Dtn7.Gen.C08.pushUpdatesStoredItem = true ∧
    Dtn7.Gen.C08.pushInsertsNewItem = true ∧ Dtn7.Gen.C08.pendingQuery = true ∧
    Dtn7.Gen.C08.expiredQuery = true ∧ Dtn7.Gen.C08.knowsIsNotNotFound = true ∧
    Dtn7.Gen.C08.updateWritesGivenItem = true ∧ Dtn7.Gen.C08.loadDirectIfUnfragmented = true ∧
    Dtn7.Gen.C08.completeIfUnfragmented = true := by and_intros <;> rfl

/-- The control skeletons of the three mutating functions (logging removed). -/
theorem gen_update_skeleton : Dtn7.Gen.C08.updateSkeleton =
    ["s.mutex.Lock()", "defer s.mutex.Unlock()", "return s.bh.Update(bi.Id, bi)"] := rfl

theorem gen_delete_skeleton : Dtn7.Gen.C08.deleteSkeleton =
    ["s.mutex.Lock()",
     "defer s.mutex.Unlock()",
     "if bi, err := s.QueryId(bid); err == nil",
     "  verifPoint(\"delete:before-index\")",
     "  if err := s.bh.Delete(bi.Id, BundleItem{}); err != nil",
     "    return err",
     "  for _, bp := range bi.Parts",
     "    verifPoint(\"delete:before-remove\")",
     "    if err := bp.deleteBundle(); err != nil",
     "    verifPoint(\"delete:file-removed\")",
     "return nil"] := rfl

theorem gen_replace_skeletons :
    Dtn7.Gen.C08.replaceOpSkeleton =
      ["bid := b.ID()",
       "bi, err := s.QueryId(bid)",
       "if err != nil",
       "  return err",
       "for _, part := range bi.Parts",
       "  if part.FragmentOffset == bid.FragmentOffset && part.TotalDataLength == bid.TotalDataLength",
       "    return part.replaceBundle(b)",
       "return fmt.Errorf(\"store has no part for bundle %v\", bid)"] ∧
    Dtn7.Gen.C08.replaceFileSkeleton =
      ["tmpFilename := bp.Filename + \".tmp\"",
       "f, err := os.OpenFile(tmpFilename, os.O_WRONLY|os.O_CREATE|os.O_TRUNC, 0600)",
       "if err != nil",
       "  return err",
       "if err = b.WriteBundle(f); err != nil",
       "  _ = f.Close()",
       "else",
       "  err = f.Close()",
       "if err != nil",
       "  _ = os.Remove(tmpFilename)",
       "  return err",
       "verifPoint(\"replace:tmp-written\")",
       "return os.Rename(tmpFilename, bp.Filename)"] := ⟨rfl, rfl⟩

theorem gen_push_skeleton : Dtn7.Gen.C08.pushSkeleton =
    ["s.mutex.Lock()",
     "defer s.mutex.Unlock()",
     "bi := newBundleItem(b, s.bundleDir)",
     "if biStore, err := s.QueryId(b.ID()); err != nil",
     "  if err := bi.Parts[0].storeBundle(b); err != nil",
     "    return err",
     "  verifPoint(\"push:new:file-written\")",
     "  return s.bh.Insert(bi.Id, bi)",
     "else if bi.Fragmented",
     "  if !biStore.Fragmented",
     "    return nil",
     "  knownFragment := false",
     "  compPart := bi.Parts[0]",
     "  for _, part := range biStore.Parts",
     "    if part.FragmentOffset == compPart.FragmentOffset && part.TotalDataLength == compPart.TotalDataLength",
     "      knownFragment = true",
     "      break",
     "  if knownFragment",
     "    if stored, err := compPart.Load(); err == nil && fragmentPayloadLen(stored) >= fragmentPayloadLen(b)",
     "      return nil",
     "    return compPart.replaceBundle(b)",
     "  else",
     "    if err := compPart.storeBundle(b); err != nil",
     "      return err",
     "    verifPoint(\"push:frag:file-written\")",
     "    biStore.Parts = append(biStore.Parts, compPart)",
     "    return s.bh.Update(biStore.Id, biStore)",
     "else",
     "  return nil"] := rfl

/-! ### Example data for the non-vacuity `example`s and the witnesses -/

def idA : Id := ⟨1, 1000, 0⟩
def idB : Id := ⟨2, 1000, 0⟩
/-- a whole bundle -/
def bA : Bundle := ⟨idA, none, 10, 5000, [0xA0, 1, 2, 3]⟩
/-- three fragments of a 30-byte payload and a fragment contained in the first two -/
def f0 : Bundle := ⟨idB, some (0, 30), 10, 9000, [0xB0, 7]⟩
def f1 : Bundle := ⟨idB, some (10, 30), 10, 9000, [0xB1, 8, 8]⟩
def f2 : Bundle := ⟨idB, some (20, 30), 10, 9000, [0xB2, 9]⟩
/-- a longer fragment with the offset and total of `f0` (made for a larger MTU) -/
def f0L : Bundle := ⟨idB, some (0, 30), 20, 9000, [0xB3, 7, 7]⟩
/-- `bA` after a block was removed (what `Core.receive` hands to `ReplaceBundle`) -/
def bA2 : Bundle := ⟨idA, none, 10, 5000, [0xA1, 1]⟩

/-- A parser for the example bundles: the first byte identifies the bundle, the rest is ignored. -/
def exParse : Bytes → Option Bundle
  | 0xA0 :: 1 :: 2 :: 3 :: _ => some bA
  | 0xB0 :: 7 :: _ => some f0
  | 0xB1 :: 8 :: 8 :: _ => some f1
  | 0xB2 :: 9 :: _ => some f2
  | 0xB3 :: 7 :: 7 :: _ => some f0L
  | 0xA1 :: 1 :: _ => some bA2
  | _ => none

theorem wf_bA : WF exParse bA := ⟨fun _ => rfl, fun o t h => by cases h <;> decide⟩
theorem wf_f0 : WF exParse f0 := ⟨fun _ => rfl, fun o t h => by cases h <;> decide⟩
theorem wf_f1 : WF exParse f1 := ⟨fun _ => rfl, fun o t h => by cases h <;> decide⟩
theorem wf_f2 : WF exParse f2 := ⟨fun _ => rfl, fun o t h => by cases h <;> decide⟩
theorem wf_f0L : WF exParse f0L := ⟨fun _ => rfl, fun o t h => by cases h <;> decide⟩
theorem wf_bA2 : WF exParse bA2 := ⟨fun _ => rfl, fun o t h => by cases h⟩

def exHistory : List Cmd :=
  [.op (.push bA), .op (.push f0), .op (.push f2), .op (.update idA true 7000 [("k", "v")]), .reopen]

theorem exHistory_wf : ∀ c ∈ exHistory, CmdWF exParse c := by
  intro c hc
  simp only [exHistory, List.mem_cons, List.not_mem_nil, or_false] at hc
  rcases hc with h | h | h | h | h <;> subst h
  · exact wf_bA
  · exact wf_f0
  · exact wf_f2
  · trivial
  · trivial

/-- The state after the example history (two records, three files). -/
def exState : State := run exParse State.empty exHistory

section
variable (parse : Bytes → Option Bundle)

/-! ### Durable map -/

/-- **Refinement.** Every command maps the visible content exactly as the reference map does, and
keeps the invariant. -/
theorem refines (s : State) (h : Inv' parse s) (c : Cmd) (hw : CmdWF parse c) :
    abs parse (step parse s c) = specStep (abs parse s) c ∧ Inv' parse (step parse s c) :=
  ⟨(step_refines parse h c hw).2, (step_refines parse h c hw).1⟩

/-- Over whole histories from the empty store (no process kill: also no unreferenced file). -/
theorem run_refines (cs : List Cmd) (hw : ∀ c ∈ cs, CmdWF parse c) :
    abs parse (run parse State.empty cs) = specRun [] cs ∧ Inv parse (run parse State.empty cs) :=
  ⟨(Lemmas.run_refines parse (inv'_empty parse) cs hw).2, inv_run parse (inv_empty parse) cs hw⟩

example : abs exParse exState = specRun [] exHistory := (run_refines exParse exHistory exHistory_wf).1
example : (abs exParse exState).length = 2 := by decide

/-- **Reads agree with the reference map**, in any state (the queries read the index only):
lookup by id, the pending query, `KnowsBundle`. -/
theorem reads_agree (s : State) :
    (∀ id, (queryId s id).map (absItem parse s) = get id (abs parse s)) ∧
    (queryPending s).map (fun e => (e.1, absItem parse s e.2)) =
      (abs parse s).filter (fun e => e.2.pending) ∧
    (∀ id, knows s id = (get id (abs parse s)).isSome) := by
  refine ⟨fun id => (get_abs parse s id).symm, ?_, fun id => ?_⟩
  · simp only [queryPending, abs, List.filter_map]; rfl
  · simp [knows, queryId, get_abs]

/-- **Read-back is byte-identical.** After any history from the empty store, every part of every
record returned by a lookup reads back as a bundle that was given to the store (`Push` or
`ReplaceBundle`) with this id, offset and total — with exactly the given bytes. (Which one it is
when several were given is fixed by `run_refines`: the reference map keeps the bytes of the push
that created the part until a longer fragment with the same offset and total, or a `ReplaceBundle`,
replaces them.) -/
theorem read_back (cs : List Cmd) (hw : ∀ c ∈ cs, CmdWF parse c) (id : Id) (it : Item) (p : Part)
    (hq : queryId (run parse State.empty cs) id = some it) (hp : p ∈ it.parts) :
    ∃ b, Given cs b ∧ b.id = id ∧ fragKey b = (p.off, p.total) ∧
      (loadPart parse (run parse State.empty cs) p).map (·.bytes) = some b.bytes := by
  obtain ⟨habs, _⟩ := run_refines parse cs hw
  have hmem : (id, absItem parse (run parse State.empty cs) it) ∈ specRun [] cs := by
    rw [← habs]
    exact List.mem_map.mpr ⟨(id, it), get_some_mem hq, rfl⟩
  have := specOk_run cs _ hmem
    ((p.off, p.total), (loadPart parse (run parse State.empty cs) p).map (fun b => (b.payLen, b.bytes)))
    (List.mem_map.mpr ⟨p, hp, rfl⟩)
  obtain ⟨b, hb, hid, hk, hv⟩ := this
  refine ⟨b, hb, hid, hk, ?_⟩
  simp only [content] at hv
  cases hl : loadPart parse (run parse State.empty cs) p with
  | none => rw [hl] at hv; cases hv
  | some x =>
    rw [hl] at hv
    simp only [Option.map_some, Option.some.injEq, Prod.mk.injEq] at hv
    simp [hv.2]

example : ∃ it, queryId exState idB = some it ∧ it.parts.length = 2 := ⟨_, rfl, rfl⟩

/-- An operation touches the record of its own id only. -/
theorem other_records_untouched (s : State) (h : Inv' parse s) (op : Op) (hw : OpWF parse op)
    (id : Id) (hid : id ≠ target op) :
    get id (abs parse (exec parse s op)) = get id (abs parse s) := by
  rw [(exec_refines parse h op hw).2]; exact spec_frame _ op id hid

/-- Deleted means gone. -/
theorem delete_gone (s : State) (h : Inv' parse s) (id : Id) : queryId (exec parse s (.delete id)) id = none := by
  have := (exec_refines parse h (.delete id) trivial).2
  have hg : get id (abs parse (exec parse s (.delete id))) = none := by rw [this]; exact spec_delete_gone _ id
  rw [get_abs] at hg
  simpa [queryId] using hg

/-- … and stays gone: an `Update` that writes back an item read before the record was removed (deleted after
delivery, or swept by the expiry job while `ReportFailure`/`Sync` held their copy) changes nothing — it does
not bring the record back. (`Store.Update` is `badgerhold.Update`, which refuses an unknown key:
`gen_update_skeleton`; the harness writes such stale items back, `staleupdate` lines.) -/
theorem stale_update_is_noop (s : State) (id : Id) (hgone : queryId s id = none) (pending : Bool) (expires : Nat)
    (props : Props) : exec parse s (.update id pending expires props) = s := by
  rw [exec, plan_update_none parse s id pending expires props hgone]
  rfl

theorem deleted_then_stale_update_gone (s : State) (h : Inv' parse s) (id : Id) (pending : Bool) (expires : Nat)
    (props : Props) :
    queryId (exec parse (exec parse s (.delete id)) (.update id pending expires props)) id = none := by
  have hg := delete_gone (parse := parse) s h id
  rw [stale_update_is_noop (parse := parse) _ id hg]
  exact hg

/-- An expiry sweep removes exactly the expired records. -/
theorem sweep_exact (s : State) (h : Inv' parse s) (now : Nat) (id : Id) :
    get id (abs parse (sweep parse s now)) =
      (get id (abs parse s)).filter (fun r => !decide (r.expires < now)) := by
  rw [(sweep_refines parse h now).2]
  exact spec_sweep_get _ (by rw [keys_abs]; exact h.1) now id

/-- Closing and reopening changes nothing. -/
theorem reopen_id (s : State) : step parse s .reopen = s ∧ abs parse (reopen s) = abs parse s := ⟨rfl, rfl⟩

/-! ### Fragments -/

/-- **Fragments are collected in one record, each distinct fragment once.** After a push of a
fragment whose bundle has no record yet or a fragment record: the index has one entry for the id
(`Inv'`: keys without duplicates), the entry holds the fragment's (offset, total) exactly once, and
that part reads back as a fragment of this bundle with this offset and total. -/
theorem fragments_collected (s : State) (h : Inv' parse s) (b : Bundle) (hwf : WF parse b)
    (hfr : b.frag.isSome = true) (hrec : ∀ it, queryId s b.id = some it → it.fragmented = true) :
    (keys (exec parse s (.push b)).index).Nodup ∧
    ∃ it, queryId (exec parse s (.push b)) b.id = some it ∧
      (it.parts.map (fun p => (p.off, p.total))).count (fragKey b) = 1 ∧
      ∃ p ∈ it.parts, (p.off, p.total) = fragKey b ∧
        ∃ b', loadPart parse (exec parse s (.push b)) p = some b' ∧ b'.id = b.id ∧ b'.frag = b.frag :=
  ⟨(exec_refines parse h (.push b) hwf).1.1, Lemmas.fragments_collected parse h hwf hfr hrec⟩

example : (queryId (exec exParse exState (.push f1)) idB).map (·.parts.length) = some 3 := by decide
example : (queryId (exec exParse (exec exParse exState (.push f1)) (.push f1)) idB).map (·.parts.length) = some 3 := by
  decide

/-- **The longer of two fragments with the same offset and total is kept.** A pushed fragment whose
offset and total are already stored replaces the stored one's bytes exactly when the stored one
does not read back with a payload at least as long; the index (and so the number of parts) is
unchanged either way. -/
theorem same_offset_longer_wins (s : State) (h : Inv' parse s) (b : Bundle) (hwf : WF parse b)
    (it : Item) (hq : queryId s b.id = some it) (hk : pushKnown b it = true) :
    (exec parse s (.push b)).index = s.index ∧
    abs parse (exec parse s (.push b)) =
      if keepsStored parse s b then abs parse s
      else put b.id { absItem parse s it with
        parts := setPart (fragKey b) (content b) (absItem parse s it).parts } (abs parse s) := by
  have hc : pushCond b it = false := by
    cases hc : pushCond b it with
    | false => rfl
    | true => rw [pushCond_known_excl b it hc] at hk; cases hk
  refine ⟨exec_push_index_same parse s b it hq hc, ?_⟩
  simp only [exec, plan_push_known parse s b it hq hk]
  cases hks : keepsStored parse s b with
  | true => rfl
  | false =>
    show abs parse (runSteps s (replaceSteps _ _)) = put _ _ _
    rw [run_replaceSteps]
    exact (replaced_ok parse h it b hwf hq (known_flag hk).1).2

/-- `f0L` (20 bytes from offset 0) replaces the stored `f0` (10 bytes from offset 0); `f0` pushed
afterwards is ignored; the record keeps two parts. -/
example : (queryId (exec exParse exState (.push f0L)) idB).map
      (fun it => it.parts.map (loadPart exParse (exec exParse exState (.push f0L)))) =
    some [some f0L, some f2] := by decide
example : exec exParse (exec exParse exState (.push f0L)) (.push f0) = exec exParse exState (.push f0L) := by
  decide
/-- … and with `f0L` the two stored fragments `[0,20)`, `[20,30)` cover the payload. -/
example : (queryId (exec exParse exState (.push f0L)) idB).map
    (isComplete exParse true (exec exParse exState (.push f0L))) = some true := by decide
/-- `ReplaceBundle` swaps the bytes of the stored whole bundle, nothing else. -/
example : (abs exParse (exec exParse exState (.replace bA2))) =
    specStep (abs exParse exState) (.op (.replace bA2)) := by decide
example : (queryId (exec exParse exState (.replace bA2)) idA).map
      (fun it => it.parts.map (loadPart exParse (exec exParse exState (.replace bA2)))) =
    some [some bA2] := by decide
/-- Killed between the temporary file and the rename: the old bytes are still what reads back. -/
example : abs exParse (crash exParse 1 exState (.push f0L)) = abs exParse exState ∧
    (get (tmpOf (partOf f0L).name) (crash exParse 1 exState (.push f0L)).files).isSome = true := by decide +kernel

/-- **Complete exactly when the fragments cover the payload** (the sweep of `prepareReassembly`
with the end index maximised, i.e. with the repair of D3): for a stored fragment record whose parts
share one total length `T`, `IsComplete` holds iff the loaded fragments' intervals
(offset, payload length) cover `[0, T)` and none reaches beyond `T`. -/
theorem complete_iff_covers (s : State) (h : Inv' parse s) (id : Id) (it : Item)
    (hq : queryId s id = some it) (hf : it.fragmented = true) (T : Nat)
    (hT : ∀ p ∈ it.parts, p.total = T) :
    ∃ bs, loadParts parse s it.parts = some bs ∧ (∀ b ∈ bs, b.id = id) ∧
      bs.map fragKey = it.parts.map (fun p => (p.off, p.total)) ∧
      (isComplete parse true s it = true ↔ Covers (bs.map ivOf) T) :=
  Lemmas.complete_iff_covers parse (h.2 id it hq) hf T hT

/-- The loop as it is without the repair of D3 (end index overwritten) computes the same on every
offset-sorted interval list in which no fragment is contained in another one. -/
theorem complete_nomax_partial (ivs : List (Nat × Nat)) (h : noContained ivs = true) :
    sweepEnd false 0 ivs = sweepEnd true 0 ivs :=
  sweep_nomax_eq ivs 0 (incEnds_of_noContained ivs 0 (fun _ _ => Nat.zero_le _) h)

/-- … and this is the witness that it differs otherwise: `[0,20)`, `[5,10)`, `[20,30)`. -/
theorem complete_nomax_witness :
    sweepEnd false 0 [(0, 20), (5, 5), (20, 10)] = none ∧
    sweepEnd true 0 [(0, 20), (5, 5), (20, 10)] = some 30 := ⟨rfl, rfl⟩

/-- An unfragmented item is complete and loadable: `loadable` is `BundleItem.Load` of /repo, which
loads an unfragmented item's single part directly (`gen_naming_guards`: `loadDirectIfUnfragmented`). -/
theorem whole_complete_loadable (s : State) (h : Inv' parse s) (id : Id) (it : Item)
    (hq : queryId s id = some it) (hf : it.fragmented = false) (useMax : Bool) :
    isComplete parse useMax s it = true ∧ loadable parse useMax s it = true := by
  have ok := h.2 id it hq
  obtain ⟨p, hp⟩ := ok.whole hf
  obtain ⟨b, hb, _⟩ := ok.readable p (by rw [hp]; simp)
  exact ⟨by simp [isComplete, hf], by simp [loadable, hf, hp, hb]⟩

/-- D24 witness: the variant `loadableD24` of `BundleItem.Load` (always through `ReassembleFragments`;
not what /repo does) fails for the stored whole bundle of the example, which `IsComplete` reports complete. -/
theorem load_d24_witness :
    (queryId exState idA).map (fun it => (isComplete exParse true exState it, loadableD24 exParse true exState it,
      loadable exParse true exState it)) = some (true, false, true) := by decide

example : (queryId (exec exParse exState (.push f1)) idB).map (isComplete exParse true (exec exParse exState (.push f1))) =
    some true := by decide
example : (queryId exState idB).map (isComplete exParse true exState) = some false := by decide

/-! ### Process kill inside an operation -/

/-- **Crash safety.** Kill the process after any number `k` of micro-steps of any operation, in any
state that satisfies `Inv'`. Then
* the state still satisfies `Inv'` (every index entry readable) — so by `refines` every later
  command behaves exactly like the reference map, and by `no_stuck` none of its steps fails;
* the visible content is the one before the operation or the one after it, nothing in between
  (so every record other than the operation's target is untouched, and the target is intact in
  its old or its new form). -/
theorem crash_safe (s : State) (h : Inv' parse s) (op : Op) (hw : OpWF parse op) (k : Nat) :
    Inv' parse (crash parse k s op) ∧
    (abs parse (crash parse k s op) = abs parse s ∨
      abs parse (crash parse k s op) = specStep (abs parse s) (.op op)) ∧
    (∀ id, id ≠ target op → get id (abs parse (crash parse k s op)) = get id (abs parse s)) := by
  obtain ⟨hi, hc⟩ := crash_cases parse h op hw k
  have hex := (exec_refines parse h op hw).2
  refine ⟨hi, hc.imp id (fun e => e.trans hex), ?_⟩
  intro id hid
  rcases hc with e | e
  · rw [e]
  · rw [e, hex]; exact spec_frame _ op id hid

/-- After a crash every later history runs exactly as on the reference map started from the
surviving content: acknowledged records stay intact and readable, later operations on the same id
work. -/
theorem crash_then_run (s : State) (h : Inv' parse s) (op : Op) (hw : OpWF parse op) (k : Nat)
    (cs : List Cmd) (hcs : ∀ c ∈ cs, CmdWF parse c) :
    abs parse (run parse (crash parse k s op) cs) = specRun (abs parse (crash parse k s op)) cs ∧
    Inv' parse (run parse (crash parse k s op) cs) :=
  ⟨(Lemmas.run_refines parse (crash_safe parse s h op hw k).1 cs hcs).2,
   (Lemmas.run_refines parse (crash_safe parse s h op hw k).1 cs hcs).1⟩

/-- A kill inside an expiry sweep (`DeleteExpired` = one `Delete` per expired record): after `j`
complete deletes and `k` micro-steps of the next one the state satisfies `Inv'` and every record
that is not expired is untouched. -/
theorem crash_in_sweep (s : State) (h : Inv' parse s) (now j k : Nat) (id : Id)
    (hid : (expiredIds s now)[j]? = some id) :
    let s1 := ((expiredIds s now).take j).foldl (fun s id => exec parse s (.delete id)) s
    Inv' parse (crash parse k s1 (.delete id)) ∧
    ∀ x, x ∉ expiredIds s now →
      get x (abs parse (crash parse k s1 (.delete id))) = get x (abs parse s) := by
  intro s1
  obtain ⟨h1, a1⟩ := deleteMany parse h ((expiredIds s now).take j)
  obtain ⟨hc, _, hframe⟩ := crash_safe parse s1 h1 (.delete id) trivial k
  refine ⟨hc, fun x hx => ?_⟩
  have hne : x ≠ id := fun e => hx (e ▸ List.mem_of_getElem? hid)
  rw [hframe x hne, a1]
  have hx' : x ∉ (expiredIds s now).take j := fun hm => hx (List.mem_of_mem_take hm)
  generalize (expiredIds s now).take j = ids at hx'
  generalize abs parse s = m
  induction ids generalizing m with
  | nil => rfl
  | cons i r ih =>
    simp only [List.mem_cons, not_or] at hx'
    simp only [List.foldl_cons]
    rw [ih hx'.2, get_del_ne i x m (fun e => hx'.1 e.symm)]

example : (expiredIds exState 8000)[0]? = some idA := by decide

/-- **No stuck state**: in every `Inv'` state every micro-step of every operation succeeds (no
`ErrKeyExists`, no `ErrNotFound`, no missing file). -/
theorem no_stuck (s : State) (h : Inv' parse s) (op : Op) : stepsOk s (plan parse s op) = true := by
  have sh := plan_shape parse h op
  generalize plan parse s op = pl at sh
  cases sh with
  | none => rfl
  | insert b hg => simp [stepsOk, stepOk, applyStep, hg]
  | append b it hg hc => simp [stepsOk, stepOk, applyStep, hg]
  | replace id it p d hg hp => simp [stepsOk, stepOk, applyStep, replaceSteps, get_put_self]
  | update id it it' hg _ => simp [stepsOk, stepOk, hg]
  | delete id it hg =>
    have ok := h.2 id it hg
    have : (it.parts.map (fun p => Step.removeFile p.name)) =
        (it.parts.map (·.name)).map Step.removeFile := by
      simp [List.map_map, Function.comp_def]
    simp only [stepsOk, stepOk, hg, Option.isSome_some, Bool.true_and, applyStep, this]
    exact stepsOk_removes _ _ _ (names_nodup parse ok) (file_exists parse ok)

/-- What survives at each crash point of `Push` that adds a part (points `push:new:file-written`,
`push:frag:file-written` = after micro-step 1): the index is unchanged, the part file exists. -/
theorem crash_push_file_written (s : State) (b : Bundle)
    (hadd : ∀ it, queryId s b.id = some it → pushCond b it = true) :
    crash parse 1 s (.push b) = ⟨s.index, writtenFiles s b⟩ := by
  cases hg : get b.id s.index with
  | none => exact crash1_push parse s b _ (plan_push_new parse s b hg)
  | some it => exact crash1_push parse s b _ (plan_push_frag parse s b it hg (hadd it hg))

/-- … and of a `Push` that replaces a shorter stored fragment, or of `ReplaceBundle` (point
`replace:tmp-written` = after micro-step 1): index and part files are unchanged, the temporary file
`<name>.tmp` exists (nothing reads it; the next replacement truncates it). -/
theorem crash_replace_tmp_written (s : State) (op : Op) (n : Name) (d : Bytes)
    (hp : plan parse s op = replaceSteps n d) :
    crash parse 1 s op = ⟨s.index, put (tmpOf n) d s.files⟩ :=
  crash_replaceSteps parse s n d op hp

/-- What survives at each crash point of `Delete` (`delete:before-index` = 0 steps;
`delete:before-remove` n / `delete:file-removed` n = 1 + removed files): the index entry is gone and
exactly the first `k` part files are removed. -/
theorem crash_delete_point (s : State) (id : Id) (it : Item) (hq : queryId s id = some it) (k : Nat) :
    crash parse (k + 1) s (.delete id) = ⟨del id s.index, removeAll ((it.parts.take k).map (·.name)) s.files⟩ :=
  crash_delete_some parse s id it hq k

/-- D31 witness for the other order of `Delete`'s micro-steps, `planDeleteFilesFirst` (part files first,
index entry last; /repo deletes the index entry first: `gen_delete_skeleton`). Kill after the first
file removal: the record is still returned by the lookup, none of its parts can be read by any
parser, and a later push of the same bundle is ignored (no micro-step), i.e. acknowledged and lost. -/
theorem delete_files_first_witness :
    let s' := runSteps exState ((planDeleteFilesFirst exState idA).take 1)
    (queryId s' idA).isSome = true ∧
    (∀ prs : Bytes → Option Bundle, ∀ it, queryId s' idA = some it → ∀ p ∈ it.parts, loadPart prs s' p = none) ∧
    plan exParse s' (.push bA) = [] := by
  refine ⟨by decide, ?_, by decide⟩
  intro prs it hq p hp
  have : it = ⟨true, 7000, false, [partOf bA], [("k", "v")]⟩ := by
    have h2 : queryId (runSteps exState ((planDeleteFilesFirst exState idA).take 1)) idA =
        some ⟨true, 7000, false, [partOf bA], [("k", "v")]⟩ := by decide
    rw [h2] at hq; injection hq with hq; exact hq.symm
  subst this
  simp only [List.mem_singleton] at hp
  subst hp
  have : get (partOf bA).name (runSteps exState ((planDeleteFilesFirst exState idA).take 1)).files = none := by
    decide
  simp [loadPart, this]

/-- With /repo's order (`plan`: index entry first) the same kill leaves no trace of the record. -/
example : queryId (crash exParse 1 exState (.delete idA)) idA = none := by decide
example : (plan exParse (crash exParse 1 exState (.delete idA)) (.push bA)).length = 2 := by decide

/-! ### Concurrent pushes -/

/-- **Concurrent fragments.** Two `Push` calls for different fragments of one bundle (no record
yet, or a fragment record that has neither), executed under the store mutex in *any* schedule in
which both return: both parts are recorded in the bundle's record and read back byte-identical. -/
theorem concurrent_fragments (s : State) (h : Inv' parse s) (b1 b2 : Bundle)
    (hw1 : WF parse b1) (hw2 : WF parse b2) (hid : b1.id = b2.id) (hk : fragKey b1 ≠ fragKey b2)
    (hf1 : b1.frag.isSome = true) (hf2 : b2.frag.isSome = true)
    (hfresh : ∀ r, get b1.id (abs parse s) = some r → r.fragmented = true ∧
      ∀ p ∈ r.parts, p.1 ≠ fragKey b1 ∧ p.1 ≠ fragKey b2)
    (sched : List Bool) (hfin : (runSched parse true b1 b2 s sched).finished = true) :
    ∃ r, get b1.id (abs parse (runSched parse true b1 b2 s sched).st) = some r ∧
      (fragKey b1, content b1) ∈ r.parts ∧ (fragKey b2, content b2) ∈ r.parts :=
  Lemmas.concurrent_fragments parse h b1 b2 hw1 hw2 hid hk hf1 hf2 hfresh sched hfin

/-- Every finished schedule under the mutex ends in the state of one of the two sequential orders. -/
theorem concurrent_serialisable (s : State) (b1 b2 : Bundle) (sched : List Bool)
    (hfin : (runSched parse true b1 b2 s sched).finished = true) :
    (runSched parse true b1 b2 s sched).st = exec parse (exec parse s (.push b1)) (.push b2) ∨
    (runSched parse true b1 b2 s sched).st = exec parse (exec parse s (.push b2)) (.push b1) :=
  locked_serial parse b1 b2 s sched hfin

end

/-- The schedule used below: thread 1 reads and writes its file, thread 2 runs to completion, then
thread 1 writes the index. -/
def lostUpdateSchedule : List Bool := [false, false, true, true, true, true, false, false]

/-- D23 witness: `Push` without the mutex (`locked := false`; /repo takes it: `gen_push_skeleton`,
`gen_locks`): with the record holding fragment `f0`, both
pushes return, but the record has lost `f2` — its file is on disk, unreferenced. -/
theorem concurrent_unlocked_witness :
    let c := runSched exParse false f1 f2 (exec exParse State.empty (.push f0)) lostUpdateSchedule
    c.finished = true ∧
    (queryId c.st idB).map (fun it => it.parts.map (fun p => (p.off, p.total))) = some [(0, 30), (10, 30)] ∧
    (get (partOf f2).name c.st.files).isSome = true := by decide

/-- The same schedule under the mutex: thread 2 is blocked until thread 1 is done; both recorded. -/
example :
    let c := runSched exParse true f1 f2 (exec exParse State.empty (.push f0)) (lostUpdateSchedule ++ [true, true, true, true])
    c.finished = true ∧
    (queryId c.st idB).map (fun it => it.parts.map (fun p => (p.off, p.total))) =
      some [(0, 30), (10, 30), (20, 30)] := by decide

example : ∃ r, get idB (abs exParse (runSched exParse true f1 f2 (exec exParse State.empty (.push f0))
      (lostUpdateSchedule ++ [true, true, true, true])).st) = some r ∧
    (fragKey f1, content f1) ∈ r.parts ∧ (fragKey f2, content f2) ∈ r.parts :=
  concurrent_fragments exParse _
    ((exec_refines exParse (inv'_empty exParse) (.push f0) wf_f0).1) f1 f2 wf_f1 wf_f2 rfl (by decide)
    rfl rfl (by decide) _ (by decide)

end Dtn7.Props.C08
