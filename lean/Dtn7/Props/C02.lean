/-
C02 — only well-formed bundles are accepted; the node only produces well-formed ones.
Property theorems only; helper lemmas live in `Dtn7.Lemmas.*`.
-/
import Dtn7.Model.Bundle
import Dtn7.Model.BundleSpec
import Dtn7.Model.ExpectedC02
import Dtn7.Gen.C02
import Dtn7.Lemmas.BundleValid
import Dtn7.Lemmas.BundleTop

namespace Dtn7.Props.C02
open Dtn7.Cbor Dtn7.Eid Dtn7.Bundle

/-! ### Tie to the source: regenerated facts -/

theorem gen_no_extraction_failure : Dtn7.Gen.C02.extractionFailures = [] := rfl

/-- Every flag is the single bit the model tests, codes and the epoch offset agree. -/
theorem gen_constants :
    Gen.C02.dtnVersion = dtnVersion ∧
    Gen.C02.isFragment = 2 ^ bIsFragment ∧ Gen.C02.adminRecord = 2 ^ bAdminRecord ∧
    Gen.C02.mustNotFragment = 2 ^ bMustNotFragment ∧ Gen.C02.appAck = 2 ^ bAppAck ∧
    Gen.C02.statusTime = 2 ^ bStatusTime ∧ Gen.C02.srReception = 2 ^ bSrReception ∧
    Gen.C02.srForward = 2 ^ bSrForward ∧ Gen.C02.srDelivery = 2 ^ bSrDelivery ∧
    Gen.C02.srDeletion = 2 ^ bSrDeletion ∧
    Gen.C02.replicateBlock = 2 ^ kReplicate ∧ Gen.C02.statusReportBlock = 2 ^ kStatusReport ∧
    Gen.C02.deleteBundle = 2 ^ kDeleteBundle ∧ Gen.C02.removeBlock = 2 ^ kRemoveBlock ∧
    Gen.C02.tPayload = tPayload ∧ Gen.C02.tPrevNode = tPrevNode ∧ Gen.C02.tAge = tAge ∧
    Gen.C02.tHop = tHop ∧ (Gen.C02.ms1970To2k : Int) = ms1970To2k := by and_intros <;> rfl

/-- Validation is the last statement of the parser, and every producer runs it before handing a
bundle out (`NewBundle`, `Build` → `NewBundle`, `BuildFromMap` → `Build`, `Fragment` per fragment,
`ReassembleFragments`). Deleting one of these calls is invisible to the repository's tests. -/
theorem gen_validation_calls :
    Gen.C02.unmarshalEndsInCheckValid = true ∧ Gen.C02.newBundleChecks = true ∧
    Gen.C02.buildUsesNewBundle = true ∧ Gen.C02.buildFromMapUsesBuild = true ∧
    Gen.C02.fragmentChecks = true ∧ Gen.C02.fragmentChecksEveryFragment = true ∧
    Gen.C02.reassembleChecks = true := by and_intros <;> rfl

/-- The node's own bundles (status reports, pongs, routing metadata) are made by these `Builder()`
call chains in pkg/routing and pkg/agent; the producer stream of the harness runs the same chains. -/
theorem gen_node_chains :
    Gen.C02.statusReportChain =
      ["bpv7.Builder().CRC().Source().Destination().CreationTimestampNow().Lifetime().StatusReport().Build"] ∧
    Gen.C02.pongChain =
      ["bpv7.Builder().CRC().Source().Destination().BundleCtrlFlags().CreationTimestampNow().Lifetime().HopCountBlock().PayloadBlock().Build"] ∧
    Gen.C02.metadataChain =
      ["bundleBuilder.Source", "bundleBuilder.Destination", "bundleBuilder.CreationTimestampNow",
       "bundleBuilder.Lifetime", "bundleBuilder.BundleCtrlFlags", "bundleBuilder.PayloadBlock",
       "bundleBuilder.Canonical", "bundleBuilder.Build"] := ⟨rfl, rfl, rfl⟩

/-- The rule list inside the `CheckValid` family has the shape the model `checkValid` mirrors. -/
theorem gen_rule_skeletons :
    Gen.C02.bundleCheckValid = Expected.C02.bundleCheckValid ∧
    Gen.C02.isLifetimeExceeded = Expected.C02.isLifetimeExceeded ∧
    Gen.C02.primaryCheckValid = Expected.C02.primaryCheckValid ∧
    Gen.C02.canonicalCheckValid = Expected.C02.canonicalCheckValid ∧
    Gen.C02.bundleFlagsCheckValid = Expected.C02.bundleFlagsCheckValid ∧
    Gen.C02.bundleFlagsHas = Expected.C02.bundleFlagsHas ∧
    Gen.C02.blockFlagsCheckValid = Expected.C02.blockFlagsCheckValid ∧
    Gen.C02.eidCheckValid = Expected.C02.eidCheckValid ∧
    Gen.C02.dtnCheckValid = Expected.C02.dtnCheckValid ∧
    Gen.C02.ipnCheckValid = Expected.C02.ipnCheckValid ∧
    Gen.C02.hopCheckValid = Expected.C02.hopCheckValid ∧
    Gen.C02.hopIsExceeded = Expected.C02.hopIsExceeded ∧
    Gen.C02.prevNodeCheckValid = Expected.C02.prevNodeCheckValid ∧
    Gen.C02.signatureCheckValid = Expected.C02.signatureCheckValid ∧
    Gen.C02.dtlsrCheckValid = Expected.C02.dtlsrCheckValid ∧
    Gen.C02.prophetCheckValid = Expected.C02.prophetCheckValid ∧
    Gen.C02.sortLess = Expected.C02.sortLess ∧
    Gen.C02.bundleUnmarshal = Expected.C02.bundleUnmarshal :=
  by and_intros <;> rfl

/-! ### Theorems -/

/-- **`CheckValid` is sound**: a structure that passes the model of `Bundle.CheckValid` (at time
`now`) obeys every rule of the statement, for either value of `strict`. -/
theorem checkValid_sound (strict : Bool) (now : Nat) (b : Bundle) (h : checkValid strict now b = true) :
    WellFormed now b :=
  Lemmas.checkValid_sound strict now b h

/-- **Only well-formed bundles are accepted**: whatever byte string the parser accepts — with
whatever is registered, whatever follows the bundle — decodes to a well-formed bundle. (The proof
uses that parsing ends in `CheckValid`: `gen_validation_calls`.) -/
theorem parse_sound (cfg : Cfg) (now : Nat) (bs : Bytes) (b : Bundle) (r : Bytes)
    (h : parse cfg now bs = .ok (b, r)) : WellFormed now b :=
  Lemmas.checkValid_sound cfg.strict now b (Lemmas.parse_ok_iff.mp h).2

/-- Contrapositive, the form the rule-by-rule exploration uses: a decoded structure that breaks any
rule is rejected. -/
theorem ill_formed_rejected (cfg : Cfg) (now : Nat) (bs : Bytes) (b : Bundle) (r : Bytes)
    (hraw : parseRaw cfg bs = .ok (b, r)) (hbad : ¬ WellFormed now b) :
    ∃ e, parse cfg now bs = .error e := by
  cases hp : parse cfg now bs with
  | error e => exact ⟨e, rfl⟩
  | ok x =>
    obtain ⟨b', r'⟩ := x
    have h := Lemmas.parse_ok_iff.mp hp
    rw [hraw] at h
    simp only [Except.ok.injEq, Prod.mk.injEq] at h
    obtain ⟨⟨rfl, rfl⟩, hv⟩ := h
    exact absurd (Lemmas.checkValid_sound cfg.strict now b hv) hbad

/-- **Producers**: every producer hands out a bundle only after `CheckValid` passed
(`gen_validation_calls`: `NewBundle`, `Build`, `BuildFromMap`, `Fragment`, `ReassembleFragments`).
Such a bundle is well-formed, and — when its structure is one the wire can carry (`Encodable`) — it
serialises and the parser accepts exactly those bytes as the same bundle. -/
theorem produced_wellformed_and_accepted (cfg : Cfg) (hs : cfg.strict = true) (now : Nat) (b : Bundle)
    (hchk : checkValid cfg.strict now b = true) (he : Encodable cfg b) :
    WellFormed now b ∧ serialize b = .ok (serializeRaw b) ∧
      parse cfg now (serializeRaw b) = .ok (b, []) := by
  have h := Lemmas.parse_serialize cfg hs now b he hchk []
  rw [List.append_nil] at h
  exact ⟨Lemmas.checkValid_sound cfg.strict now b hchk, h.1, h.2⟩

/-- **Fragmentation is sound**: every fragment the loop of `Bundle.Fragment` hands out — the first
and every later one, whatever offset, total length and slice — is well-formed. The proof rests on
the per-fragment `CheckValid` (`gen_validation_calls`: `fragmentChecksEveryFragment`). -/
theorem fragment_sound (strict : Bool) (now : Nat) (b : Bundle) (first : Bool) (off total : Nat)
    (slice : Bytes) (f : Bundle) (h : fragmentChecked strict now b first off total slice = some f) :
    WellFormed now f := by
  unfold fragmentChecked at h
  split at h
  · rename_i hv
    simp only [Option.some.injEq] at h
    rw [← h]; exact Lemmas.checkValid_sound strict now _ hv
  · simp at h

/-- What the drivers evaluate on the implementation's outputs is this Spec predicate. -/
theorem wfRules_iff (now : Nat) (b : Bundle) : (wfRules now b).all (·.2) = true ↔ WellFormed now b :=
  Lemmas.wfRules_iff now b

/-! ### Every rule is needed: a structure violating (only) that rule, and its rejection

`brokenRules` lists the rules of `WellFormed` that fail. Two rules are consequences of others and
cannot fail alone: "exactly one payload block" follows from "payload last" + "one block per type",
and "zero creation time ⇒ age block" is part of "lifetime not run out" for a zero creation time. -/

def wNow : Nat := 800000000000
def wHop : Canonical := ⟨2, 0, 0, .hop 10 3⟩
def wAge : Canonical := ⟨3, 0, 0, .age 5⟩
def wPay : Canonical := ⟨1, 0, 0, .payload [1, 2, 3]⟩
def wPrimary : Primary := ⟨7, 0, 2, .ipn 2 1, .ipn 1 1, .ipn 1 1, 799999990000, 0, 3600000, 0, 0⟩
def wBase : Bundle := ⟨wPrimary, [wHop, wAge, wPay]⟩

/-- Non-vacuity: the base structure is valid, well-formed and encodable. -/
theorem base_valid : checkValid true wNow wBase = true ∧ brokenRules wNow wBase = [] ∧
    Encodable {} wBase := by decide +kernel

theorem rule_needed_version :
    let w : Bundle := ⟨{ wPrimary with version := 6 }, wBase.blocks⟩
    brokenRules wNow w = ["version"] ∧ checkValid true wNow w = false := by decide +kernel

theorem rule_needed_payload_number :
    let w : Bundle := ⟨wPrimary, [wHop, wAge, { wPay with num := 4 }]⟩
    brokenRules wNow w = ["payload-block-number-1"] ∧ checkValid true wNow w = false := by decide +kernel

theorem rule_needed_payload_last :
    let w : Bundle := ⟨wPrimary, [wHop, wPay, wAge]⟩
    brokenRules wNow w = ["payload-block-last"] ∧ checkValid true wNow w = false := by decide +kernel

theorem rule_needed_unique_numbers :
    let w : Bundle := ⟨wPrimary, [wHop, { wAge with num := 2 }, wPay]⟩
    brokenRules wNow w = ["unique-block-numbers"] ∧ checkValid true wNow w = false := by decide +kernel

theorem rule_needed_one_per_type :
    let w : Bundle := ⟨wPrimary, [⟨4, 0, 0, .generic 50 []⟩, ⟨5, 0, 0, .generic 50 [1]⟩, wPay]⟩
    brokenRules wNow w = ["one-block-per-type"] ∧ checkValid true wNow w = false := by decide +kernel

theorem rule_needed_primary_eids :
    let w : Bundle := ⟨{ wPrimary with dst := .ipn 0 1 }, wBase.blocks⟩
    brokenRules wNow w = ["primary-endpoint-ids"] ∧ checkValid true wNow w = false := by decide +kernel

theorem rule_needed_block_eids :
    let w : Bundle := ⟨wPrimary, [⟨4, 0, 0, .prevNode (.ipn 0 0)⟩, wPay]⟩
    brokenRules wNow w = ["block-endpoint-ids"] ∧ checkValid true wNow w = false := by decide +kernel

theorem rule_needed_fragment_vs_mnf :
    let w : Bundle := ⟨{ wPrimary with flags := 5 }, wBase.blocks⟩
    brokenRules wNow w = ["fragment-vs-must-not-fragment"] ∧ checkValid true wNow w = false := by
  decide +kernel

theorem rule_needed_admin_status_flags :
    let w : Bundle := ⟨{ wPrimary with flags := 2 + 2 ^ 14 }, wBase.blocks⟩
    brokenRules wNow w = ["admin-or-anonymous-requests-status"] ∧ checkValid true wNow w = false := by
  decide +kernel

theorem rule_needed_admin_reporting_block :
    let w : Bundle := ⟨{ wPrimary with flags := 2 }, [{ wHop with flags := 2 }, wPay]⟩
    brokenRules wNow w = ["admin-or-anonymous-requests-status"] ∧ checkValid true wNow w = false := by
  decide +kernel

theorem rule_needed_anonymous_mnf :
    let w : Bundle := ⟨{ wPrimary with src := .none }, wBase.blocks⟩
    brokenRules wNow w = ["anonymous-without-must-not-fragment"] ∧ checkValid true wNow w = false := by
  decide +kernel

theorem rule_needed_zero_time_age :
    let w : Bundle := ⟨{ wPrimary with tsTime := 0 }, [wHop, wPay]⟩
    brokenRules wNow w = ["zero-time-without-age-block", "lifetime-run-out"] ∧
      checkValid true wNow w = false := by decide +kernel

theorem rule_needed_hop_count :
    let w : Bundle := ⟨wPrimary, [{ wHop with value := .hop 3 4 }, wPay]⟩
    brokenRules wNow w = ["hop-count-above-limit"] ∧ checkValid true wNow w = false := by decide +kernel

theorem rule_needed_lifetime_by_time :
    let w : Bundle := ⟨{ wPrimary with lifetime := 1 }, wBase.blocks⟩
    brokenRules wNow w = ["lifetime-run-out"] ∧ checkValid true wNow w = false := by decide +kernel

theorem rule_needed_lifetime_by_age :
    let w : Bundle := ⟨{ wPrimary with tsTime := 0, lifetime := 4 }, wBase.blocks⟩
    brokenRules wNow w = ["lifetime-run-out"] ∧ checkValid true wNow w = false := by decide +kernel

theorem rule_needed_one_payload :
    let w : Bundle := ⟨wPrimary, [wHop, wAge]⟩
    brokenRules wNow w = ["one-payload-block", "payload-block-last"] ∧
      checkValid true wNow w = false := by decide +kernel

/-- The same through the wire: the violating structure, serialised by the model of `MarshalCbor`
(CRCs computed), is rejected by the model of `ParseBundle`; the base structure is accepted. -/
theorem wire_rejects_hop_count :
    (parse {} wNow (serializeRaw ⟨wPrimary, [{ wHop with value := .hop 3 4 }, wPay]⟩)).toOption = none ∧
    (parse {} wNow (serializeRaw wBase)).toOption = some (wBase, []) := by decide +kernel

/-- Why the check is needed for the later fragments too: a valid bundle with creation time zero whose
age block is not replicated. Its first fragment is valid, a later one has no age block — it is not
well-formed, and the loop refuses it (so `Fragment` fails instead of handing it out). -/
def wZeroTime : Bundle :=
  ⟨{ wPrimary with tsTime := 0 }, [{ wHop with flags := 1 }, wAge, { wPay with value := .payload [1, 2, 3, 4, 5, 6] }]⟩

theorem fragment_check_needed :
    checkValid true wNow wZeroTime = true ∧
    (fragmentChecked true wNow wZeroTime true 0 6 [1, 2, 3]).isSome = true ∧
    brokenRules wNow (fragmentOf wZeroTime false 3 6 [4, 5, 6]) =
      ["zero-time-without-age-block", "lifetime-run-out"] ∧
    fragmentChecked true wNow wZeroTime false 3 6 [4, 5, 6] = none := by decide +kernel

end Dtn7.Props.C02
