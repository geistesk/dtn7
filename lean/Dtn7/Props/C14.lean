/-
C14 — bundles originated at the node get distinct IDs, in the store and on the wire; the sequence
number the node assigns is the one under which the bundle is stored and the one that is transmitted.
Property theorems only; helper lemmas live in `Dtn7.Lemmas.IdKeeper` (the invariants along every schedule) and
`Dtn7.Lemmas.IdKeeperSeq` (submissions one after the other, from any quiet state).

The model (`Dtn7.Model.IdKeeper`): every call of `Core.SendBundle` is a thread of micro-steps
`lock, read, write, stamp, unlock, clean, push, send`; a schedule is an arbitrary list of decisions
"thread i performs its next step" / "the node retransmits its store to adapter p". Sequential
histories are the schedules that run one thread after the other, so the theorems below, which
quantify over ALL schedules, cover sequences and concurrent groups alike.
-/
import Dtn7.Model.IdKeeper
import Dtn7.Lemmas.IdKeeper
import Dtn7.Lemmas.IdKeeperSeq
import Dtn7.Gen.C14

namespace Dtn7.Props.C14
open Dtn7.IdKeeper

/-! ## The model is the one the code selects (regenerated facts) -/

theorem gen_no_extraction_failure : Dtn7.Gen.C14.extractionFailures = [] := rfl

/-- `SendBundle` assigns the sequence number (unconditionally, as its first statement, before a
signature is attached) before it creates the descriptor, which precedes `transmit`; `transmit`
does not touch the IdKeeper and is entered from `SendBundle` only. The assignment is
`IdKeeper.updateUnless` with "the store knows this (scrubbed) ID" as the `taken` predicate
(`Cfg.code.skipKnown`, /repo 43cf7bc); `update` is the wrapper without a predicate. -/
theorem gen_update_first :
    Cfg.code.updateFirst =
      (Dtn7.Gen.C14.sendBundleUpdateUnconditional &&
        decide (0 ≤ Dtn7.Gen.C14.sendBundleUpdateStmt ∧
          Dtn7.Gen.C14.sendBundleUpdateStmt < Dtn7.Gen.C14.sendBundleDescriptorStmt ∧
          Dtn7.Gen.C14.sendBundleDescriptorStmt < Dtn7.Gen.C14.sendBundleTransmitStmt ∧
          Dtn7.Gen.C14.sendBundleUpdateIdx < Dtn7.Gen.C14.sendBundleDescriptorIdx ∧
          (Dtn7.Gen.C14.sendBundleSignIdx < 0 ∨
            Dtn7.Gen.C14.sendBundleUpdateIdx < Dtn7.Gen.C14.sendBundleSignIdx)) &&
        !Dtn7.Gen.C14.transmitCallsUpdate &&
        decide (Dtn7.Gen.C14.transmitCallers = ["SendBundle"]) &&
        decide (Dtn7.Gen.C14.updateCallers = ["SendBundle"])) ∧
    Cfg.code.skipKnown =
      (decide (Dtn7.Gen.C14.sendBundleUpdateCall = "idKeeper.updateUnless") &&
       decide (Dtn7.Gen.C14.sendBundleFirstStmt =
         "c.idKeeper.updateUnless(bndl, func(bid bpv7.BundleID) bool { _, err := c.store.QueryId(bid.Scrub()) return err == nil })") &&
       decide (Dtn7.Gen.C14.updateUnlessCallers = ["SendBundle", "update"]) &&
       decide (Dtn7.Gen.C14.updateWrapperSkeleton = ["idk.updateUnless(bndl, nil)"])) := by decide +kernel

/-- `IdKeeper.updateUnless`: the mutex is held from before the first to after the last access of the map
and of the bundle's timestamp, the counter is written into the bundle inside the bracket, the loop that
takes the next number while the ID is taken sits inside the bracket too (the model's single `stamp` step,
`stampSeq`/`firstFree`), and `clean` follows (autoClean is set by `NewIdKeeper`). The model's `prog`/`exec`
copy this shape. -/
theorem gen_update_locked :
    Dtn7.Gen.C14.updateLocked = Cfg.code.locked ∧ Dtn7.Gen.C14.updateWritesSeq = true ∧
    Dtn7.Gen.C14.updateSkeleton =
      ["var tpl = newIdTuple(bndl)",
       "idk.mutex.Lock()",
       "if state, ok := idk.data[tpl]; ok",
       "  idk.data[tpl] = state + 1",
       "else",
       "  idk.data[tpl] = 0",
       "idk.used[tpl] = bpv7.DtnTimeNow()",
       "bndl.PrimaryBlock.CreationTimestamp[1] = idk.data[tpl]",
       "for ; taken != nil && taken(bndl.ID());",
       "  idk.data[tpl] = idk.data[tpl] + 1",
       "  bndl.PrimaryBlock.CreationTimestamp[1] = idk.data[tpl]",
       "idk.mutex.Unlock()",
       "if idk.autoClean",
       "  idk.clean()"] ∧
    Dtn7.Gen.C14.newIdKeeperSkeleton =
      ["return IdKeeper{ data: make(map[idTuple]uint64), used: make(map[idTuple]bpv7.DtnTime), autoClean: true, }"] ∧
    Dtn7.Gen.C14.newIdTupleSkeleton =
      ["return idTuple{ source: bndl.PrimaryBlock.SourceNode, time: bndl.PrimaryBlock.CreationTimestamp.DtnTime(), }"] := by and_intros <;> rfl

/-- `IdKeeper.clean`: the comparison of the model — the time of the tuple's LAST USE (`idk.used`, written by
`updateUnless` inside its critical section: `gen_update_locked`) against the threshold, the epoch time
exempt; both maps lose the entry —, and a retention constant of one day expressed in
the unit of `DtnTime` (milliseconds: `DtnTimeFromTime` divides nanoseconds by `nanoToMilli`). -/
theorem gen_clean_window :
    Dtn7.Gen.C14.cleanWindow = Cfg.code.window ∧
    Dtn7.Gen.C14.cleanWindow * Dtn7.Gen.C14.nanoToMilli = 24 * 60 * 60 * 1000000000 ∧
    Dtn7.Gen.C14.cleanJudgesByUse = Cfg.code.byUse ∧
    Dtn7.Gen.C14.cleanSkeleton =
      ["idk.mutex.Lock()",
       "var threshold = bpv7.DtnTimeNow() - 60*60*24*1000",
       "for tpl, used := range idk.used",
       "  if used < threshold && tpl.time != bpv7.DtnTimeEpoch",
       "    delete(idk.data, tpl)",
       "    delete(idk.used, tpl)",
       "idk.mutex.Unlock()"] ∧
    Dtn7.Gen.C14.dtnTimeFromTimeSkeleton =
      ["return (DtnTime)((t.UTC().UnixNano() / nanoToMilli) - milliseconds1970To2k)"] := by and_intros <;> rfl

/-- Descriptor creation computes the store key from the bundle's id at that moment and pushes the
bundle unless the key is known; `Push` ignores a known (unfragmented) key; retransmissions load the
bundle from the store; the agent manager submits through `SendBundle`. -/
theorem gen_descriptor_store :
    Dtn7.Gen.C14.newDescriptorFromBundleSkeleton =
      ["descriptor := NewBundleDescriptor(b.ID(), store)", "descriptor.bndl = &b",
       "_ = descriptor.Sync()", "return descriptor"] ∧
    Dtn7.Gen.C14.syncHead =
      ["if !descriptor.store.KnowsBundle(descriptor.Id.Scrub())",
       "  return descriptor.store.Push(*descriptor.bndl)"] ∧
    Dtn7.Gen.C14.pushTail = ["else", "  return nil"] ∧
    Dtn7.Gen.C14.checkPendingCalls = ["c.store.QueryPending", "c.dispatching", "NewBundleDescriptor"] ∧
    Dtn7.Gen.C14.agentHandleMessageCalls = ["manager.core.SendBundle"] := by and_intros <;> rfl

/-! ## The counter -/

/-- **Per (source, time), while the entry is retained, the numbers are `next, next+1, …`** — for
every script of `update`s (of arbitrary tuples) and `clean`s, with or without autoClean. Retained: no
`clean` of the script comes more than a window after the tuple's last use (the use before the script, `u κ`,
and the `update`s of `κ` in the script) — the tuple's creation time does not enter (`Cfg.byUse`). -/
theorem seq_consecutive (w : Nat) (auto : Bool) (κ : Key) (m : Keeper) (u : Used) (ops : List Op)
    (h0 : ∀ op ∈ ops, op.cleans auto = true → droppedAt w op.now (u κ) κ = false)
    (hret : ∀ op ∈ ops, op.cleans auto = true → ∀ op' ∈ ops, Lemmas.isUpd κ op' = true →
      droppedAt w op.now op'.now κ = false) :
    seqsOf w auto κ m u ops = List.range' (nextOf (m κ)) (ops.countP (Lemmas.isUpd κ)) :=
  Lemmas.seqsOf_eq w auto κ ops m u h0 hret

/-- … in particular strictly increasing, and above everything handed out before. -/
theorem seq_strictly_increasing (w : Nat) (auto : Bool) (κ : Key) (m : Keeper) (u : Used) (ops : List Op)
    (h0 : ∀ op ∈ ops, op.cleans auto = true → droppedAt w op.now (u κ) κ = false)
    (hret : ∀ op ∈ ops, op.cleans auto = true → ∀ op' ∈ ops, Lemmas.isUpd κ op' = true →
      droppedAt w op.now op'.now κ = false) :
    (seqsOf w auto κ m u ops).Pairwise (· < ·) ∧ ∀ s ∈ seqsOf w auto κ m u ops, nextOf (m κ) ≤ s := by
  rw [seq_consecutive w auto κ m u ops h0 hret]
  refine ⟨List.pairwise_lt_range' 1, ?_⟩
  intro s hs
  rw [List.mem_range'_1] at hs
  exact hs.1

/-- The retention hypothesis in the form of the property text: the epoch time is always retained, and so is
an entry that was used at most one window before the clock reading (or later). -/
theorem retained_epoch_or_recent (w now t : Nat) (κ : Key)
    (h : κ.time = 0 ∨ (w ≤ now ∧ now < 2 ^ 64 ∧ now - t ≤ w)) : droppedAt w now t κ = false := by
  rcases h with h | ⟨h1, h2, h3⟩
  · exact Lemmas.droppedAt_epoch w now t κ h
  · exact Lemmas.droppedAt_window w now t κ h1 h2 h3

/-! ## All schedules of submissions -/

/-- Thread `i` has received its final sequence number (it has executed `stamp`). -/
def Stamped (n : Node) (i : Nat) : Prop := stampedPc Cfg.code ≤ (n.th i).pc
instance (n : Node) (i : Nat) : Decidable (Stamped n i) := by unfold Stamped; infer_instance

/-- Thread `i` has executed `push`. -/
def Pushed (n : Node) (i : Nat) : Prop := (prog Cfg.code).idxOf .push + 1 ≤ (n.th i).pc
instance (n : Node) (i : Nat) : Decidable (Pushed n i) := by unfold Pushed; infer_instance

/-- Thread `i` is inside the critical section of `update` (between `lock` and `unlock`). -/
def InUpdate (n : Node) (i : Nat) : Prop :=
  (prog Cfg.code).idxOf .lock + 1 ≤ (n.th i).pc ∧ (n.th i).pc ≤ (prog Cfg.code).idxOf .unlock
instance (n : Node) (i : Nat) : Decidable (InUpdate n i) := by unfold InUpdate; infer_instance

/-- **`update` is atomic**: under every schedule, whatever the clock readings, at most one
submission is between `lock` and `unlock`, i.e. the read-modify-write of the counter and the write
into the bundle are never interleaved with another submission's. -/
theorem update_mutually_exclusive (subs : Nat → Sub) (k0 : Keeper) (σ : List Act) (i j : Nat)
    (hi : InUpdate (run Cfg.code subs (Node.init subs k0) σ) i)
    (hj : InUpdate (run Cfg.code subs (Node.init subs k0) σ) j) : i = j :=
  Lemmas.exclusive_of_inv _
    (Lemmas.invL_run subs σ _ ⟨by simp [Node.init], by simp [Node.init]⟩) i j hi hj

/-- **Distinct ids for every schedule.** `A` marks the submissions that take part. If no `clean` of
a participating submission comes more than a window after the clock reading of another participant (the
tuple's last use), then under EVERY schedule
any two submissions that have their number carry different ids. (`update` holds the mutex:
`gen_update_locked`.) -/
theorem ids_distinct (subs : Nat → Sub) (A : Nat → Prop) (k0 : Keeper) (σ : List Act)
    (hσ : ∀ i, Act.step i ∈ σ → A i)
    (hret : ∀ i j, A i → A j → droppedAt Cfg.code.window (subs i).now (subs j).now (subs j).key = false)
    (i j : Nat) (hij : i ≠ j)
    (hi : Stamped (run Cfg.code subs (Node.init subs k0) σ) i)
    (hj : Stamped (run Cfg.code subs (Node.init subs k0) σ) j) :
    idOf subs (run Cfg.code subs (Node.init subs k0) σ) i ≠
      idOf subs (run Cfg.code subs (Node.init subs k0) σ) j :=
  Lemmas.ids_ne_of_inv subs A _
    (Lemmas.inv_run subs A hret σ _ hσ (Lemmas.inv_init subs A k0 _)) i j hij hi hj

/-- k submissions of any sources and creation times, each with the epoch time or submitted within one retention
window of the others by the node's clock: under every schedule of these k threads that lets all of them reach
their number, the k ids are pairwise distinct. -/
theorem ids_distinct_window (k : Nat) (subs : Nat → Sub) (k0 : Keeper) (σ : List Act)
    (hσ : ∀ i, Act.step i ∈ σ → i < k)
    (hwin : ∀ i j, i < k → j < k → (subs j).key.time = 0 ∨ (Cfg.code.window ≤ (subs i).now ∧ (subs i).now < 2 ^ 64 ∧
      (subs i).now - (subs j).now ≤ Cfg.code.window))
    (hall : ∀ i, i < k → Stamped (run Cfg.code subs (Node.init subs k0) σ) i) :
    ((List.range k).map (idOf subs (run Cfg.code subs (Node.init subs k0) σ))).Nodup := by
  have hret : ∀ i j, i < k → j < k →
      droppedAt Cfg.code.window (subs i).now (subs j).now (subs j).key = false :=
    fun i j hi hj => retained_epoch_or_recent _ _ _ _ (hwin i j hi hj)
  rw [List.Nodup, List.pairwise_map]
  refine List.Pairwise.imp_of_mem ?_ List.nodup_range
  intro a b ha hb hab
  exact ids_distinct subs (· < k) k0 σ hσ hret a b hab
    (hall a (List.mem_range.mp ha)) (hall b (List.mem_range.mp hb))

/-- **k submissions with one source and one creation time — ANY creation time** (zero, this millisecond, a
year ago), submitted within one retention window of each other by the node's clock: under every schedule of
these k threads that lets all of them reach their number, the k ids are pairwise distinct (the instance of
`ids_distinct_window` for one tuple). The hypothesis is about the wall clock only (the k submissions happen
within 24 h); with `clean` judging by creation time (`Cfg.byCreationTime`) it fails: `retention_gap_witness`.
`assigned_number_is_free` holds regardless. -/
theorem ids_distinct_partial (k : Nat) (src : String) (t : Nat) (subs : Nat → Sub) (k0 : Keeper)
    (σ : List Act)
    (hσ : ∀ i, Act.step i ∈ σ → i < k)
    (hkey : ∀ i, i < k → (subs i).key = ⟨src, t⟩)
    (hwin : t = 0 ∨ ∀ i j, i < k → j < k → Cfg.code.window ≤ (subs i).now ∧ (subs i).now < 2 ^ 64 ∧
      (subs i).now - (subs j).now ≤ Cfg.code.window)
    (hall : ∀ i, i < k → Stamped (run Cfg.code subs (Node.init subs k0) σ) i) :
    ((List.range k).map (idOf subs (run Cfg.code subs (Node.init subs k0) σ))).Nodup :=
  ids_distinct_window k subs k0 σ hσ
    (fun i j hi hj => hwin.elim (fun h => .inl (by rw [hkey j hj]; exact h)) (fun h => .inr (h i j hi hj))) hall

/-- **The number assigned is the number stored and the number transmitted** — for every schedule,
every mix of first transmissions and retransmissions from the store, WITHOUT any retention
hypothesis: every store key equals the id inside the stored bytes, every transmitted copy of a
bundle carries the id under which that bundle is stored, and all copies of one bundle carry one id.
(Submissions are told apart by their payload `tag`.) -/
theorem stored_is_sent (subs : Nat → Sub) (k0 : Keeper) (σ : List Act)
    (htag : ∀ i j, (subs i).tag = (subs j).tag → i = j) :
    StoredIsSent (obsOf (run Cfg.code subs (Node.init subs k0) σ)) :=
  Lemmas.storedIsSent_of_inv subs _ htag
    (Lemmas.invS_run subs σ _ (Lemmas.invS_init subs k0))

/-- **Distinct in the store and on the wire, one store item per bundle** — for every schedule under
the retention hypothesis: different bundles leave under different ids, are filed under different
keys, and every submission that has passed `push` is filed exactly once. -/
theorem distinct_in_store_and_on_wire (subs : Nat → Sub) (A : Nat → Prop) (k0 : Keeper)
    (σ : List Act) (hσ : ∀ i, Act.step i ∈ σ → A i)
    (hret : ∀ i j, A i → A j → droppedAt Cfg.code.window (subs i).now (subs j).now (subs j).key = false)
    (htag : ∀ i j, (subs i).tag = (subs j).tag → i = j)
    (is : List Nat) (his : ∀ i ∈ is, Pushed (run Cfg.code subs (Node.init subs k0) σ) i) :
    SentIdsDistinct (obsOf (run Cfg.code subs (Node.init subs k0) σ)) ∧
    StoreKeysDistinct (obsOf (run Cfg.code subs (Node.init subs k0) σ)) ∧
    FiledOnce (is.map (fun i => (subs i).tag)) (obsOf (run Cfg.code subs (Node.init subs k0) σ)) := by
  obtain ⟨h1, h2, h3⟩ := Lemmas.all_run subs A hret σ _ hσ (Lemmas.inv_init subs A k0 _)
    (Lemmas.invS_init subs k0) (by intro i h; simp [Node.init] at h)
  exact ⟨Lemmas.sentDistinct_of_inv subs A _ h1 h2, Lemmas.storeDistinct_of_inv subs A _ h1 h2,
    Lemmas.filedOnce_of_inv subs _ htag h2 h3 is his⟩

/-! ## Witnesses: what the hypotheses and the repairs are needed for -/

/-- Two submissions of node `n` with one creation time. -/
def twoSubs (time now seq0 : Nat) : Nat → Sub := fun i => ⟨i, ⟨"n", time⟩, seq0, now, [7]⟩

/-- **The number assigned is free** (`assigned_number_is_free`): whatever the store holds and whatever the
counter says — after a restart, after `clean` dropped the entry — the id that `updateUnless` stamps into
the bundle is not a key of the store at that moment. No retention hypothesis. -/
theorem assigned_number_is_free (n : Node) (k : Key) :
    knows n.store ⟨k.source, k.time, stampSeq Cfg.code n k⟩ = false :=
  Lemmas.stampSeq_free n k

/-- **D18, residual**: a creation time more than a day older than the clock. With `clean` judging an entry by
the tuple's creation time (`Cfg.byCreationTime`) the entry is dropped by the autoClean of the very submission
that created it, and the second submission starts from 0 again. /repo judges the entry by its last use
(`Cfg.code`, `byUse`): numbers 0 and 1, whatever the store holds … -/
theorem retention_gap_filed_example :
    let subs := twoSubs 800000000000 (800000000000 + 86400000 + 1) 0
    let n := run Cfg.code subs (Node.init subs Keeper.empty) (seqSchedule Cfg.code 2)
    (idOf subs n 0).seq = 0 ∧ (idOf subs n 1).seq = 1 ∧ n.store.length = 2 ∧
    n.keeper ⟨"n", 800000000000⟩ = some 1 ∧
    SentIdsDistinct (obsOf n) ∧ FiledOnce [0, 1] (obsOf n) := by decide +kernel

/-- … with `clean` by creation time (`Cfg.byCreationTime`) the counter is gone after every submission; that the
second bundle still gets number 1 is the store's doing (43cf7bc: stored numbers are skipped) and holds only
while the first bundle is stored … -/
theorem retention_gap_counter_witness :
    let subs := twoSubs 800000000000 (800000000000 + 86400000 + 1) 0
    let n := run Cfg.byCreationTime subs (Node.init subs Keeper.empty) (seqSchedule Cfg.byCreationTime 2)
    n.keeper ⟨"n", 800000000000⟩ = none ∧
    -- the first bundle delivered and deleted before the second submission: number 0 again
    (let first := run Cfg.byCreationTime subs (Node.init subs Keeper.empty)
        (List.replicate (prog Cfg.byCreationTime).length (.step 0))
     let second := run Cfg.byCreationTime subs { first with store := [] }
        (List.replicate (prog Cfg.byCreationTime).length (.step 1))
     idOf subs second 0 = idOf subs second 1) ∧
    -- the same history with the code as it is: numbers 0 and 1
    (let first := run Cfg.code subs (Node.init subs Keeper.empty)
        (List.replicate (prog Cfg.code).length (.step 0))
     let second := run Cfg.code subs { first with store := [] }
        (List.replicate (prog Cfg.code).length (.step 1))
     idOf subs second 0 ≠ idOf subs second 1) := by decide +kernel

/-- … and before 43cf7bc (`Cfg.noSkip`) it got number 0 again in any case: same id on the wire, second bundle
not filed. -/
theorem retention_gap_witness :
    let subs := twoSubs 800000000000 (800000000000 + 86400000 + 1) 0
    let n := run Cfg.noSkip subs (Node.init subs Keeper.empty) (seqSchedule Cfg.noSkip 2)
    idOf subs n 0 = idOf subs n 1 ∧ n.store.length = 1 ∧
    ¬ SentIdsDistinct (obsOf n) ∧ ¬ FiledOnce [0, 1] (obsOf n) := by decide +kernel

/-- **What is left of D18 (known finding, by design of `clean`)**: a counter that was not used for more than the
window is forgotten. Tuple `κ` (a non-zero creation time) gets number 0; 25 h later another tuple is numbered
— its autoClean drops `κ` —; then `κ` is numbered again: 0 again. The hypothesis of `seq_consecutive` /
`ids_distinct_partial` (submissions of one tuple within one window of each other) excludes exactly this. -/
theorem unused_for_a_day_witness :
    seqsOf 86400000 true ⟨"n", 800000000005⟩ Keeper.empty (fun _ => 0)
      [.upd ⟨"n", 800000000005⟩ 800000000100, .upd ⟨"m", 7⟩ (800000000100 + 90000000),
       .upd ⟨"n", 800000000005⟩ (800000000100 + 90000001)] = [0, 0] ∧
    -- used again within the window instead: 0, 1
    seqsOf 86400000 true ⟨"n", 800000000005⟩ Keeper.empty (fun _ => 0)
      [.upd ⟨"n", 800000000005⟩ 800000000100, .upd ⟨"m", 7⟩ (800000000100 + 80000000),
       .upd ⟨"n", 800000000005⟩ (800000000100 + 80000001)] = [0, 1] := by
  decide +kernel

/-- **After a restart** (the IdKeeper is empty, the store is not): a clock-less source's second bundle.
Without the skip it takes the stored bundle's id and is not filed; with it, it is filed under number 1. -/
theorem restart_witness :
    let subs := twoSubs 0 800000000000 0
    let first (c : Cfg) := run c subs (Node.init subs Keeper.empty) (List.replicate (prog c).length (.step 0))
    let restart (n : Node) : Node := { n with keeper := Keeper.empty }
    let second (c : Cfg) := run c subs (restart (first c)) (List.replicate (prog c).length (.step 1))
    (idOf subs (second Cfg.noSkip) 0 = idOf subs (second Cfg.noSkip) 1 ∧ (second Cfg.noSkip).store.length = 1) ∧
    ((idOf subs (second Cfg.code) 1).seq = 1 ∧ (second Cfg.code).store.length = 2 ∧
      FiledOnce [0, 1] (obsOf (second Cfg.code))) := by decide +kernel

/-- **Submissions one after the other are filed under fresh ids — from ANY quiet state**
(`sequential_submissions_filed`, no retention hypothesis): `n0` is any state in which nobody holds the
IdKeeper's mutex — any store, any counter table (empty after a restart, or with entries `clean` dropped) —
and `is` are submissions that have not started yet, with whatever sources and creation times (all equal,
older than a day, the epoch …). When they run one after the other, the mutex is free again, nothing that
was stored is lost, the store gained exactly one record per submission, no two records share a key, and
each submission's bundle is in the store under an id that the store did not hold before. -/
theorem sequential_submissions_filed (subs : Nat → Sub) (n0 : Node) (is : List Nat)
    (hq : n0.holder = none) (hnd : is.Nodup) (hnew : ∀ i ∈ is, (n0.th i).pc = 0) :
    let n := run Cfg.code subs n0 (Lemmas.seqOf is)
    n.holder = none ∧ n.store.length = n0.store.length + is.length ∧
    (∀ e ∈ n0.store, e ∈ n.store) ∧
    ((n0.store.map (·.1)).Nodup → (n.store.map (·.1)).Nodup) ∧
    (∀ i ∈ is, ∃ q, (Lemmas.idWith subs i q, (⟨Lemmas.idWith subs i q, (subs i).tag⟩ : Bundle)) ∈ n.store ∧
      knows n0.store (Lemmas.idWith subs i q) = false) :=
  Lemmas.run_seq subs is n0 hq hnd hnew

/-- **Known finding (on the wire only)**: the number of a bundle that was delivered and deleted before a
restart is free in the store and is handed out again after the restart — this model's store never forgets
a key, the node model of C05 exhibits it: `Dtn7.Props.C05.wire_id_reused_after_restart_witness`; class
`same-id-on-wire-…-number-of-a-bundle-delivered-before-the-restart` of the `rst` lines. -/
theorem restart_skips_only_stored_numbers :
    let subs := twoSubs 0 800000000000 0
    let first := run Cfg.code subs (Node.init subs Keeper.empty) (List.replicate (prog Cfg.code).length (.step 0))
    -- the first bundle has left the store (delivered) and the node restarted: store and IdKeeper are empty
    let again : Node := { first with keeper := Keeper.empty, store := [] }
    let second := run Cfg.code subs again (List.replicate (prog Cfg.code).length (.step 1))
    idOf subs second 0 = idOf subs second 1 := by decide +kernel

/-- **D18 as found** (`60*60*24` compared with milliseconds): the same happens with a creation time
that is 87 s old (`Cfg.window86s`) — and does not with the constant /repo has (`Cfg.code`, 86 400 000 ms). -/
theorem window_unit_witness :
    let subs := twoSubs 800000000000 (800000000000 + 87000) 0
    let old := run Cfg.window86s subs (Node.init subs Keeper.empty) (seqSchedule Cfg.window86s 2)
    let new := run Cfg.code subs (Node.init subs Keeper.empty) (seqSchedule Cfg.code 2)
    idOf subs old 0 = idOf subs old 1 ∧ idOf subs new 0 ≠ idOf subs new 1 := by decide +kernel

/-- **D17** (descriptor created before the number is assigned, the tree before the `fix:` commit):
two submissions in one millisecond, one after the other, application-supplied number 5. Only one
bundle is filed, its key (number 5) is neither of the transmitted numbers (0 and 1), and the
retransmission from the store leaves under a third id. -/
theorem descriptor_first_witness :
    let subs := twoSubs 800000000000 800000000000 5
    let n := run Cfg.descriptorFirst subs (Node.init subs Keeper.empty)
      (seqSchedule Cfg.descriptorFirst 2 ++ [.retry 8])
    n.store.length = 1 ∧ ¬ StoredIsSent (obsOf n) ∧ ¬ FiledOnce [0, 1] (obsOf n) := by
  decide +kernel

/-- **Why the mutex matters**: without it the schedule "both read, then both write" hands out one
number twice. -/
theorem unlocked_race_witness :
    let subs := twoSubs 0 800000000000 0
    let n := run Cfg.unlocked subs (Node.init subs Keeper.empty)
      [.step 0, .step 1, .step 0, .step 1, .step 0, .step 1]
    (n.th 0).pc = 3 ∧ (n.th 1).pc = 3 ∧ idOf subs n 0 = idOf subs n 1 := by decide +kernel

/-! ## Non-vacuity -/

/-- Three concurrent submissions with the zero creation time, an interleaved schedule (thread 1
blocks on the mutex while thread 0 is inside), then a retransmission: numbers 0, 1, 2. -/
def demoSubs : Nat → Sub := fun i => ⟨i, ⟨"n", 0⟩, 0, 800000000000, [7]⟩
def demoSchedule : List Act :=
  [.step 0, .step 1, .step 0, .step 2, .step 0, .step 0, .step 0, .step 1, .step 1, .step 1,
   .step 1, .step 1, .step 0] ++ seqSchedule Cfg.code 3 ++ [.retry 8]

example :
    let n := run Cfg.code demoSubs (Node.init demoSubs Keeper.empty) demoSchedule
    (List.range 3).map (fun i => (idOf demoSubs n i).seq) = [0, 1, 2] ∧
    Stamped n 0 ∧ Stamped n 1 ∧ Stamped n 2 ∧ Pushed n 2 ∧
    n.store.length = 3 ∧ n.sent.length = 6 := by decide +kernel

example : ∀ i j, i < 3 → j < 3 →
    droppedAt Cfg.code.window (demoSubs i).now (demoSubs j).now (demoSubs j).key = false := by
  intro i j _ _; simp [demoSubs, droppedAt]

example : seqsOf 86400000 true ⟨"n", 800000000005⟩ Keeper.empty (fun _ => 0)
    [.upd ⟨"n", 800000000005⟩ 800000000100, .upd ⟨"m", 800000000005⟩ 800000000100,
     .clean 800000000200, .upd ⟨"n", 800000000005⟩ 800000000300] = [0, 1] := by
  decide +kernel

/-- A NON-MONOTONE history of one source: creation times T, T+1000, T again (and T-1000, and the
epoch in between). The counter is keyed by (source, time), so the third submission continues the
count of the first: numbers 0, 0, 1, 0, 0 and five distinct ids. The hypotheses of `ids_distinct`
hold for it (all times are inside the window or the epoch). -/
def nonMonoSubs : Nat → Sub := fun i =>
  ⟨i, ⟨"n", [800000002000, 800000003000, 800000002000, 800000001000, 0].getD i 0⟩, 7, 800000004000, [7]⟩

example :
    let n := run Cfg.code nonMonoSubs (Node.init nonMonoSubs Keeper.empty) (seqSchedule Cfg.code 5)
    (List.range 5).map (fun i => (idOf nonMonoSubs n i).seq) = [0, 0, 1, 0, 0] ∧
    ((List.range 5).map (idOf nonMonoSubs n)).Nodup ∧ n.store.length = 5 := by decide +kernel

example : ∀ i j, droppedAt Cfg.code.window (nonMonoSubs i).now (nonMonoSubs j).now (nonMonoSubs j).key = false := by
  intro i j
  apply retained_epoch_or_recent
  simp [nonMonoSubs, Cfg.code]

example : stampedPc Cfg.code = 4 ∧ (prog Cfg.code).idxOf .push + 1 = 7 := by decide

/-- After `[step 0, step 1, step 0]` thread 0 is inside `update` and thread 1 is still waiting. -/
example :
    let n := run Cfg.code demoSubs (Node.init demoSubs Keeper.empty) [.step 0, .step 1, .step 0]
    InUpdate n 0 ∧ ¬ InUpdate n 1 := by decide +kernel

/-- `sequential_submissions_filed` is not vacuous: a store with one old bundle (#0 of a clock-less source),
an empty IdKeeper (restart), three further submissions of the same source — numbers 1, 2, 3. -/
example :
    let subs : Nat → Sub := fun i => ⟨i, ⟨"n", 0⟩, 0, 800000000000, []⟩
    let n0 : Node := { Node.init subs Keeper.empty with store := [(⟨"n", 0, 0⟩, ⟨⟨"n", 0, 0⟩, 99⟩)] }
    let n := run Cfg.code subs n0 (Lemmas.seqOf [1, 2, 3])
    n0.holder = none ∧ (n.store.map (·.1.seq)) = [3, 2, 1, 0] ∧ (n.store.map (·.2.tag)) = [3, 2, 1, 99] := by
  decide +kernel

end Dtn7.Props.C14
