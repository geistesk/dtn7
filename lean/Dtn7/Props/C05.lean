/-
C05 — store-carry-forward: an accepted bundle is never silently lost.
Property theorems only; the proofs live in `Dtn7.Lemmas.Node*`.

The statements are about the executable model `Dtn7.Node.step` (pkg/routing/processing.go and the
routing algorithms, see `Dtn7.Model.Node`) and conclude the Spec predicates of `Dtn7.Model.NodeSpec` —
the very predicates the driver `drv_c05` evaluates on the implementation's own observations.
`trace env (init c now) h` is the run of history `h` from the empty node; `env` is the environment
(outcome of every `Send`, iteration order of the CLA manager, PRoPHET/DTLSR routing oracle) and is
universally quantified everywhere, as are the routing algorithm (`c.algo`, `c.mule`), the number of peers
and the history — EVERY list of events, without any domain hypothesis. `Cur c` says that the variant
flags of the model are those of the code as it is (`gen_variant`).
-/
import Dtn7.Model.Node
import Dtn7.Model.NodeSpec
import Dtn7.Model.NodeSched
import Dtn7.Lemmas.NodeC05
import Dtn7.Lemmas.NodeDirect
import Dtn7.Lemmas.NodeSched
import Dtn7.Lemmas.NodeSkip
import Dtn7.Lemmas.NodeFull
import Dtn7.Lemmas.NodeFullDirect
import Dtn7.Gen.C05
import Dtn7.Lemmas.NodeReenable

namespace Dtn7.Props.C05
open Dtn7.Node

/-! ## The tie to the source: expectations about the regenerated facts -/

/-- `a` occurs in `l` as a (not necessarily contiguous) subsequence. -/
def isSubseq : List String → List String → Bool
  | [], _ => true
  | _ :: _, [] => false
  | a :: as, b :: bs => if a == b then isSubseq as bs else isSubseq (a :: as) bs

theorem gen_no_extraction_failure : Dtn7.Gen.C05.extractionFailures = [] := rfl

/-- The code variant the theorems below are about (`Cfg.seqFirst`, `skipStored`, `expiryNow`, `dtlsrFail`,
`holdFix`): `SendBundle` lets the IdKeeper assign the sequence number before it creates the descriptor (D17
repaired, /repo 9fa781b; `transmit` does not touch the IdKeeper) and skips the numbers of bundles that
are still stored (/repo 43cf7bc); `calcExpirationDate` counts from now for clock-less bundles (D22
repaired); DTLSR records failures; `dispatching` keeps a refused bundle contraindicated. The driver reads
the same facts. -/
theorem gen_variant :
    Dtn7.Gen.C05.seqAssignedFirst = true ∧ Dtn7.Gen.C05.sendBundleSkipsStored = true ∧
    Dtn7.Gen.C05.transmitAssignsSeq = false ∧
    Dtn7.Gen.C05.expiryCountsFromNow = true ∧ Dtn7.Gen.C05.dtlsrReportsFailure = true ∧
    Dtn7.Gen.C05.dispatchingHoldsRefused = true := by and_intros <;> rfl

/-- The gate of epidemic routing (`Dtn7.Node.dispatchingAllowed`, `epiLocal`, `epiDirect`; `Cfg.gateDirect`):
a bundle for this node passes; a bundle whose destination — the stored `routing/epidemic/destination` — is
a directly connected peer passes (the Core serves it itself); only then the sent list decides, and a refused
bundle is marked pending. `NotifyNewBundle` (`epiNotify`) writes the destination property when it is absent,
from the bundle's primary block, before it looks at the previous node. -/
theorem gen_epidemic_gate :
    Dtn7.Gen.C05.epidemicGateServesDirect = true ∧
    Dtn7.Gen.C05.epidemicGateSkeleton =
      ["bi, biErr := er.c.store.QueryId(bp.Id)",
       "if biErr != nil",
       "  return true",
       "else if dst, ok := bi.Properties[\"routing/epidemic/destination\"]; ok",
       "  if er.c.HasEndpoint(dst.(bpv7.EndpointID))",
       "    return true",
       "  if len(er.c.senderForDestination(dst.(bpv7.EndpointID))) > 0",
       "    return true",
       "css, _ := er.clasForBundle(bp, false)",
       "if len(css) == 0",
       "  bi.Pending = true",
       "  if err := er.c.store.Update(bi); err != nil",
       "return len(css) > 0"] ∧
    isSubseq
      ["bi, biErr := er.c.store.QueryId(bp.Id)",
       "bndl := bp.MustBundle()",
       "if _, ok := bi.Properties[\"routing/epidemic/destination\"]; !ok",
       "  bi.Properties[\"routing/epidemic/destination\"] = bndl.PrimaryBlock.Destination",
       "  if err := er.c.store.Update(bi); err != nil",
       "if pnBlock, err := bndl.ExtensionBlock(bpv7.ExtBlockTypePreviousNodeBlock); err == nil",
       "bi.Properties[\"routing/epidemic/sent\"] = append(sentEids, prevNode)"]
      Dtn7.Gen.C05.epidemicNotifySkeleton = true := ⟨rfl, rfl, by decide +kernel⟩

/-- `SendBundle` and `IdKeeper.updateUnless` (`Dtn7.Node.sendBundle`, `assignSeq`, `idkUpdate`, `idkSkip`):
the first statement assigns the number; the "is this ID stored" question goes to the store; the loop that
takes the next number while the ID is taken sits inside the IdKeeper's lock bracket. -/
theorem gen_send_bundle :
    Dtn7.Gen.C05.sendBundleSkeleton =
      ["c.idKeeper.updateUnless(bndl, func(bid bpv7.BundleID) bool { _, err := c.store.QueryId(bid.Scrub()) return err == nil })",
       "if c.signPriv != nil && bndl.IsAdministrativeRecord()",
       "  c.sendBundleAttachSignature(bndl)",
       "bp := NewBundleDescriptorFromBundle(*bndl, c.store)",
       "c.routing.NotifyNewBundle(bp)",
       "c.transmit(bp)"] ∧
    Dtn7.Gen.C05.updateUnlessSkeleton =
      ["var tpl = newIdTuple(bndl)",
       "idk.mutex.Lock()",
       "if state, ok := idk.data[tpl]; ok",
       "  idk.data[tpl] = state + 1",
       "else",
       "  idk.data[tpl] = 0",
       "idk.used[tpl] = bpv7.DtnTimeNow()",
       "bndl.PrimaryBlock.CreationTimestamp[1] = idk.data[tpl]",
       "for ; taken != nil && taken(bndl.ID());",
       "  idk.data[tpl] = idk.data[tpl] + 1",
       "  bndl.PrimaryBlock.CreationTimestamp[1] = idk.data[tpl]",
       "idk.mutex.Unlock()",
       "if idk.autoClean",
       "  idk.clean()"] := ⟨rfl, rfl⟩

/-- Call order of the pipeline as `Dtn7.Node.sendBundle / transmit / receive / forward` mirror it. -/
theorem gen_call_order :
    isSubseq ["c.idKeeper.updateUnless", "c.store.QueryId", "NewBundleDescriptorFromBundle", "c.routing.NotifyNewBundle",
        "c.transmit"]
      Dtn7.Gen.C05.sendBundleCalls = true ∧
    isSubseq ["bp.AddConstraint", "bp.Sync", "c.HasEndpoint", "c.bundleDeletion", "c.dispatching"]
      Dtn7.Gen.C05.transmitCalls = true ∧
    Dtn7.Gen.C05.transmitCalls.contains "c.idKeeper.update" = false ∧
    isSubseq ["bp.AddConstraint", "bp.Sync", "c.bundleDeletion", "c.routing.NotifyNewBundle", "c.dispatching"]
      Dtn7.Gen.C05.receiveCalls = true ∧
    isSubseq ["c.routing.DispatchingAllowed", "bp.Bundle", "c.HasEndpoint", "c.localDelivery", "c.forward"]
      Dtn7.Gen.C05.dispatchingCalls = true ∧
    isSubseq ["bp.AddConstraint", "bp.RemoveConstraint", "bp.Sync", "hc.Increment", "c.bundleDeletion",
        "bp.MustBundle().IsLifetimeExceeded", "c.bundleDeletion", "bp.UpdateBundleAge", "c.bundleDeletion",
        "c.senderForDestination", "c.routing.SenderForBundle", "node.Send", "c.routing.ReportFailure", "wg.Wait",
        "bp.PurgeConstraints", "bp.Sync", "c.bundleContraindicated", "c.bundleContraindicated"]
      Dtn7.Gen.C05.forwardCalls = true ∧
    Dtn7.Gen.C05.contraindicatedCalls = ["bp.AddConstraint", "bp.Sync"] ∧
    isSubseq ["bp.PurgeConstraints", "bp.Sync"] Dtn7.Gen.C05.deletionCalls = true ∧
    Dtn7.Gen.C05.checkPendingCalls = ["c.store.QueryPending", "c.dispatching", "NewBundleDescriptor"] ∧
    isSubseq ["bp.AddConstraint", "bp.Sync", "c.agentManager.Deliver", "bp.PurgeConstraints", "bp.Sync"]
      Dtn7.Gen.C05.localDeliveryCalls = true := by and_intros <;> decide +kernel

/-- `BundleDescriptor.Sync`: unknown ⇒ push; no constraints ⇒ delete; else
`Pending = ¬ReassemblyPending ∧ (ForwardPending ∨ Contraindicated)` (`Dtn7.Node.sync`, `Cons.pendingRule`). -/
theorem gen_sync_rule :
    Dtn7.Gen.C05.syncSkeleton =
      ["if !descriptor.store.KnowsBundle(descriptor.Id.Scrub())",
       "  return descriptor.store.Push(*descriptor.bndl)",
       "else if bi, err := descriptor.store.QueryId(descriptor.Id.Scrub()); err != nil",
       "  return err",
       "else if len(descriptor.Constraints) == 0",
       "  return descriptor.store.Delete(descriptor.Id)",
       "else",
       "  bi.Pending = !descriptor.HasConstraint(ReassemblyPending_) && (descriptor.HasConstraint(ForwardPending) || descriptor.HasConstraint(Contraindicated))",
       "  bi.Properties[\"bundlepack/receiver\"] = descriptor.Receiver",
       "  bi.Properties[\"bundlepack/timestamp\"] = descriptor.Timestamp",
       "  bi.Properties[\"bundlepack/constraints\"] = descriptor.Constraints",
       "  updateErr := descriptor.store.Update(bi)",
       "  if updateErr != nil",
       "  return updateErr"] ∧
    Dtn7.Gen.C05.purgeSkeleton =
      ["for c := range descriptor.Constraints", "  if c != LocalEndpoint", "    descriptor.RemoveConstraint(c)"] ∧
    Dtn7.Gen.C05.contraindicatedSkeleton = ["bp.AddConstraint(Contraindicated)", "_ = bp.Sync()"] ∧
    Dtn7.Gen.C05.checkPendingSkeleton =
      ["if bis, err := c.store.QueryPending(); err != nil", "else", "  for _, bi := range bis",
       "    c.dispatching(NewBundleDescriptor(bi.BId, c.store))"] := by and_intros <;> rfl

/-- `Core.dispatching` (`Dtn7.Node.dispatching` with `holdFix`). -/
theorem gen_dispatching :
    Dtn7.Gen.C05.dispatchingSkeleton =
      ["if !c.routing.DispatchingAllowed(bp)", "  c.bundleContraindicated(bp)", "  return",
       "bndl, err := bp.Bundle()", "if err != nil", "  return",
       "if c.HasEndpoint(bndl.PrimaryBlock.Destination)", "  c.localDelivery(bp)", "else", "  c.forward(bp)"] := rfl

/-- `calcExpirationDate` (`Dtn7.Node.calcExpires` with `expiryNow`): creation time zero ⇒ now + (lifetime −
age), else creation time + lifetime. -/
theorem gen_expiry :
    Dtn7.Gen.C05.calcExpirationSkeleton =
      ["lifetime := time.Duration(b.PrimaryBlock.Lifetime) * time.Millisecond",
       "if b.PrimaryBlock.CreationTimestamp.IsZeroTime()",
       "  var age time.Duration",
       "  if bab, err := b.ExtensionBlock(bpv7.ExtBlockTypeBundleAgeBlock); err == nil",
       "    age = time.Duration(bab.Value.(*bpv7.BundleAgeBlock).Age()) * time.Millisecond",
       "  if age > lifetime",
       "    age = lifetime",
       "  return time.Now().Add(lifetime - age)",
       "return b.PrimaryBlock.CreationTimestamp.DtnTime().Time().Add(lifetime)"] := rfl

/-- `DeleteExpired` compares `Expires` with the current time and deletes what it finds. -/
theorem gen_delete_expired :
    isSubseq ["s.bh.Find", "badgerhold.Where().Lt", "time.Now", "s.Delete"] Dtn7.Gen.C05.deleteExpiredCalls = true := by
  decide +kernel

/-- The per-peer goroutine of `forward`: `Send`, on error `ReportFailure` (`Dtn7.Node.sendAll`,
`Dtn7.NodeSched`), and the lock discipline of the failure reports: every store access of
`ReportFailure` happens while the mutex is held (`locked = true` in `Dtn7.NodeSched.step`). -/
theorem gen_failure_reports :
    Dtn7.Gen.C05.forwardGoroutine =
      ["if err := node.Send(*bp.MustBundle()); err != nil", "  c.routing.ReportFailure(bp, node)", "else",
       "  once.Do(func() { bundleSent = true })", "wg.Done()"] ∧
    Dtn7.Gen.C05.epidemicReportFailureAccess = ["QueryId:L", "Update:L"] ∧
    Dtn7.Gen.C05.prophetReportFailureAccess = ["QueryId:L", "Update:L"] ∧
    Dtn7.Gen.C05.dtlsrReportFailureAccess = ["QueryId:L", "Update:L"] := by and_intros <;> rfl

/-! ## The property -/

/-- The variant flags the regenerated facts select (`gen_variant`) are exactly `Cur`. -/
theorem cur_of_gen (c : Cfg)
    (h1 : c.seqFirst = Dtn7.Gen.C05.seqAssignedFirst) (h2 : c.skipStored = Dtn7.Gen.C05.sendBundleSkipsStored)
    (h3 : c.expiryNow = Dtn7.Gen.C05.expiryCountsFromNow) (h4 : c.holdFix = Dtn7.Gen.C05.dispatchingHoldsRefused) :
    Cur c := by
  have g := gen_variant
  exact ⟨by rw [h1]; exact g.1, by rw [h2]; exact g.2.1, by rw [h4]; exact g.2.2.2.2.2, by rw [h3]; exact g.2.2.2.1⟩

/-- **Retention** (`retained_until_sent`, FULL STRENGTH). For the code as it is, for every routing algorithm
(and the sensor-mule wrapper), every environment — every outcome of every `Send`, every iteration order of
the CLA manager, every routing oracle —, every number of peers and EVERY history of {submit, receive,
peer up, peer down, retry tick, clean tick, restart} — any bundles, in particular any number of
submissions with one source and creation time (same millisecond, zero creation time), submissions of a
bundle the node also received, restarts anywhere —: after every event, every bundle that was accepted for
forwarding (submitted with a source of this node, or received under an ID the node did not hold;
destination not this node), whose lifetime has not ended, that is not refused for cause (hop limit,
unknown block demanding deletion) and of which no copy was handed successfully to a convergence layer
yet, is in the store — a submitted bundle under the ID the node assigned to it, this very bundle — and
marked pending. -/
theorem retained_until_sent (c : Cfg) (hc : Cur c) (env : Env) (now : Nat) (h : List Event) :
    firstFail retainedFail c (SpecSt.init now) 0 ((trace env (init c now) h).map obsOf) = none :=
  retained_run_full c hc env h _ _ 0 (rinvF_init c now)

/-- What `Cur` is needed for — the code before the D17 repair (`seqFirst = false`): two submissions with one
source, creation time and sequence number 0 share a store key; the second bundle is sent from memory to
the peers that happen to be there and is never stored. -/
theorem same_ms_lost_witness :
    let c : Cfg := { self := 1, algo := .epidemic, mule := false, sensorNodes := [], sprayL := 3, bcast := ⟨999, 0⟩,
                     seqFirst := false, skipStored := false, expiryNow := true, dtlsrFail := true, holdFix := true }
    let env : Env := { sendOk := fun _ _ _ => true, prefer := fun _ _ => [], cand := fun _ _ => false }
    let b1 : Bundle := { tag := 1, src := ⟨1, 0⟩, ts := 900, seq := 0, dst := ⟨5, 0⟩, prev := none, lifetime := 3600,
                         hop := none, age := none, delBlock := false, bsCopies := none }
    let b2 : Bundle := { b1 with tag := 2, dst := ⟨6, 0⟩ }
    firstFail retainedFail c (SpecSt.init 1000) 0
      ((trace env (init c 1000) [.submit b1, .submit b2]).map obsOf) = some (1, "retained-lost-same-id-submit") := by
  decide +kernel

/-- … and the same history is fine once the sequence number is assigned first (the model of the repaired
`SendBundle`). -/
theorem same_ms_not_lost_example :
    let c : Cfg := { self := 1, algo := .epidemic, mule := false, sensorNodes := [], sprayL := 3, bcast := ⟨999, 0⟩,
                     seqFirst := true, skipStored := false, expiryNow := true, dtlsrFail := true, holdFix := true }
    let env : Env := { sendOk := fun _ _ _ => true, prefer := fun _ _ => [], cand := fun _ _ => false }
    let b1 : Bundle := { tag := 1, src := ⟨1, 0⟩, ts := 900, seq := 0, dst := ⟨5, 0⟩, prev := none, lifetime := 3600,
                         hop := none, age := none, delBlock := false, bsCopies := none }
    let b2 : Bundle := { b1 with tag := 2, dst := ⟨6, 0⟩ }
    firstFail retainedFail c (SpecSt.init 1000) 0
      ((trace env (init c 1000) [.submit b1, .submit b2, .retryTick]).map obsOf) = none := by
  decide +kernel

/-- The code before the repair of `Core.dispatching` (`holdFix = false`): the third reception of a bundle
that waits under epidemic routing clears its pending flag — it is never retried again. -/
theorem hold_witness :
    let c : Cfg := { self := 1, algo := .epidemic, mule := false, sensorNodes := [], sprayL := 3, bcast := ⟨999, 0⟩,
                     seqFirst := false, skipStored := false, expiryNow := true, dtlsrFail := true, holdFix := false }
    let env : Env := { sendOk := fun _ _ _ => true, prefer := fun _ _ => [], cand := fun _ _ => false }
    let b : Bundle := { tag := 2, src := ⟨7, 0⟩, ts := 900, seq := 0, dst := ⟨5, 0⟩, prev := some ⟨2, 0⟩,
                        lifetime := 3600, hop := none, age := none, delBlock := false, bsCopies := none }
    firstFail retainedFail c (SpecSt.init 1000) 0
      ((trace env (init c 1000) [.receive b none, .receive b none, .receive b none]).map obsOf)
      = some (2, "retained-not-pending") := by
  decide +kernel

/-- **Direct delivery** (`direct_when_connected`, every history, FULL STRENGTH). For the code as it is — the
gate of epidemic routing lets a bundle through whose destination is a connected peer (`gen_epidemic_gate`) —
for every algorithm, environment and history: after `peerUp` and after `retryTick` every waiting bundle whose
destination node is a connected peer was handed to every CLA of that peer. The proof needs the invariant that
every stored item carries `routing/epidemic/destination` = the destination of the stored bundle
(`Dtn7.Node.epiOk_step`), which holds because `SendBundle` files a bundle under a free ID. -/
theorem direct_when_connected (c : Cfg) (hc : Cur c) (hg : c.gateDirect = Dtn7.Gen.C05.epidemicGateServesDirect)
    (env : Env) (now : Nat) (h : List Event) :
    firstFail directFail c (SpecSt.init now) 0 ((trace env (init c now) h).map obsOf) = none :=
  match hf : firstFail directFail c (SpecSt.init now) 0 ((trace env (init c now) h).map obsOf) with
  | none => rfl
  | some (j, cls) => by
    have := ((clauses_run c hc env h _ _ 0 (rinvF_init c now) (fun _ _ _ hget => by cases hget)).2 j cls hf).2
    rw [hg, gen_epidemic_gate.1] at this
    cases this

/-- The gate before the repair (`gateDirect = false`): the closed gate was the ONLY way a waiting bundle
could miss its connected destination (`direct-not-sent` proper never happens, for any variant of the gate) … -/
theorem direct_when_connected_partial (c : Cfg) (hc : Cur c) (env : Env) (now : Nat) (h : List Event) (j : Nat) :
    firstFail directFail c (SpecSt.init now) 0 ((trace env (init c now) h).map obsOf)
      ≠ some (j, "direct-not-sent") :=
  fun hf => absurd ((clauses_run c hc env h _ _ 0 (rinvF_init c now) (fun _ _ _ hget => by cases hget)).2 j _ hf).1
    (by decide)

/-- … and it did happen: a bundle that came from its destination was not dispatched while only that peer was
connected (the code before the repair of the gate; reproduced against the real code before the repair). -/
theorem direct_gate_witness :
    let c : Cfg := { self := 1, algo := .epidemic, mule := false, sensorNodes := [], sprayL := 3, bcast := ⟨999, 0⟩,
                     seqFirst := true, skipStored := true, expiryNow := true, dtlsrFail := true, holdFix := true,
                     gateDirect := false }
    let env : Env := { sendOk := fun _ _ _ => true, prefer := fun _ _ => [], cand := fun _ _ => false }
    let b : Bundle := { tag := 2, src := ⟨7, 0⟩, ts := 900, seq := 0, dst := ⟨2, 1⟩, prev := some ⟨2, 0⟩,
                        lifetime := 3600, hop := none, age := none, delBlock := false, bsCopies := none }
    firstFail directFail c (SpecSt.init 1000) 0
      ((trace env (init c 1000) [.receive b none, .peerUp ⟨1, ⟨2, 0⟩⟩]).map obsOf)
      = some (1, "direct-not-sent-all-peers-in-sent-list") := by
  decide +kernel

/-- The same history with the repaired gate: the bundle is handed to its destination, and leaves the store. -/
theorem direct_gate_repaired_example :
    let c : Cfg := { self := 1, algo := .epidemic, mule := false, sensorNodes := [], sprayL := 3, bcast := ⟨999, 0⟩,
                     seqFirst := true, skipStored := true, expiryNow := true, dtlsrFail := true, holdFix := true,
                     gateDirect := true }
    let env : Env := { sendOk := fun _ _ _ => true, prefer := fun _ _ => [], cand := fun _ _ => false }
    let b : Bundle := { tag := 2, src := ⟨7, 0⟩, ts := 900, seq := 0, dst := ⟨2, 1⟩, prev := some ⟨2, 0⟩,
                        lifetime := 3600, hop := none, age := none, delBlock := false, bsCopies := none }
    (trace env (init c 1000) [.receive b none, .peerUp ⟨1, ⟨2, 0⟩⟩]).map (fun x => x.2.1)
      = [[], [.sent ⟨1, ⟨2, 0⟩⟩ b true, .deleted b.key]] := by
  decide +kernel

/-- **Epidemic flooding** (`epidemic_floods`, every history) and the store part of **restart survival**:
under plain epidemic routing, after `peerUp p` every waiting bundle whose sent list does not contain `p`
(and whose destination is not connected) was handed to `p`; a restart leaves the store as it was. -/
theorem epidemic_floods (c : Cfg) (hc : Cur c) (env : Env) (now : Nat) (h : List Event) :
    firstFail (fun c s o => (floodFail c s o).orElse fun _ => restartFail s o) c (SpecSt.init now) 0
      ((trace env (init c now) h).map obsOf) = none :=
  (clauses_run c hc env h _ _ 0 (rinvF_init c now) (fun _ _ _ hget => by cases hget)).1

/-- **Across restarts** (`survives_restart`): the statements above are about all histories, in particular
those with restarts anywhere; a restart keeps the store and drops what lives in memory (IdKeeper, spray
bookkeeping, peers). -/
theorem survives_restart (c : Cfg) (hc : Cur c) (env : Env) (now : Nat) (h₁ h₂ : List Event) :
    firstFail retainedFail c (SpecSt.init now) 0
      ((trace env (init c now) (h₁ ++ [.restart] ++ h₂)).map obsOf) = none ∧
    firstFail (fun c s o => (floodFail c s o).orElse fun _ => restartFail s o) c (SpecSt.init now) 0
      ((trace env (init c now) (h₁ ++ [.restart] ++ h₂)).map obsOf) = none :=
  ⟨retained_until_sent c hc env now _, epidemic_floods c hc env now _⟩

theorem restart_keeps_store (env : Env) (n : Node) :
    (step env n .restart).1.store = n.store ∧ (step env n .restart).1.peers = [] ∧
    (step env n .restart).1.spray = [] ∧ (step env n .restart).1.idk = [] := ⟨rfl, rfl, rfl, rfl⟩

/-- **Clock-less bundles** (`zero_time_not_swept`): `retained_until_sent` covers bundles with
creation time 0 and an age block (their lifetime is counted from the reception); the expiry the store
computes does not end before it. -/
theorem zero_time_not_swept (c : Cfg) (hexp : c.expiryNow = true) (t at_ : Nat) (b : Bundle)
    (hlife : lifetimeOk t at_ b = true) : ¬ calcExpires c at_ b < t :=
  calcExpires_ok c hexp t at_ b hlife

/-- The original `calcExpirationDate` (`expiryNow = false`, D22): the first `clean_store` run deletes a
clock-less bundle whose lifetime has days to go. -/
theorem zero_time_swept_witness :
    let c : Cfg := { self := 1, algo := .epidemic, mule := false, sensorNodes := [], sprayL := 3, bcast := ⟨999, 0⟩,
                     seqFirst := false, skipStored := false, expiryNow := false, dtlsrFail := true, holdFix := true }
    let env : Env := { sendOk := fun _ _ _ => true, prefer := fun _ _ => [], cand := fun _ _ => false }
    let b : Bundle := { tag := 1, src := ⟨7, 0⟩, ts := 0, seq := 0, dst := ⟨5, 0⟩, prev := none, lifetime := 604800000,
                        hop := none, age := some 1000, delBlock := false, bsCopies := none }
    firstFail retainedFail c (SpecSt.init 1000000000) 0
      ((trace env (init c 1000000000) [.receive b none, .cleanTick 1000000000]).map obsOf)
      = some (1, "retained-lost-zero-time-clean") := by
  decide +kernel

/-- **Every submission, in every state** (`submit_retained_any_state`): for the code as it is (sequence
number first, stored numbers skipped, refused dispatching holds the bundle) and EVERY node state — any
store, any IdKeeper state, in particular the empty IdKeeper after a restart while bundles numbered before
the restart still wait — a submitted bundle (source of this node, destination elsewhere, not refused
for cause) is, after `SendBundle`, either handed successfully to a convergence layer or in the store under
the ID the node assigned to it, marked pending, with the expiry of its lifetime. This is the step of
`retained_until_sent` for a submission, stated for an arbitrary state (also one no history reaches). -/
theorem submit_retained_any_state (env : Env) (b : Bundle) (n : Node) (hfix : n.cfg.holdFix = true)
    (hseq : n.cfg.seqFirst = true) (hskip : n.cfg.skipStored = true)
    (hsrc : hasEndpoint n.cfg b.src = true) (hf : forwardable n.now b) (hdst : hasEndpoint n.cfg b.dst = false) :
    OkSent (sendBundle env b n).2 (assignSeq b n).1 ∨
      Holds (sendBundle env b n).1 (assignSeq b n).1 (calcExpires n.cfg n.now (assignSeq b n).1) :=
  sendBundle_kept_any env b n hfix hseq hskip hsrc hf hdst

/-- **The ID the node assigns is free** (`assigned_id_is_free`): for every store and every IdKeeper state
the loop of `SendBundle`/`IdKeeper.updateUnless` ends — within `store.length + 1` rounds — at a sequence
number whose bundle ID is not in the store; only the sequence number of the bundle and the IdKeeper
change. -/
theorem assigned_id_is_free (b : Bundle) (n : Node) (hskip : n.cfg.skipStored = true) :
    (∃ q, (assignSeq b n).1 = { b with seq := q }) ∧ (∃ x, (assignSeq b n).2 = n.setIdk x) ∧
    n.store.get (assignSeq b n).1.key = none :=
  assignSeq_free b n hskip

/-- The code before /repo 43cf7bc (`skipStored = false`): a clock-less application submits a bundle that
has to wait, the node restarts (the IdKeeper starts from 0 again), the application submits another
bundle: it gets the ID of the first one, is never stored, and is lost. -/
theorem restart_same_id_lost_witness :
    let c : Cfg := { self := 1, algo := .epidemic, mule := false, sensorNodes := [], sprayL := 3, bcast := ⟨999, 0⟩,
                     seqFirst := true, skipStored := false, expiryNow := true, dtlsrFail := true, holdFix := true }
    let env : Env := { sendOk := fun _ _ _ => true, prefer := fun _ _ => [], cand := fun _ _ => false }
    let b1 : Bundle := { tag := 1, src := ⟨1, 0⟩, ts := 0, seq := 0, dst := ⟨5, 0⟩, prev := none, lifetime := 3600000,
                         hop := none, age := some 0, delBlock := false, bsCopies := none }
    let b2 : Bundle := { b1 with tag := 2, dst := ⟨6, 0⟩ }
    firstFail retainedFail c (SpecSt.init 1000) 0
      ((trace env (init c 1000) [.submit b1, .restart, .submit b2]).map obsOf)
      = some (2, "retained-lost-same-id-submit") := by
  decide +kernel

/-- … and with `seqFirst` and `skipStored` (the variant /repo has) both bundles wait in the store, under the
numbers 0 and 1. -/
theorem restart_same_id_kept_example :
    let c : Cfg := { self := 1, algo := .epidemic, mule := false, sensorNodes := [], sprayL := 3, bcast := ⟨999, 0⟩,
                     seqFirst := true, skipStored := true, expiryNow := true, dtlsrFail := true, holdFix := true }
    let env : Env := { sendOk := fun _ _ _ => true, prefer := fun _ _ => [], cand := fun _ _ => false }
    let b1 : Bundle := { tag := 1, src := ⟨1, 0⟩, ts := 0, seq := 0, dst := ⟨5, 0⟩, prev := none, lifetime := 3600000,
                         hop := none, age := some 0, delBlock := false, bsCopies := none }
    let b2 : Bundle := { b1 with tag := 2, dst := ⟨6, 0⟩ }
    let tr := (trace env (init c 1000) [.submit b1, .restart, .submit b2, .retryTick]).map obsOf
    firstFail retainedFail c (SpecSt.init 1000) 0 tr = none ∧
    (tr.map fun o => o.view.items.map fun i => (i.key.seq, i.bundle.tag, i.pending))
      = [[(0, 1, true)], [(0, 1, true)], [(0, 1, true), (1, 2, true)], [(0, 1, true), (1, 2, true)]] := by
  decide +kernel

/-- **Known finding: a number that left the store before a restart is handed out again.** (C14, class `same-id-on-wire-…-number-of-a-bundle-delivered-before-the-restart`.) With the code as it is:
b0 waits (#0), the destination of b1 connects, b1 (#1) is delivered and deleted, the peer leaves, b2 waits
(#2), the node restarts, b3 is submitted and gets #1 — the number b1 left the node with — and when a peer
appears, b3 leaves under the ID of b1. -/
theorem wire_id_reused_after_restart_witness :
    let c : Cfg := { self := 1, algo := .epidemic, mule := false, sensorNodes := [], sprayL := 3, bcast := ⟨999, 0⟩,
                     seqFirst := true, skipStored := true, expiryNow := true, dtlsrFail := true, holdFix := true }
    let env : Env := { sendOk := fun _ _ _ => true, prefer := fun _ _ => [], cand := fun _ _ => false }
    let b0 : Bundle := { tag := 10, src := ⟨1, 0⟩, ts := 0, seq := 0, dst := ⟨9, 0⟩, prev := none,
                         lifetime := 3600000, hop := none, age := some 0, delBlock := false, bsCopies := none }
    let b1 : Bundle := { b0 with tag := 11, dst := ⟨2, 5⟩ }
    let b2 : Bundle := { b0 with tag := 12 }
    let b3 : Bundle := { b0 with tag := 13 }
    let tr := trace env (init c 1000)
      [.submit b0, .peerUp ⟨1, ⟨2, 0⟩⟩, .submit b1, .peerDown 1, .submit b2, .restart, .submit b3, .peerUp ⟨2, ⟨3, 0⟩⟩]
    -- (tag, sequence number) of every transmission, in order
    (tr.flatMap fun t => t.2.1.filterMap fun o => match o with
      | .sent _ b _ => some (b.tag, b.seq) | _ => none)
      = [(10, 0), (11, 1), (10, 0), (12, 2), (13, 1)] := by
  decide +kernel

/-- **Marked for retry while a transmission is in progress** (`pending_while_transmitting`, the crash-point
part of the property): when `forward` starts to transmit a stored bundle, the stored record is marked
pending, and it stays so whichever of the per-peer goroutines (`Send`; on failure `ReportFailure`) have
run so far, in whatever order (`ps` is an arbitrary list of peers, the environment's answers are
arbitrary). A process that is stopped or dies inside a `Send` finds the bundle pending at its next start
(`restart_keeps_store`). The driver judges the same on the implementation's record read inside `Send`
(`MID` lines). -/
theorem pending_while_transmitting (env : Env) (d : Desc) (b : Bundle) (n : Node) (it : Item)
    (hg : n.store.get d.key = some it) (hrp : d.cons.rp = false) (ps : List Peer) :
    ∃ it', (sendAll env (forwardMidDesc env d b n) b ps (forwardMid env d b n)).1.store.get d.key = some it' ∧
      it'.pending = true ∧ it'.bundle = it.bundle ∧ it'.expires = it.expires :=
  pending_while_sending env d b n it hg hrp ps

/-- **A peer that appears while another run of the pending-bundles job is busy** (`direct_during_another_run`):
`checkPendingBundles` is a function of the state it finds. In EVERY well-formed state — in particular one
in which another `forward` has synced its bundle and some of its per-peer goroutines have run
(`sendAll … (forwardMid …)`) — a waiting bundle whose destination node is connected is handed to that peer
(under epidemic routing: when the gate lets it through — the item names its destination, as every stored item
does at event boundaries, `epiOk_step`, or some connected peer is not in its sent list). The driver judges the same on the
implementation with one run blocked inside a `Send` (`OVL` lines). -/
theorem direct_during_another_run (env env' : Env) (d : Desc) (b : Bundle) (n : Node) (w : WF n)
    (hbk : ∀ b', d.bndl = some b' → b'.key = d.key) (ps : List Peer)
    (hn : (n.peers.map (·.addr)).Nodup) (k : Key) (it : Item) (c : Cfg) (hc : n.cfg = c) (p : Peer) :
    let m := (sendAll env (forwardMidDesc env d b n) b ps (forwardMid env d b n)).1
    m.store.get k = some it → isWaiting c m.now (itemView (k, it)) = true → p ∈ m.peers →
    p.eid.sameNode it.bundle.dst = true →
    (m.cfg.algo ≠ .epidemic ∨ (m.cfg.gateDirect = true ∧ it.rt.epiDst = some it.bundle.dst) ∨
      ∃ q ∈ m.peers, it.rt.sentE.contains q.eid = false) →
    sentIn (checkPending env' m).2 p.addr it.bundle.tag = true := by
  intro m hg hw hp hs hgate
  -- the state in the middle of the other run is well-formed and has the same peers and configuration
  have km := sendAll_forwardMid_kstep env d b n hbk ps
  exact checkPending_direct env' m (km.wf w) (by rw [km.only.env.peers]; exact hn) k it hg c
    (km.only.env.cfg.trans hc) hw p hp hs hgate

/-- **A peer whose transmission failed is offered the bundle again** (`failed_peer_leaves_sent_list`, epidemic
routing, one `forward`, any number of chosen peers, any outcomes): after the per-peer transmissions every peer
whose `Send` failed is out of the bundle's sent list — also when other transmissions of the same attempt
succeeded —, every other entry is still there and nothing was added. So the next `peerUp`/retry offers the
bundle to exactly the peers that do not have it (`epidemic_floods` reads the list). The driver judges the same
on the implementation after every event (`c05FailX`). -/
theorem failed_peer_leaves_sent_list (env : Env) (d : Desc) (b : Bundle) (ps : List Peer) (n : Node) (it : Item)
    (ha : n.cfg.algo = .epidemic) (hg : n.store.get d.key = some it) (hn : it.rt.sentE.Nodup) :
    ∃ it', (sendAll env d b ps n).1.store.get d.key = some it' ∧ it'.rt.sentE.Nodup ∧
      (∀ p, Output.sent p b false ∈ (sendAll env d b ps n).2.1 → p.eid ∉ it'.rt.sentE) ∧
      (∀ e ∈ it.rt.sentE, (∀ p, Output.sent p b false ∈ (sendAll env d b ps n).2.1 → p.eid ≠ e) → e ∈ it'.rt.sentE) ∧
      (∀ e ∈ it'.rt.sentE, e ∈ it.rt.sentE) :=
  sendAll_failed_unlisted env d b ps n it ha hg hn

/-- Not vacuous: peers 2.0 (succeeds) and 3.0 (fails) were both entered by `filterCLAs`; afterwards 3.0 is out. -/
example :
    let c : Cfg := { self := 1, algo := .epidemic, mule := false, sensorNodes := [], sprayL := 3, bcast := ⟨999, 0⟩,
                     seqFirst := true, skipStored := true, expiryNow := true, dtlsrFail := true, holdFix := true,
                     gateDirect := true }
    let env : Env := { sendOk := fun a _ _ => a == 1, prefer := fun _ _ => [], cand := fun _ _ => false }
    let b : Bundle := { tag := 1, src := ⟨1, 0⟩, ts := 900, seq := 0, dst := ⟨5, 0⟩, prev := none, lifetime := 3600,
                        hop := none, age := none, delBlock := false, bsCopies := none }
    let n := (run env (init c 1000) [.peerUp ⟨1, ⟨2, 0⟩⟩, .peerUp ⟨2, ⟨3, 0⟩⟩, .submit b])
    (n.store.get ⟨⟨1, 0⟩, 900, 0⟩).map (·.rt.sentE) = some [⟨2, 0⟩] := by
  decide +kernel

/-- **Concurrent failures** (`concurrent_failures_both_recorded`): with the mutex, for every number of
failing transmissions and EVERY schedule of the failure reports' micro-steps: once all reports are done,
no failed peer is left in the sent list and nothing else was removed. -/
theorem concurrent_failures_both_recorded (sent failed : List Eid) (h0 : sent.Nodup) (σ : List Nat)
    (hd : NodeSched.allDone (NodeSched.run true (NodeSched.start true sent failed) σ) = true) :
    (∀ e ∈ failed, e ∉ (NodeSched.run true (NodeSched.start true sent failed) σ).sent) ∧
    (∀ x ∈ sent, x ∉ failed → x ∈ (NodeSched.run true (NodeSched.start true sent failed) σ).sent) := by
  rw [NodeSched.locked_final_sent sent failed h0 σ hd]
  exact ⟨fun e he h => by simp [he] at h, fun x hx hn => by simp [hx, hn]⟩

/-- Without the mutex (the original code, D25) the schedule read₁ read₂ write₁ write₂ loses the first
removal: peer `2.0` stays in the sent list although its transmission failed. -/
theorem concurrent_failures_lost_witness :
    let s := NodeSched.run false (NodeSched.start false [⟨9, 0⟩, ⟨2, 0⟩, ⟨3, 0⟩] [⟨2, 0⟩, ⟨3, 0⟩]) [0, 1, 0, 1]
    NodeSched.allDone s = true ∧ s.sent = [⟨9, 0⟩, ⟨2, 0⟩] := by
  decide

/-! ## Non-vacuity -/

private def ex_b1 : Bundle :=
  { tag := 1, src := ⟨1, 0⟩, ts := 900, seq := 0, dst := ⟨5, 0⟩, prev := none, lifetime := 3600,
    hop := none, age := none, delBlock := false, bsCopies := none }
private def ex_b2 : Bundle :=
  { tag := 2, src := ⟨7, 0⟩, ts := 0, seq := 0, dst := ⟨3, 1⟩, prev := some ⟨2, 0⟩, lifetime := 604800000,
    hop := some (8, 2), age := some 1000, delBlock := false, bsCopies := none }

/-- `Cur` is satisfiable: the four flags as `gen_variant` reads them off /repo. (`gateDirect` is left at its
default `false`; the driver sets it from `epidemicGateServesDirect`, which is `true` — `Cur` does not speak of it.) -/
private def ex_cfg : Cfg :=
  { self := 1, algo := .epidemic, mule := false, sensorNodes := [], sprayL := 3, bcast := ⟨999, 0⟩,
    seqFirst := true, skipStored := true, expiryNow := true, dtlsrFail := true, holdFix := true }
example : Cur ex_cfg := ⟨rfl, rfl, rfl, rfl⟩

/-- Obligations exist: in this history — submissions, receptions (twice the same ID), peers, a failure-prone
environment, ticks and a restart — after the second event two bundles wait, pending, and the direct delivery
to node 3 happens when it connects. (The configuration has `seqFirst = false`, `skipStored = false`: it is not
`Cur`; with both flags `true` the same values result.) -/
example :
    let c : Cfg := { self := 1, algo := .epidemic, mule := false, sensorNodes := [], sprayL := 3, bcast := ⟨999, 0⟩,
                     seqFirst := false, skipStored := false, expiryNow := true, dtlsrFail := true, holdFix := true }
    let env : Env := { sendOk := fun a _ n => a == 2 && n == 1, prefer := fun _ _ => [], cand := fun _ _ => false }
    let tr := (trace env (init c 1000) [.submit ex_b1, .receive ex_b2 none, .receive ex_b2 none,
      .peerUp ⟨1, ⟨2, 0⟩⟩, .retryTick, .cleanTick 2000, .restart, .peerUp ⟨2, ⟨3, 0⟩⟩, .retryTick]).map obsOf
    (tr.map fun o => (o.view.items.map fun i => (i.bundle.tag, i.pending), o.outs.length))
      = [([(1, true)], 0), ([(1, true), (2, true)], 0), ([(1, true), (2, true)], 0),
         ([(1, true), (2, true)], 1), ([(1, true), (2, true)], 1), ([(1, true), (2, true)], 0),
         ([(1, true), (2, true)], 0), ([(1, true), (2, true)], 2), ([(1, true)], 3)] := by
  decide +kernel

/-- The hypotheses of `submit_retained_any_state` hold in a state reached by a restart with a waiting
bundle of the same source and creation time, and the assigned number is 1. -/
example :
    let c : Cfg := { self := 1, algo := .epidemic, mule := false, sensorNodes := [], sprayL := 3, bcast := ⟨999, 0⟩,
                     seqFirst := true, skipStored := true, expiryNow := true, dtlsrFail := true, holdFix := true }
    let env : Env := { sendOk := fun _ _ _ => true, prefer := fun _ _ => [], cand := fun _ _ => false }
    let n := run env (init c 1000) [.submit ex_b1, .restart]
    n.cfg.holdFix = true ∧ n.cfg.seqFirst = true ∧ n.cfg.skipStored = true ∧ hasEndpoint n.cfg ex_b1.src = true ∧
    hopExceeded ex_b1 = false ∧ lifetimeExceeded n.now ex_b1 = false ∧ ageExpired ex_b1 = false ∧
    hasEndpoint n.cfg ex_b1.dst = false ∧ (assignSeq ex_b1 n).1.seq = 1 ∧ n.idk = [] ∧ n.store.length = 1 := by
  decide

/-- `pending_while_transmitting` is not vacuous: a waiting bundle, a peer appears, and in the middle of the
retry (after one failing `Send`) the record is pending. -/
example :
    let c : Cfg := { self := 1, algo := .epidemic, mule := false, sensorNodes := [], sprayL := 3, bcast := ⟨999, 0⟩,
                     seqFirst := true, skipStored := true, expiryNow := true, dtlsrFail := true, holdFix := true }
    let env : Env := { sendOk := fun _ _ _ => false, prefer := fun _ _ => [], cand := fun _ _ => false }
    let n := run env (init c 1000) [.submit ex_b1, .peerUp ⟨1, ⟨2, 0⟩⟩]
    let d := newDesc n ex_b1.key
    (n.store.get d.key).isSome = true ∧ d.cons.rp = false ∧
    ((sendAll env (forwardMidDesc env d ex_b1 n) ex_b1 [⟨1, ⟨2, 0⟩⟩] (forwardMid env d ex_b1 n)).1.store.get d.key).map
      (fun i => (i.pending, i.rt.sentE)) = some (true, []) := by
  decide +kernel

example : lifetimeOk 2000 1000 ex_b2 = true := by decide
example : NodeSched.allDone (NodeSched.run true (NodeSched.start true [⟨2, 0⟩, ⟨3, 0⟩] [⟨2, 0⟩, ⟨3, 0⟩])
    [0, 1, 0, 0, 1, 0, 1, 1, 1, 1]) = true := by decide

end Dtn7.Props.C05
