/-
C16 — the CLA manager reports an adapter active exactly while it is started.
The property theorems; the lemmas behind them are in `Dtn7.Lemmas.ClaManager` and
`Dtn7.Lemmas.ClaManagerReg`.

All theorems quantify over EVERY operation sequence, EVERY adapter configuration (`env.cfg`), EVERY
answer script (`env.script : adapter → call index → answer`) and EVERY retry budget
(`env.budget : Nat`, the manager's `queueTtl`); `env.fixed = true` selects the code after the `fix:`
commit for D13. The `Spec.*` predicates in the conclusions are the ones the driver evaluates on the
implementation's own observations.
-/
import Dtn7.Lemmas.ClaManager
import Dtn7.Lemmas.ClaManagerReg
import Dtn7.Gen.C16

namespace Dtn7.Props.C16
open Dtn7.ClaManager Dtn7.ClaManager.Spec

/-! ### The facts re-read from the Go source on every run -/

theorem gen_extraction_complete : Dtn7.Gen.C16.extractionFailures = [] := rfl

/-- `NewManager`: `queueTtl: 10` (the theorems hold for every budget; the harness sweeps 0..3 and 10) -/
theorem gen_queueTtl_default : Dtn7.Gen.C16.queueTtlDefault = 10 := rfl

/-- `NewManager`: `retryTime: 10 * time.Second` (the model's `tick` is one firing of that ticker) -/
theorem gen_retry_period : Dtn7.Gen.C16.retryTimeDefault = "10 * time.Second" := rfl

/-- `newConvergenceElement`: the initial ttl is the manager's `queueTtl`, the stop channels stay nil (`Chan.absent`). -/
theorem gen_newElementReturns : Dtn7.Gen.C16.newElementReturns = ["&convergenceElem{ conv: conv, convChnl: convChnl, ttl: ttl, }"] := rfl

/-- `isActive` is `ttl < 0` (`Elem.active`). -/
theorem gen_isActiveReturns : Dtn7.Gen.C16.isActiveReturns = ["atomic.LoadInt32(&ce.ttl) < 0"] := rfl

/-- `activate` statement by statement — `ClaManager.activate` with `fixed := true`: no start when active or when ttl = 0 and not permanent; success ⇒ ttl := -1 and fresh channels + handler goroutine; retryable failure ⇒ count down only while positive (the D13 repair); definitive failure ⇒ ttl := 0. -/
theorem gen_activateSkeleton : Dtn7.Gen.C16.activateSkeleton = ["if ce.isActive()",
  "  return",
  "ce.mutex.Lock()",
  "defer ce.mutex.Unlock()",
  "if atomic.LoadInt32(&ce.ttl) == 0 && !ce.conv.IsPermanent()",
  "  return false, false",
  "claErr, claRetry := ce.conv.Start()",
  "if claErr == nil",
  "  atomic.StoreInt32(&ce.ttl, -1)",
  "  ce.stopSyn = make(chan struct{})",
  "  ce.stopAck = make(chan struct{})",
  "  go ce.handler()",
  "  return true, false",
  "else",
  "  if claRetry",
  "    if atomic.LoadInt32(&ce.ttl) > 0",
  "      atomic.AddInt32(&ce.ttl, -1)",
  "  else",
  "    atomic.StoreInt32(&ce.ttl, 0)",
  "  return false, claRetry"] := rfl

/-- `deactivate`: nothing when inactive, else close(stopSyn), wait for stopAck, ttl := argument. -/
theorem gen_deactivateSkeleton : Dtn7.Gen.C16.deactivateSkeleton = ["if !ce.isActive()",
  "  return",
  "ce.mutex.Lock()",
  "defer ce.mutex.Unlock()",
  "close(ce.stopSyn)",
  "<-ce.stopAck",
  "atomic.StoreInt32(&ce.ttl, ttl)"] := rfl

/-- the element goroutine calls the adapter's `Close()` exactly when `stopSyn` is closed, then closes `stopAck`. -/
theorem gen_elemHandlerSkeleton : Dtn7.Gen.C16.elemHandlerSkeleton = ["for",
  "  select",
  "  case <-ce.stopSyn:",
  "    if err := ce.conv.Close(); err != nil",
  "    close(ce.stopAck)",
  "    return",
  "  case cs := <-ce.conv.Channel():",
  "    ce.convChnl <- cs"] := rfl

/-- `registerConvergence` — `ClaManager.register`: known address ⇒ the OLD element (return if active), else a new one; sender-to-registered-receiver check; store unless the start failed definitively. -/
theorem gen_managerRegisterConvergenceSkeleton : Dtn7.Gen.C16.managerRegisterConvergenceSkeleton = ["var ce *convergenceElem",
  "if convElem, exists := manager.convs.Load(conv.Address()); exists",
  "  ce = convElem.(*convergenceElem)",
  "  if ce.isActive()",
  "    return",
  "else",
  "  ce = newConvergenceElement(conv, manager.inChnl, manager.queueTtl)",
  "if cs, ok := ce.asSender(); ok",
  "  for _, cr := range manager.Receiver()",
  "    if cr.GetEndpointID() == cs.GetPeerEndpointID()",
  "      return",
  "if successful, retry := ce.activate(); !successful && !retry",
  "else",
  "  manager.convs.Store(conv.Address(), ce)"] := rfl

/-- `unregisterConvergence` — `ClaManager.unregister`: unknown address or different instance ⇒ nothing; else deactivate and delete. -/
theorem gen_managerUnregisterConvergenceSkeleton : Dtn7.Gen.C16.managerUnregisterConvergenceSkeleton = ["convElem, exists := manager.convs.Load(conv.Address())",
  "if !exists",
  "  return",
  "element := convElem.(*convergenceElem)",
  "if element.conv != conv",
  "  return",
  "element.deactivate(manager.queueTtl)",
  "manager.convs.Delete(conv.Address())"] := rfl

/-- `Restart` = `Unregister` then `Register`. -/
theorem gen_managerRestartSkeleton : Dtn7.Gen.C16.managerRestartSkeleton = ["manager.Unregister(conv)",
  "manager.Register(conv)"] := rfl

/-- `handler()`: shutdown unregisters every element; `PeerDisappeared` restarts the sender of the message; the ticker pass skips active elements, activates the others and deletes those whose start failed definitively (`tickList`). -/
theorem gen_managerHandlerSkeleton : Dtn7.Gen.C16.managerHandlerSkeleton = ["activateTicker := time.NewTicker(manager.retryTime)",
  "defer activateTicker.Stop()",
  "for",
  "  select",
  "  case <-manager.stopSyn:",
  "    manager.convs.Range(func(_, convElem interface{}) bool {}, )",
  "    manager.providersMutex.Lock()",
  "    for _, provider := range manager.providers",
  "      _ = provider.Close()",
  "    manager.providersMutex.Unlock()",
  "    close(manager.inChnl)",
  "    close(manager.outChnl)",
  "    close(manager.stopAck)",
  "    return",
  "  case cs := <-manager.inChnl:",
  "    switch cs.MessageType",
  "    case PeerDisappeared:",
  "      manager.Restart(cs.Sender)",
  "      manager.outChnl <- cs",
  "    default:",
  "      manager.outChnl <- cs",
  "  case <-activateTicker.C:",
  "    manager.convs.Range(func(key, convElem interface{}) bool {}, )",
  "func#0| manager.Unregister(convElem.(*convergenceElem).conv)",
  "func#0| return true",
  "func#1| ce := convElem.(*convergenceElem)",
  "func#1| if ce.isActive()",
  "func#1|   return true",
  "func#1| if successful, retry := ce.activate(); !successful && !retry",
  "func#1|   manager.convs.Delete(key)",
  "func#1| return true"] := rfl

/-- `Close`: stop flag, close(stopSyn) (a second call panics), wait for the handler. -/
theorem gen_managerCloseSkeleton : Dtn7.Gen.C16.managerCloseSkeleton = ["manager.stopFlagMutex.Lock()",
  "manager.stopFlag = true",
  "manager.stopFlagMutex.Unlock()",
  "close(manager.stopSyn)",
  "<-manager.stopAck",
  "return nil"] := rfl

/-- `Register` asks `isStopped` first. -/
theorem gen_registerCalls : Dtn7.Gen.C16.registerCalls = ["manager.isStopped",
  "manager.registerConvergence",
  "manager.registerProvider"] := rfl

/-- `Sender()` lists exactly the active elements that are senders. -/
theorem gen_managerSenderSkeleton : Dtn7.Gen.C16.managerSenderSkeleton = ["manager.convs.Range(func(_, convElem interface{}) bool {}, )",
  "return",
  "func#0| ce := convElem.(*convergenceElem)",
  "func#0| if !ce.isActive()",
  "func#0|   return true",
  "func#0| if cs, ok := ce.asSender(); ok",
  "func#0|   css = append(css, cs)",
  "func#0| return true"] := rfl

/-- `Receiver()` lists exactly the active elements that are receivers. -/
theorem gen_managerReceiverSkeleton : Dtn7.Gen.C16.managerReceiverSkeleton = ["manager.convs.Range(func(_, convElem interface{}) bool {}, )",
  "return",
  "func#0| ce := convElem.(*convergenceElem)",
  "func#0| if !ce.isActive()",
  "func#0|   return true",
  "func#0| if cr, ok := ce.asReceiver(); ok",
  "func#0|   crs = append(crs, cr)",
  "func#0| return true"] := rfl


/-! ### The property -/

/-- **All clauses of `obsOk` hold for every observation of every trace** (listed ⇔ started, Start/Close
discipline, close stops everything, retry budget, permanent adapters retried at every tick, one
instance per address, a peer loss restarts the adapter, no panic except a second `Close`). The theorems
below are its clauses; `unregistered_not_started` is the one clause outside `obsOk`. -/
theorem spec_holds (env : Env) (hf : env.fixed = true) (ops : List Op) :
    ∀ o ∈ runObs env {} ops, obsOk env.cfg env.budget o = true :=
  runObs_ok hf ops {} (Inv.init env)

/-- **listed ⇔ started**: after every operation of every trace, `Sender()` (`Receiver()`) lists
exactly the senders (receivers) whose most recent `Start()` succeeded and that were not closed
since. -/
theorem active_iff_started (env : Env) (hf : env.fixed = true) (ops : List Op) :
    ∀ o ∈ runObs env {} ops, o.outcome = .ok → activeIffStarted env.cfg o = true :=
  fun o ho hok => (obsOk_clauses (spec_holds env hf ops o ho) hok).1

/-- The same for reachable states, spelled out. -/
theorem active_iff_started_state (env : Env) (hf : env.fixed = true) (ops : List Op)
    (hnp : (run env {} ops).panicked = false) (a : Nat) :
    (a ∈ sendersOf env (run env {} ops) ↔
      running a (run env {} ops).hist = true ∧ (env.cfg a).sender = true) ∧
    (a ∈ receiversOf env (run env {} ops) ↔
      running a (run env {} ops).hist = true ∧ (env.cfg a).receiver = true) :=
  have inv := run_inv hf ops {} (Inv.init env) hnp
  ⟨mem_listing inv.g (·.sender) a, mem_listing inv.g (·.receiver) a⟩

/-- **retry budget** (Spec form): between two (re-)registrations of its address a non-permanent
adapter gets at most `budget` start attempts, and none after `budget` retryable failures, a success
or a definitive failure. -/
theorem budget (env : Env) (hf : env.fixed = true) (ops : List Op) :
    ∀ o ∈ runObs env {} ops, o.outcome = .ok → budgetRespected env.cfg env.budget o.hist = true :=
  fun o ho hok => (obsOk_clauses (spec_holds env hf ops o ho) hok).2.2.2.1

/-- **retry budget, exact count**: a non-permanent adapter whose `Start()` always fails retryably
is started `min (n+1) budget` times by `register` and `n` retry ticks — exactly `budget` times in
all — and is forgotten by the tick after the `budget`-th attempt (for budget 0: never started, never
stored). -/
theorem budget_exact (env : Env) (hf : env.fixed = true) (a : Nat)
    (hnp : (env.cfg a).permanent = false) (hs : ∀ k, env.script a k = .failRetry) (n : Nat) :
    startCount a (run env {} (.register a :: List.replicate n .tick)).hist = min (n + 1) env.budget ∧
    ((run env {} (.register a :: List.replicate n .tick)).reg = [] ↔ env.budget ≤ n) := by
  obtain ⟨_, _, h3, h4⟩ := failing_run hf hs n
  rw [hnp] at h3 h4
  refine ⟨h3, ?_⟩
  rw [h4]
  by_cases h : n < env.budget
  · simp [h]
  · simp [h]; omega

/-- **permanent adapters are retried for ever** (Spec form): at every retry tick every waiting
permanent adapter (last start failed retryably, not taken down since) is started exactly once. -/
theorem permanent_forever (env : Env) (hf : env.fixed = true) (ops : List Op) :
    ∀ o ∈ runObs env {} ops, o.outcome = .ok → permanentRetried env.cfg o = true :=
  fun o ho hok => (obsOk_clauses (spec_holds env hf ops o ho) hok).2.2.2.2.1

/-- **permanent, exact count**: a permanent adapter whose `Start()` always fails retryably is
started at `register` and at every one of `n` ticks (`n + 1` times, for every `n` and every budget),
is never forgotten and never listed. (Before the D13 repair this failed at the `budget + 1`-th
failure, see `d13_witness_*`.) -/
theorem permanent_exact (env : Env) (hf : env.fixed = true) (a : Nat)
    (hp : (env.cfg a).permanent = true) (hs : ∀ k, env.script a k = .failRetry) (n : Nat) :
    startCount a (run env {} (.register a :: List.replicate n .tick)).hist = n + 1 ∧
    (∃ e ∈ (run env {} (.register a :: List.replicate n .tick)).reg, e.conv = a ∧ 0 ≤ e.ttl) ∧
    sendersOf env (run env {} (.register a :: List.replicate n .tick)) = [] ∧
    receiversOf env (run env {} (.register a :: List.replicate n .tick)) = [] := by
  obtain ⟨_, _, h3, h4⟩ := failing_run hf hs n
  simp only [hp, if_true, true_or] at h3 h4
  -- the one registered element is not active, so it is listed neither as sender nor as receiver
  have hina : ¬ (((env.budget - (n + 1) : Nat) : Int) < 0) := by omega
  refine ⟨h3, ⟨_, by rw [h4]; exact List.mem_singleton.mpr rfl, rfl, by simp⟩, ?_, ?_⟩
  · simp [sendersOf, h4, Elem.active, hina]
  · simp [receiversOf, h4, Elem.active, hina]

/-- **stop is defined**: in every reachable state `deactivate` of any registered element does not
close an absent or already closed channel (the model's explicit panic outcome never occurs). -/
theorem stop_defined (env : Env) (hf : env.fixed = true) (ops : List Op)
    (hnp : (run env {} ops).panicked = false) :
    ∀ e ∈ (run env {} ops).reg, deactivate env e (run env {} ops).hist ≠ none :=
  deactivate_defined (run_inv hf ops {} (Inv.init env) hnp)

/-- **no panic**: the only operation that can panic is a second `Close` (`close(manager.stopSyn)` on
the closed channel — outside the property). The model has no dead-lock outcome at all (`obsOf` yields
`.ok` or `.panic`); `Outcome.deadlock` exists for the harness's watchdog, which `noPanic` rejects. -/
theorem no_panic (env : Env) (hf : env.fixed = true) (ops : List Op) :
    ∀ o ∈ runObs env {} ops, noPanic o = true := by
  intro o ho
  have := spec_holds env hf ops o ho
  simp only [obsOk, Bool.and_eq_true] at this
  exact this.1

/-- A trace with at most one `close` never panics. -/
theorem no_panic_single_close (env : Env) (hf : env.fixed = true) (ops : List Op)
    (h : ops.count .close ≤ 1) : (run env {} ops).panicked = false :=
  run_single_close hf ops {} (Inv.init env) (.inl ⟨rfl, h⟩)

/-- **Start/Close discipline**: `Close()` is only ever called on an adapter whose last `Start()`
succeeded and that was not closed since, `Start()` only on one that is not running. -/
theorem start_close_discipline (env : Env) (hf : env.fixed = true) (ops : List Op) :
    ∀ o ∈ runObs env {} ops, o.outcome = .ok → discipline o.hist = true :=
  fun o ho hok => (obsOk_clauses (spec_holds env hf ops o ho) hok).2.1

/-- **close stops every started adapter exactly once**: after `close`, for every adapter the number
of `Close()` calls equals the number of successful `Start()` calls (and by the discipline each
`Close()` follows its own successful `Start()`), and no adapter is running. -/
theorem close_stops_once (env : Env) (hf : env.fixed = true) (ops : List Op) :
    ∀ o ∈ runObs env {} ops, o.outcome = .ok → o.op = .close →
      allStopped o.hist = true ∧ ∀ a, okStarts a o.hist = stops a o.hist := by
  intro o ho hok hop
  obtain ⟨_, hd, hc, _⟩ := obsOk_clauses (spec_holds env hf ops o ho) hok
  have hs : allStopped o.hist = true := by simpa [closeStops, hop] using hc
  exact ⟨hs, balanced_of_allStopped hd hs⟩

/-- **registering an address twice keeps a single instance** (Spec form): at no time two different
adapters with one address are running. -/
theorem register_twice_single (env : Env) (hf : env.fixed = true) (ops : List Op) :
    ∀ o ∈ runObs env {} ops, o.outcome = .ok → singleInstance env.cfg o.hist = true :=
  fun o ho hok => (obsOk_clauses (spec_holds env hf ops o ho) hok).2.2.2.2.2.1

/-- … and registering an instance `a'` of an address whose registered instance `a` is running is a
no-op: no `Start()`, no `Close()`, registry unchanged. -/
theorem register_twice_noop (env : Env) (hf : env.fixed = true) (ops : List Op)
    (hnp : (run env {} ops).panicked = false) (a a' : Nat)
    (haddr : (env.cfg a').addr = (env.cfg a).addr)
    (hrun : running a (run env {} ops).hist = true) :
    step env (run env {} ops) (.register a') =
      { run env {} ops with hist := .op (.register a') :: (run env {} ops).hist } :=
  register_second_instance (run_inv hf ops {} (Inv.init env) hnp) haddr hrun

/-- **a reported peer loss restarts the adapter** (so does `Restart`): a running adapter is closed
exactly once and then started exactly once; it is not started again only when the manager refuses it
(a sender whose peer endpoint is a registered receiver's) or when the budget is 0 and it is not
permanent. -/
theorem peer_loss_restarts (env : Env) (hf : env.fixed = true) (ops : List Op) :
    ∀ o ∈ runObs env {} ops, o.outcome = .ok → restartRestarts env.cfg env.budget o = true :=
  fun o ho hok => (obsOk_clauses (spec_holds env hf ops o ho) hok).2.2.2.2.2.2

/-- **an unregistered adapter is left alone** (`unregistered_not_started`): in every trace the manager calls
`Start()` only on an adapter that is registered at that moment — its address was (re-)registered and it was not
taken down (`Unregister`, `Close`) since. In particular the retry ticker never revives an adapter that was
unregistered while it waited for its next attempt. (A clause of its own, proved with its own invariant: every
element of the registry is registered according to the log.) -/
theorem unregistered_not_started (env : Env) (hf : env.fixed = true) (ops : List Op) :
    ∀ o ∈ runObs env {} ops, o.outcome = .ok → startedOnlyRegistered env.cfg o.hist = true :=
  runObs_reg hf ops {} (Inv.init env) ⟨fun x hx => by simp at hx, rfl⟩

/-- … and the clause is not vacuous: a sender whose first start fails is registered, unregistered while it
waits, and not started by the next two ticks (the log ends with the one failed start). -/
example :
    let env : Env := { cfg := fun _ => ⟨0, true, false, false, 1, 2⟩, script := fun _ k => if k = 0 then .failRetry else .ok,
                       budget := 3 }
    (run env {} [.register 0, .unregister 0, .tick, .tick]).hist =
      [.op .tick, .op .tick, .op (.unregister 0), .start 0 .failRetry, .op (.register 0)] ∧
    -- without the `Unregister` the first tick starts it
    (run env {} [.register 0, .tick]).hist =
      [.start 0 .ok, .op .tick, .start 0 .failRetry, .op (.register 0)] := by
  decide

/-- **every tick retries every registered adapter that is not running** and may still be started
(ttl > 0, or permanent) exactly once — the lower bound that complements `budget`. -/
theorem tick_retries (env : Env) (hf : env.fixed = true) (ops : List Op)
    (hnp : (run env {} ops).panicked = false) (hc : (run env {} ops).closed = false) :
    ∀ e ∈ (run env {} ops).reg, startable env e = true →
      startsInStep e.conv (step env (run env {} ops) .tick).hist = 1 := by
  intro e he hs
  have inv := run_inv hf ops {} (Inv.init env) hnp
  simp only [step_tick hnp, tick, hc, Bool.false_eq_true, if_false]
  rw [tickList_starts_one hf inv.g.nodup he hs]
  rfl

/-! ### D13: the code before the `fix:` commit (`fixed := false`) -/

/-- one permanent sender at address 0 whose `Start()` always fails retryably, budget 0, old code -/
def d13Env : Env :=
  { cfg := fun _ => ⟨0, true, false, true, 0, 1⟩, script := fun _ _ => .failRetry, budget := 0,
    fixed := false }

/-- it is listed although it never started … -/
theorem d13_witness_listed :
    sendersOf d13Env (run d13Env {} [.register 0]) = [0] ∧
      running 0 (run d13Env {} [.register 0]).hist = false := ⟨rfl, rfl⟩

/-- … the Spec clause fails on that observation … -/
theorem d13_witness_spec :
    (runObs d13Env {} [.register 0]).all (obsOk d13Env.cfg d13Env.budget) = false := rfl

/-- … it is never retried … -/
theorem d13_witness_not_retried :
    startCount 0 (run d13Env {} [.register 0, .tick, .tick, .tick]).hist = 1 := rfl

/-- … and `Unregister`, `Restart` and `Close` close a nil channel. -/
theorem d13_witness_panic :
    (run d13Env {} [.register 0, .unregister 0]).panicked = true ∧
    (run d13Env {} [.register 0, .restart 0]).panicked = true ∧
    (run d13Env {} [.register 0, .close]).panicked = true := ⟨rfl, rfl, rfl⟩

/-- The code /repo has (`fixed := true`) on the same input. -/
theorem d13_fixed :
    sendersOf { d13Env with fixed := true } (run { d13Env with fixed := true } {} [.register 0]) = [] ∧
    startCount 0 (run { d13Env with fixed := true } {} [.register 0, .tick, .tick, .tick]).hist = 4 ∧
    (run { d13Env with fixed := true } {} [.register 0, .close]).panicked = false := by decide

/-! ### Non-vacuity: the hypotheses are satisfiable, the traces are not trivial -/

/-- three adapters: 0 = non-permanent sender at address 0 (peer endpoint 1), 1 = second instance of
address 0, 2 = permanent receiver (endpoint 2) at address 1 -/
def exEnv : Env :=
  { cfg := fun a => if a = 2 then ⟨1, false, true, true, 2, 0⟩ else ⟨0, true, false, false, 0, 1⟩,
    script := fun a k => if a = 0 then (if k < 2 then .failRetry else .ok) else (if k = 0 then .failRetry else .ok),
    budget := 3 }

example : exEnv.fixed = true := rfl
-- the sender starts at its third attempt and is listed from then on; the second instance is ignored
example : (runObs exEnv {} [.register 0, .tick, .tick, .register 1, .register 2, .tick, .close]).map
    (fun o => (o.senders, o.receivers)) =
    [([], []), ([], []), ([0], []), ([0], []), ([0], []), ([0], [2]), ([], [])] := by decide
example : (run exEnv {} [.register 0, .tick, .tick, .register 2, .tick, .close]).hist.filter
    (fun | .op _ => false | _ => true) =
    [.stop 2, .stop 0, .start 2 .ok, .start 2 .failRetry, .start 0 .ok, .start 0 .failRetry, .start 0 .failRetry] := by
  decide
-- a second close is the one panic of the model
example : (run exEnv {} [.close, .close]).panicked = true := by decide
example : ([Op.register 0, .tick, .close].count .close ≤ 1) := by decide
-- `register_twice_noop`: a second instance of the running sender's address
example : running 0 (run exEnv {} [.register 0, .tick, .tick]).hist = true ∧
    (exEnv.cfg 1).addr = (exEnv.cfg 0).addr := by decide
-- `peer_loss_restarts`: the running sender is closed and started again
example : ((runObs exEnv {} [.register 0, .tick, .tick, .peerDisappeared 0]).map
    (fun o => (stopsInStep 0 o.hist, startsInStep 0 o.hist))).getLast? = some (1, 1) := by decide

/-- hypotheses of `budget_exact` / `permanent_exact`: an adapter that never starts -/
def failEnv (perm : Bool) (b : Nat) : Env :=
  { cfg := fun _ => ⟨0, true, false, perm, 0, 1⟩, script := fun _ _ => .failRetry, budget := b }

example : ((failEnv false 2).cfg 0).permanent = false ∧ ∀ k, (failEnv false 2).script 0 k = .failRetry :=
  ⟨rfl, fun _ => rfl⟩
example : startCount 0 (run (failEnv false 2) {} (.register 0 :: List.replicate 5 .tick)).hist = 2 := by
  decide
example : startCount 0 (run (failEnv true 2) {} (.register 0 :: List.replicate 5 .tick)).hist = 6 := by
  decide
-- `tick_retries`: a waiting element with ttl 1
example : (run (failEnv false 2) {} [.register 0]).reg.map (startable (failEnv false 2)) = [true] := by
  decide

end Dtn7.Props.C16
