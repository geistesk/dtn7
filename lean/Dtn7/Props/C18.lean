/-
C18 — spray-and-wait never exceeds, and never leaks, its copy budget.
The property theorems; the lemmas behind them are in `Dtn7.Lemmas.Spray`, the model and the Spec
predicates the statements use (`Budget`, `Conservation`, `FailureReturnsCopy`, `BinarySplit`) in
`Dtn7.Model.Spray`.

Reading guide. A history is a list of events (`submit`, `receive k prev`, `peerUp`, `peerDown`,
`tick`, `restart`, `loopback k prev` = the bundle is received again while it is still in the store:
the node's own bundle looped back by a peer, or a relayed bundle arriving a second time); every event that forwards the bundle carries the environment's choices `Env`:
the order in which the CLA manager lists its senders, the set of peers whose `Send` fails, and the
schedule `σ` of the concurrent `ReportFailure` goroutines (a list of thread indices; a blocked or
finished thread that is scheduled stutters, so *every* list is a schedule and every interleaving of
the goroutines is one of them). All theorems quantify over all of these. `Params` = `{}` is the code
/repo has; each switch set to `false` selects the code before the `fix:` commit(s) for one defect
(`atomicRF`: D26a, both for `ReportFailure` and for `SenderForBundle`; `onlySent`: D26b;
`binaryRestores`: D27), and the witnesses at the end run those.
-/
import Dtn7.Lemmas.Spray
import Dtn7.Gen.C18

namespace Dtn7.Props.C18
open Dtn7.Spray Dtn7.Spray.Lemmas

/-! ### Facts regenerated from the source (extract/c18.go) -/

theorem gen_extraction_complete : Dtn7.Gen.C18.extractionFailures = [] := rfl

/-- `ReportFailure` of both algorithms: `Lock` · read `bundleData[id]` · write it back · `Unlock`
(deferred) — exactly the micro-step program of the model. -/
theorem gen_report_failure_locks :
    Dtn7.Gen.C18.reportFailureOpsSprayAndWait = (rfProgram true).map Op.name ∧
    Dtn7.Gen.C18.reportFailureOpsBinarySpray = (rfProgram true).map Op.name := ⟨rfl, rfl⟩

/-- The give-back happens only inside `if metadata.sent[i] == sender.GetPeerEndpointID()`, one copy
for spray-and-wait … -/
theorem gen_report_failure_spray :
    Dtn7.Gen.C18.reportFailureSkeletonSprayAndWait =
      ["sw.dataMutex.Lock()",
       "defer sw.dataMutex.Unlock()",
       "metadata, ok := sw.bundleData[bp.Id]",
       "if !ok",
       "  return",
       "for i := 0; i < len(metadata.sent); i++",
       "  if metadata.sent[i] == sender.GetPeerEndpointID()",
       "    metadata.sent = append(metadata.sent[:i], metadata.sent[i+1:]...)",
       "    metadata.remainingCopies = metadata.remainingCopies + 1",
       "    break",
       "sw.bundleData[bp.Id] = metadata"] := rfl

/-- … and the value of the failed bundle's BinarySprayBlock for binary spray (no report at all if
the bundle carries no such block). -/
theorem gen_report_failure_binary :
    Dtn7.Gen.C18.reportFailureSkeletonBinarySpray =
      ["metadataBlock, err := bp.MustBundle().ExtensionBlock(bpv7.ExtBlockTypeBinarySprayBlock)",
       "if err != nil",
       "  return",
       "binarySprayBlock := metadataBlock.Value.(*bpv7.BinarySprayBlock)",
       "bs.dataMutex.Lock()",
       "defer bs.dataMutex.Unlock()",
       "metadata, ok := bs.bundleData[bp.Id]",
       "if !ok",
       "  return",
       "for i := 0; i < len(metadata.sent); i++",
       "  if metadata.sent[i] == sender.GetPeerEndpointID()",
       "    metadata.sent = append(metadata.sent[:i], metadata.sent[i+1:]...)",
       "    metadata.remainingCopies = metadata.remainingCopies + binarySprayBlock.RemainingCopies()",
       "    break",
       "bs.bundleData[bp.Id] = metadata"] := rfl

/-- `SenderForBundle` of both algorithms has the same bracket: its read-modify-write of the bundle's
metadata is one atomic `Action.pick` of the model. -/
theorem gen_sender_for_bundle_locks :
    Dtn7.Gen.C18.senderForBundleOpsSprayAndWait = (rfProgram true).map Op.name ∧
    Dtn7.Gen.C18.senderForBundleOpsBinarySpray = (rfProgram true).map Op.name := ⟨rfl, rfl⟩

/-- `SprayAndWait.SenderForBundle`: nothing below two copies (before and inside the loop), peers in
`sent` are skipped, a selected peer is appended to `sent` and costs one copy. -/
theorem gen_sender_for_bundle_spray :
    Dtn7.Gen.C18.senderForBundleSkeletonSprayAndWait =
      ["sw.dataMutex.Lock()",
       "defer sw.dataMutex.Unlock()",
       "metadata, ok := sw.bundleData[bp.Id]",
       "if !ok",
       "  return",
       "if metadata.remainingCopies < 2",
       "  return nil, false",
       "for _, cs := range sw.c.claManager.Sender()",
       "  if metadata.remainingCopies < 2",
       "    break",
       "  var skip = false",
       "  for _, eid := range metadata.sent",
       "    if cs.GetPeerEndpointID() == eid",
       "      skip = true",
       "      break",
       "  if !skip",
       "    css = append(css, cs)",
       "    metadata.sent = append(metadata.sent, cs.GetPeerEndpointID())",
       "    metadata.remainingCopies = metadata.remainingCopies - 1",
       "sw.bundleData[bp.Id] = metadata",
       "del = false",
       "return"] := rfl

/-- `BinarySpray.SenderForBundle`: nothing below two copies, the first peer not in `sent` is appended
to `sent` and gets `remainingCopies / 2` copies, which are subtracted and written into the bundle's
BinarySprayBlock (existing or new); one peer per call. -/
theorem gen_sender_for_bundle_binary :
    Dtn7.Gen.C18.senderForBundleSkeletonBinarySpray =
      ["bs.dataMutex.Lock()",
       "defer bs.dataMutex.Unlock()",
       "metadata, ok := bs.bundleData[bp.Id]",
       "if !ok",
       "  return",
       "if metadata.remainingCopies < 2",
       "  return nil, false",
       "for _, cs := range bs.c.claManager.Sender()",
       "  var skip = false",
       "  for _, eid := range metadata.sent",
       "    if cs.GetPeerEndpointID() == eid",
       "      skip = true",
       "      break",
       "  if !skip",
       "    css = append(css, cs)",
       "    metadata.sent = append(metadata.sent, cs.GetPeerEndpointID())",
       "    sendCopies := metadata.remainingCopies / 2",
       "    metadata.remainingCopies = metadata.remainingCopies - sendCopies",
       "    if metadataBlock, err := bp.MustBundle().ExtensionBlock(bpv7.ExtBlockTypeBinarySprayBlock); err == nil",
       "      binarySprayBlock := metadataBlock.Value.(*bpv7.BinarySprayBlock)",
       "      binarySprayBlock.SetCopies(sendCopies)",
       "    else",
       "      metadataBlock := bpv7.NewBinarySprayBlock(sendCopies)",
       "      bp.MustBundle().AddExtensionBlock(bpv7.NewCanonicalBlock(0, 0, metadataBlock))",
       "    break",
       "bs.bundleData[bp.Id] = metadata",
       "del = false",
       "return"] := rfl

/-- `NotifyNewBundle`: `L` copies for a bundle originated here and one for a relayed bundle
(spray-and-wait, decided by the source endpoint); binary spray takes the announced copies if there is
a BinarySprayBlock and decides the same way otherwise. `L` is `SprayConfig.Multiplicity`, which has no
default in the code (the sample configuration shows 10). -/
theorem gen_notify :
    Dtn7.Gen.C18.notifyCopiesSprayAndWait = ["sw.l", "1"] ∧
    Dtn7.Gen.C18.notifyConditionsSprayAndWait =
      ["sw.c.HasEndpoint(bp.MustBundle().PrimaryBlock.SourceNode)"] ∧
    Dtn7.Gen.C18.notifyCopiesBinarySpray = ["binarySprayBlock.RemainingCopies()", "bs.l", "1"] ∧
    Dtn7.Gen.C18.notifyConditionsBinarySpray =
      ["metadataBlock, err := bp.MustBundle().ExtensionBlock(bpv7.ExtBlockTypeBinarySprayBlock); err == nil",
       "bs.c.HasEndpoint(bp.MustBundle().PrimaryBlock.SourceNode)"] ∧
    Dtn7.Gen.C18.multiplicitySourceSprayAndWait = ["config.Multiplicity"] ∧
    Dtn7.Gen.C18.multiplicitySourceBinarySpray = ["config.Multiplicity"] ∧
    Dtn7.Gen.C18.multiplicityHasCodeDefault = false ∧
    Dtn7.Gen.C18.sampleMultiplicity = 10 ∧
    Dtn7.Gen.C18.binarySprayBlockType = 192 := by and_intros <;> rfl

/-- The remaining accesses to `bundleData`: `NotifyNewBundle` stores the fresh entry under `Lock` (one
of its two resp. three branches), `GarbageCollect` runs `cleanupMetaData` under `Lock`. No access outside the mutex. -/
theorem gen_other_locks :
    Dtn7.Gen.C18.notifyOpsSprayAndWait = ["lock", "write", "unlock", "lock", "write", "unlock"] ∧
    Dtn7.Gen.C18.notifyOpsBinarySpray =
      ["lock", "write", "unlock", "lock", "write", "unlock", "lock", "write", "unlock"] ∧
    Dtn7.Gen.C18.garbageCollectCallsSprayAndWait =
      ["sw.dataMutex.Lock", "cleanupMetaData", "sw.dataMutex.Unlock"] ∧
    Dtn7.Gen.C18.garbageCollectCallsBinarySpray =
      ["bs.dataMutex.Lock", "cleanupMetaData", "bs.dataMutex.Unlock"] := by and_intros <;> rfl

/-- `Core.receive`: the test "the descriptor loaded from the store already has constraints ⇒ known
bundle ⇒ return" comes before `NotifyNewBundle` (the first two entries); a duplicate reception never
reaches the algorithm. -/
theorem gen_receive_known_first :
    Dtn7.Gen.C18.receiveOrder.take 2 = ["if len(bp.Constraints) > 0", "  return"] ∧
    Dtn7.Gen.C18.receiveOrder.getLast? = some "c.routing.NotifyNewBundle(bp)" := ⟨rfl, rfl⟩

/-- `Core.forward`: direct delivery first, the algorithm only if there is no sender for the
destination; every failed `Send` is reported; `checkPendingBundles` re-dispatches pending bundles. -/
theorem gen_forward :
    Dtn7.Gen.C18.forwardSenders =
      ["var deleteAfterwards = true",
       "nodes = c.senderForDestination(bp.MustBundle().PrimaryBlock.Destination)",
       "if nodes == nil",
       "  nodes, deleteAfterwards = c.routing.SenderForBundle(bp)",
       "    if err := node.Send(*bp.MustBundle()); err != nil",
       "      c.routing.ReportFailure(bp, node)",
       "  if deleteAfterwards"] ∧
    Dtn7.Gen.C18.checkPendingCalls = ["c.store.QueryPending", "c.dispatching", "NewBundleDescriptor"] := ⟨rfl, rfl⟩

/-! ### Concurrent failure reports -/

/-- **Every schedule of the concurrent `ReportFailure` calls is linearizable**: whatever the
interleaving `σ` of their lock / read / write-back / unlock steps, the metadata afterwards is what
some of the reports, applied one after the other, produce; once all goroutines have returned these
are *all* reports (in some order). No update is lost. -/
theorem failure_reports_linearizable (a : Algo) (md : Option Meta) (reports : List (Peer × Nat))
    (σ : List Nat) :
    ∃ order : List (Peer × Nat),
      (reportFailures {} a md reports σ).1.md = giveBackAll {} a md order ∧
      (∀ k ∈ order, k ∈ reports) ∧
      (allDone (rfProgram true) (reportFailures {} a md reports σ).2 = true → md.isSome →
        order.Perm reports) :=
  reportFailures_linearizable {} rfl a md reports σ

/-- **Overlapping `forward` runs** (the cron job's retry and the one triggered by a new peer work on
the same bundle): any number of concurrent `SenderForBundle` and `ReportFailure` calls, any schedule
`σ` — the metadata afterwards is that of a *sequential* execution of some of the calls (all of them
once every goroutine has returned), and each call was computed from the state its predecessor in
that execution left behind (`Chained`), so the senders it selected are the ones it selects there.
This is a statement about the metadata program `concurrentUpdates` alone: the node model `run` performs
one `forward` at a time and never issues a concurrent `Action.pick`. -/
theorem metadata_updates_linearizable (a : Algo) (md : Option Meta) (acts : List Action) (σ : List Nat) :
    ∃ order : List (Action × Meta),
      (concurrentUpdates {} a md acts σ).1.md = applyAll {} a md (order.map (·.1)) ∧
      Chained {} a md order ∧
      (∀ k ∈ order.map (·.1), k ∈ acts) ∧
      (allDone (rfProgram true) (concurrentUpdates {} a md acts σ).2 = true → md.isSome →
        (order.map (·.1)).Perm acts) :=
  updates_linearizable {} rfl a md acts σ

/-- … hence spray-and-wait's conservation law survives every interleaving of them (again in
`concurrentUpdates`, not in `run`): copies kept + peers recorded in `sent` is unchanged, the last copy is
never handed out. -/
theorem spray_conservation_overlapping_runs (acts : List Action)
    (h : ∀ k ∈ acts, match k with | .giveBack _ g => g = 1 | .pick _ => True) (m : Meta)
    (σ : List Nat) :
    ∃ m', (concurrentUpdates {} .spray (some m) acts σ).1.md = some m' ∧
      m'.remaining + m'.sent.length = m.remaining + m.sent.length ∧
      (1 ≤ m.remaining → 1 ≤ m'.remaining) :=
  spray_concurrent_conserves acts (fun k hk => by
    have := h k hk
    cases k <;> simp_all [SprayAction]) m σ

/-! ### Spray-and-wait, bundle originated here -/

/-- A node before the bundle enters it: arbitrary configuration `L`, destination, connected peers,
left-over metadata; nothing stored, nothing sent. -/
def FreshSpray (s : Node) : Prop := s.algo = .spray ∧ s.stored = false ∧ s.log = []

/-- The bundle enters the node once: no other `submit`, and no `receive` of it once it has left the
store again. Duplicate receptions while it is stored (`loopback`) are ordinary events of the history. -/
def NoEntry (evs : List Event) : Prop := ∀ ev ∈ evs, ev.isEntry = false

/-- **Conservation** (∀ L, peers, histories, schedules — complete or not): copies kept plus
transmissions outstanding or successful (`sent`) are exactly `L`; every successful relay is in `sent`;
at least one copy is kept. -/
theorem spray_conservation (s : Node) (hs : FreshSpray s) (pre rest : List Event) (e : Env)
    (hpre : NoEntry pre) (hrest : NoEntry rest) (m : Meta)
    (hm : (run {} s (pre ++ .submit e :: rest)).md = some m) :
    m.remaining + m.sent.length = s.l ∧
    ((relayed s.dest (run {} s (pre ++ .submit e :: rest)).log).map (·.peer)).Sublist m.sent ∧
    (1 ≤ s.l → 1 ≤ m.remaining) := by
  have h := (spray_run_inv s hs.1 ⟨hs.2.1, hs.2.2⟩ pre rest e hpre hrest).md m hm
  have hc := run_config {} s (pre ++ .submit e :: rest)
  rw [hc.2.1, hc.2.2] at h
  exact h

/-- **Budget**: successful transmissions to peers other than the destination never exceed `L − 1`,
whatever the order of peer appearances, retries, failures, restarts and failure-report schedules. -/
theorem spray_budget (s : Node) (hs : FreshSpray s) (pre rest : List Event) (e : Env)
    (hpre : NoEntry pre) (hrest : NoEntry rest) :
    Budget s.l s.dest (run {} s (pre ++ .submit e :: rest)).log := by
  have h := (spray_run_inv s hs.1 ⟨hs.2.1, hs.2.2⟩ pre rest e hpre hrest).budget
  have hc := run_config {} s (pre ++ .submit e :: rest)
  rw [hc.2.1, hc.2.2] at h
  exact h

/-- **Conservation on the observations**: when the failure reports of every forwarding step have
finished (`wg.Wait()`), copies kept + successful relays = `L` — nothing leaked, nothing minted. -/
theorem spray_conservation_quiescent (s : Node) (hs : FreshSpray s) (pre rest : List Event) (e : Env)
    (hpre : NoEntry pre) (hrest : NoEntry rest)
    (hc : runComplete {} s (pre ++ .submit e :: rest) = true) (m : Meta)
    (hm : (run {} s (pre ++ .submit e :: rest)).md = some m) :
    Conservation s.l s.dest (run {} s (pre ++ .submit e :: rest)).log m.remaining := by
  have h1 := spray_conservation s hs pre rest e hpre hrest m hm
  have h2 : s.dest ∉ m.sent ∧
      m.sent.length = (relayed s.dest (run {} s (pre ++ .submit e :: rest)).log).length := by
    have := (spray_run_qinv s hs.1 ⟨hs.2.1, hs.2.2⟩ pre rest e hpre hrest hc) m hm
    rw [(run_config fixed s (pre ++ .submit e :: rest)).2.2] at this
    exact this
  unfold Conservation
  omega

/-- **A failed transmission gives its copy back — also when several failures are reported at
once**: one forwarding step from any state (metadata `m`, destination not in `sent`), any number of
failing peers, any complete schedule of their reports: the count drops by exactly the number of
*successful* relays of the step. -/
theorem failure_returns_copy (s : Node) (e : Env) (ha : s.algo = .spray) (hst : s.stored = true)
    (m : Meta) (hm : s.md = some m) (hd : s.dest ∉ m.sent)
    (hc : forwardComplete {} s e = true) :
    ∃ m', (forward {} s e).md = some m' ∧
      FailureReturnsCopy s.dest m.remaining (forwardSends s e) m'.remaining := by
  obtain ⟨m', h1, _, h3, _⟩ := forward_spray_exact s e ha hst m hm hd hc
  exact ⟨m', h1, h3⟩

/-! ### Binary spray -/

/-- **Split**: a transmission to a non-destination peer out of `r` copies announces `⌊r/2⌋` in the
bundle's BinarySprayBlock; after a success announced + kept = `r`, after a failure the count is `r`
again (`BinarySplit`); it only happens with `r ≥ 2` and to one peer per forwarding step. -/
theorem binary_split (s : Node) (e : Env) (ha : s.algo = .binary) (hst : s.stored = true)
    (m : Meta) (hm : s.md = some m) (hd : s.dest ∉ m.sent)
    (hc : forwardComplete {} s e = true) :
    ∃ m', (forward {} s e).md = some m' ∧
      ∀ x ∈ forwardSends s e, x.peer ≠ s.dest →
        2 ≤ m.remaining ∧ BinarySplit m.remaining x m'.remaining ∧ forwardSends s e = [x] := by
  obtain ⟨m', h1, _, h3, _⟩ := forward_binary_exact s e ha hst m hm hd hc
  exact ⟨m', h1, fun x hx hne => ⟨(h3 x hx hne).1, (h3 x hx hne).2.1, (h3 x hx hne).2.2.2⟩⟩

/-- **A failed transmission restores the sender's state**: count and `sent` list are as before. -/
theorem binary_failure_restores (s : Node) (e : Env) (ha : s.algo = .binary) (hst : s.stored = true)
    (m : Meta) (hm : s.md = some m) (hd : s.dest ∉ m.sent)
    (hc : forwardComplete {} s e = true)
    (x : Send) (hx : x ∈ forwardSends s e) (hne : x.peer ≠ s.dest) (hfail : x.ok = false) :
    (forward {} s e).md = some m := by
  obtain ⟨m', h1, _, h3, _⟩ := forward_binary_exact s e ha hst m hm hd hc
  rw [h1, (h3 x hx hne).2.2.1 hfail]

/-- A step without a relay (direct delivery — successful or failed —, nobody eligible, fewer than two
copies) leaves the count alone: a failed direct delivery neither mints nor burns copies. -/
theorem binary_no_relay_keeps_count (s : Node) (e : Env) (ha : s.algo = .binary)
    (hst : s.stored = true) (m : Meta) (hm : s.md = some m) (hd : s.dest ∉ m.sent)
    (hc : forwardComplete {} s e = true) (hall : ∀ x ∈ forwardSends s e, x.peer = s.dest) :
    (forward {} s e).md = some m := by
  obtain ⟨m', h1, _, _, h4⟩ := forward_binary_exact s e ha hst m hm hd hc
  rw [h1, h4 hall]

/-- **A node holding a single copy only ever transmits to the destination itself** (either
algorithm; every history without a new entry of the bundle, every schedule, including restarts
after which there is no metadata at all) — and its count never grows. -/
theorem binary_single_copy_waits (s : Node) (evs : List Event) (hne : NoEntry evs)
    (h : ∀ m, s.md = some m → m.remaining < 2 ∧ s.dest ∉ m.sent) :
    (∀ x ∈ (run {} s evs).log, x ∈ s.log ∨ x.peer = s.dest) ∧
    (∀ m, (run {} s evs).md = some m → m.remaining < 2) :=
  waits_run s evs hne h

/-- … in particular a bundle received with an announced count below two (binary spray), or any
relayed bundle under spray-and-wait, provided it did not arrive from its own destination. -/
theorem relay_single_copy_waits (s : Node) (hf : s.stored = false ∧ s.log = []) (k : Option Nat)
    (prev : Option Peer) (e : Env) (rest : List Event) (hrest : NoEntry rest)
    (hk : (notify s.algo s.l ⟨false, k, prev⟩).remaining < 2) (hprev : prev ≠ some s.dest) :
    ∀ x ∈ (run {} s (.receive k prev e :: rest)).log, x.peer = s.dest := by
  have hsent : s.dest ∉ (notify s.algo s.l ⟨false, k, prev⟩).sent := by
    intro hmem
    apply hprev
    cases ha : s.algo <;> cases k <;> cases prev <;> simp_all [notify]
  -- receiving the bundle and forwarding it is a retry tick on the node that holds it
  have hrun : run {} s (.receive k prev e :: rest) =
      run {} { s with md := some (notify s.algo s.l ⟨false, k, prev⟩), stored := true, bblock := k }
        (.tick e :: rest) := rfl
  have hw := waits_run
    { s with md := some (notify s.algo s.l ⟨false, k, prev⟩), stored := true, bblock := k }
    (.tick e :: rest)
    (fun ev hev => by rcases List.mem_cons.mp hev with rfl | hev; exact rfl; exact hrest ev hev)
    (fun m hm => by simp only [Option.some.injEq] at hm; subst hm; exact ⟨hk, hsent⟩)
  intro x hx
  rw [hrun] at hx
  rcases hw.1 x hx with h1 | h1
  · rw [show ({ s with md := some (notify s.algo s.l ⟨false, k, prev⟩), stored := true,
                        bblock := k } : Node).log = [] from hf.2] at h1
    cases h1
  · exact h1

/-! ### Non-vacuity: concrete histories satisfying the hypotheses -/

/-- L = 3, destination 0, peers 1..3. -/
def exNode : Node := { algo := .spray, l := 3, dest := 0 }
def exEnv (fails : List Peer) (k : Nat) : Env :=
  { order := [3, 2, 1, 0], fails := fails, sched := seqSched 4 k ++ seqSched 4 k }
def exHistory : List Event :=
  [.peerUp 1 (exEnv [] 0), .peerUp 2 (exEnv [] 0), .submit (exEnv [1, 2] 2), .tick (exEnv [2] 1),
   .loopback none (some 1), .restart, .peerUp 3 (exEnv [] 0), .loopback (some 7) (some 3),
   .peerUp 0 (exEnv [0] 1), .tick (exEnv [] 0)]

example : FreshSpray exNode := ⟨rfl, rfl, rfl⟩
example : runComplete {} exNode exHistory = true := by decide
example : (run {} exNode exHistory).log.length = 6 := by decide
example : Budget 3 0 (run {} exNode exHistory).log := by decide
/-- Both failure reports of the `submit` step interleaved as R₁R₂W₁W₂ is attempted (thread 1 is
blocked by the lock and stutters), then both finish: two copies come back. -/
example : (forward {} { exNode with md := some ⟨[], 3⟩, stored := true, conn := [1, 2] }
    { order := [1, 2], fails := [1, 2], sched := [0, 0, 1, 1, 0, 0, 1, 1, 1, 1] }).md = some ⟨[], 3⟩ := by
  decide
example : forwardComplete {} { exNode with md := some ⟨[], 3⟩, stored := true, conn := [1, 2] }
    { order := [1, 2], fails := [1, 2], sched := [0, 0, 1, 1, 0, 0, 1, 1, 1, 1] } = true := by decide
/-- Binary spray: 5 copies, peer 1 gets ⌊5/2⌋ = 2, then (3 kept) peer 2 gets 1 but fails: 3 again. -/
def exBinary : Node := { algo := .binary, l := 5, dest := 0 }
example : (run {} exBinary [.peerUp 1 (exEnv [] 0), .submit (exEnv [] 0), .peerUp 2 (exEnv [2] 1)]).log
    = [⟨1, true, some 2⟩, ⟨2, false, some 1⟩] := by decide
example : (run {} exBinary [.peerUp 1 (exEnv [] 0), .submit (exEnv [] 0), .peerUp 2 (exEnv [2] 1)]).md
    = some ⟨[1], 3⟩ := by decide
example : (run {} exBinary [.receive (some 1) (some 2) (exEnv [] 0), .peerUp 1 (exEnv [] 0),
    .peerUp 0 (exEnv [] 0)]).log = [⟨0, true, some 1⟩] := by decide

/-! ### Witnesses: the behaviour of the code before the `fix:` commits (model parameters) -/

/-- D26a — read under `RLock`, write back under a separate `Lock`: with the interleaving
R₁ R₂ W₁ W₂ of two failure reports one of the two copies is lost (2 instead of 3), although both
goroutines have finished. -/
theorem lost_update_witness :
    let r := reportFailures { atomicRF := false } .spray (some ⟨[1, 2], 1⟩) [(1, 1), (2, 1)]
      [0, 0, 0, 1, 1, 1, 0, 0, 0, 1, 1, 1]
    allDone (rfProgram false) r.2 = true ∧ r.1.md = some ⟨[1], 2⟩ := by decide

/-- The same schedule against the program /repo has (`atomicRF = true`): the second goroutine is blocked until the first
has written back; nothing is lost. -/
theorem lost_update_repaired :
    (reportFailures {} .spray (some ⟨[1, 2], 1⟩) [(1, 1), (2, 1)]
      ([0, 0, 0, 1, 1, 1, 0, 0, 0, 1, 1, 1] ++ seqSched 4 2)).1.md = some ⟨[], 3⟩ := rfl

/-- D26a in `SenderForBundle` — it had the same pattern (`atomicRF := false` selects it for both calls): two overlapping `forward` runs (L = 2, peers 1 and
2 listed in different orders) both read "2 copies, nobody served", both select a peer; the metadata
ends as `⟨[2], 1⟩`, peer 1 has been served as well and is not even recorded. With the lock held
across the call the second run sees one copy and selects nobody. -/
theorem overlapping_picks_witness :
    let r := concurrentUpdates { atomicRF := false } .spray (some ⟨[], 2⟩) [.pick [1, 2], .pick [2, 1]]
      [0, 0, 0, 1, 1, 1, 0, 0, 0, 1, 1, 1]
    allDone (rfProgram false) r.2 = true ∧ r.1.md = some ⟨[2], 1⟩ ∧
    r.1.order = [(.pick [1, 2], ⟨[], 2⟩), (.pick [2, 1], ⟨[], 2⟩)] ∧
    ¬ Chained { atomicRF := false } .spray (some ⟨[], 2⟩) r.1.order := by decide +kernel

theorem overlapping_picks_repaired :
    let r := concurrentUpdates {} .spray (some ⟨[], 2⟩) [.pick [1, 2], .pick [2, 1]]
      ([0, 0, 0, 1, 1, 1, 0, 0, 0, 1, 1, 1] ++ seqSched 4 2)
    r.1.md = some ⟨[1], 1⟩ ∧
    r.1.order = [(.pick [1, 2], ⟨[], 2⟩), (.pick [2, 1], ⟨[1], 1⟩)] := by decide +kernel

/-- D26b — a failed *direct* delivery also added a copy: L = 2, the destination is in reach but two
deliveries fail, it leaves, and three foreign peers end up with the bundle (budget L − 1 = 1). -/
def d26bHistory : List Event :=
  [.peerUp 0 (exEnv [] 0), .submit (exEnv [0] 1), .tick (exEnv [0] 1), .peerDown 0,
   .peerUp 1 (exEnv [] 0), .peerUp 2 (exEnv [] 0), .peerUp 3 (exEnv [] 0)]

theorem direct_failure_mints_copy_witness :
    ¬ Budget 2 0 (run { onlySent := false } { algo := .spray, l := 2, dest := 0 } d26bHistory).log ∧
    ((run { onlySent := false } { algo := .spray, l := 2, dest := 0 } d26bHistory).log.filter
      (fun x => x.ok && x.peer != 0)).map (·.peer) = [1, 2, 3] := by decide

theorem direct_failure_repaired :
    Budget 2 0 (run {} { algo := .spray, l := 2, dest := 0 } d26bHistory).log := by decide

/-- D27 — binary spray added the failed transmission's copies to the block of the discarded
in-memory bundle, not to `remainingCopies`: 4 copies, one failed transmission, 2 left and nobody has
the other 2. -/
theorem binary_leak_witness :
    (run { binaryRestores := false } { algo := .binary, l := 4, dest := 0 }
      [.peerUp 1 (exEnv [] 0), .submit (exEnv [1] 1)]).md = some ⟨[], 2⟩ := by decide

theorem binary_leak_repaired :
    (run {} { algo := .binary, l := 4, dest := 0 }
      [.peerUp 1 (exEnv [] 0), .submit (exEnv [1] 1)]).md = some ⟨[], 4⟩ := by decide

/-- Why `Core.receive` must return *before* `NotifyNewBundle` for a bundle it already knows
(fact `gen_receive_known_first`): were the algorithm notified again, the node's own bundle looped back
by peer 1 would refill the budget and forget who was served — L = 3: peers 1 and 2 are served, the
duplicate arrives, and at the next retry peers 2 and 1 are served again: four successful relays
instead of at most two. -/
theorem renotify_refills_budget_witness :
    let s1 := run {} { algo := .spray, l := 3, dest := 0 }
      [.submit (exEnv [] 0), .peerUp 1 (exEnv [] 0), .peerUp 2 (exEnv [] 0)]
    let s2 := run {} (loopbackRenotify s1 true none (some 1)) [.tick (exEnv [] 0), .peerUp 3 (exEnv [] 0)]
    Budget 3 0 s1.log ∧ ¬ Budget 3 0 s2.log ∧
    (relayed 0 s2.log).map (·.peer) = [1, 2, 2, 1] := by decide

/-- The model's `loopback` is what the unchanged code does: nothing. -/
theorem loopback_is_noop (s : Node) (k : Option Nat) (prev : Option Peer) :
    step {} s (.loopback k prev) = s := rfl

/-- Why `relay_single_copy_waits` excludes a bundle that arrived from its own destination: the
previous node is recorded in `sent`, so a failed direct delivery to it is taken for a failed relay
and returns a copy — the relay then holds two copies and sprays one. (A node that is the bundle's
destination delivers it locally and never forwards it, so this needs a forged PreviousNodeBlock.) -/
theorem previous_node_is_destination_witness :
    (run {} { algo := .spray, l := 4, dest := 0 }
      [.peerUp 0 (exEnv [] 0), .receive none (some 0) (exEnv [0] 1), .peerDown 0,
       .peerUp 1 (exEnv [] 0)]).log = [⟨0, false, none⟩, ⟨1, true, none⟩] := by decide

end Dtn7.Props.C18
