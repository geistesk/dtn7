/-
C04 — bytes from the network or clients can never crash, hang or balloon the node.
Property theorems only; helper lemmas live in `Dtn7.Lemmas.Decoders`.

Three layers:
1. the regenerated ALLOCATION-SITE TABLE of the decoder files (`Gen.C04.allocSites`, extract/c04.go) is
   exactly the expected one and every site in it is `Bounded` (one recorded exception: the xz reader);
2. the decoder models (`Dtn7.Decoders`) never allocate more than `C + K·arrived` on the word of a length
   or count field and never run out of the fuel the input length provides;
3. the segment size negotiated from a peer's SESS_INIT lies in `1 … MaxSegmentMtu`, and with such a size
   every `NextSegment` consumes input, so `Send` emits at most `len(bundle)` segments.
-/
import Dtn7.Model.Decoders
import Dtn7.Lemmas.Cbor
import Dtn7.Lemmas.Decoders
import Dtn7.Lemmas.Tcpcl
import Dtn7.Gen.C04

namespace Dtn7.Props.C04
open Dtn7.Gen.C04 Dtn7.Decoders

/-! ## 1. Allocation sites -/

/-- The table as it must be for the code in /repo, which has the guards of D8–D11. A new `make` on a
wire count, a removed guard, a raised cap or a new decoder loop changes `Gen.C04.allocSites` and breaks
`alloc_sites_expected`. -/
def expected : List Site := [
  ⟨"cboring:strings.go", "ReadRawBytes", "make", "l", "[]byte", .param, "uint64", "l > math.MaxInt32 => return; l <= 1024*1024", some 1048576, 0, false⟩,
  ⟨"cboring:strings.go", "ReadRawBytes", "readfull", "data = make([]byte, l)", "", .param, "uint64", "l > math.MaxInt32 => return; l <= 1024*1024", some 1048576, 0, false⟩,
  ⟨"cboring:strings.go", "ReadRawBytes", "copyn", "int64(l)", "&buf", .param, "uint64", "l > math.MaxInt32 => return; !(l <= 1024*1024)", some 2147483647, 0, false⟩,
  ⟨"cboring:strings.go", "ReadByteString", "readraw", "n", "", .wire, "", "", none, 0, false⟩,
  ⟨"cboring:strings.go", "ReadTextString", "readraw", "n", "", .wire, "", "", none, 0, false⟩,
  ⟨"pkg/agent/rest_agent.go", "RestAgent.randomUuid", "make", "16", "[]byte", .const, "", "", none, 0, false⟩,
  ⟨"pkg/agent/rest_agent.go", "RestAgent.handleFetch", "make", "0", "[]bpv7.Bundle", .const, "", "", none, 0, false⟩,
  ⟨"pkg/agent/ws_agent_msg_impl.go", "wamStatus.UnmarshalCbor", "readstring", "cboring.ReadTextString", "", .wire, "", "", none, 0, false⟩,
  ⟨"pkg/agent/ws_agent_msg_impl.go", "wamRegister.UnmarshalCbor", "readstring", "cboring.ReadTextString", "", .wire, "", "", none, 0, false⟩,
  ⟨"pkg/agent/ws_agent_msg_impl.go", "wamSyscallRequest.UnmarshalCbor", "readstring", "cboring.ReadTextString", "", .wire, "", "", none, 0, false⟩,
  ⟨"pkg/agent/ws_agent_msg_impl.go", "wamSyscallResponse.UnmarshalCbor", "readstring", "cboring.ReadTextString", "", .wire, "", "", none, 0, false⟩,
  ⟨"pkg/agent/ws_agent_msg_impl.go", "wamSyscallResponse.UnmarshalCbor", "readstring", "cboring.ReadByteString", "", .wire, "", "", none, 0, false⟩,
  ⟨"pkg/bpv7/administrative_record.go", "AdministrativeRecordManager.IsKnown", "call", "arm.data.Load(typeCode)", "arm.data.Load", .param, "uint64", "", none, 0, false⟩,
  ⟨"pkg/bpv7/administrative_record.go", "AdministrativeRecordManager.ReadAdministrativeRecord", "call", "arm.data.Load(typeCode)", "arm.data.Load", .wire, "", "", none, 0, false⟩,
  ⟨"pkg/bpv7/administrative_record_status_report.go", "BundleStatusItem.UnmarshalCbor", "call", "DtnTime(n)", "DtnTime", .wire, "", "n != 1 && n != 2 => return", none, 0, false⟩,
  ⟨"pkg/bpv7/administrative_record_status_report.go", "NewStatusReport", "make", "maxStatusInformationPos", "[]BundleStatusItem", .const, "", "", none, 0, false⟩,
  ⟨"pkg/bpv7/administrative_record_status_report.go", "StatusReport.UnmarshalCbor", "make", "0", "[]BundleStatusItem", .const, "", "", none, 0, false⟩,
  ⟨"pkg/bpv7/administrative_record_status_report.go", "StatusReport.UnmarshalCbor", "makecap", "maxStatusInformationPos", "[]BundleStatusItem", .const, "", "", none, 0, false⟩,
  ⟨"pkg/bpv7/administrative_record_status_report.go", "StatusReport.UnmarshalCbor", "loop", "statusInformationLen", "", .wire, "", "", none, 0, true⟩,
  ⟨"pkg/bpv7/administrative_record_status_report.go", "StatusReport.UnmarshalCbor", "call", "StatusReportReason(n)", "StatusReportReason", .wire, "", "", none, 0, false⟩,
  ⟨"pkg/bpv7/bundle.go", "Bundle.HasExtensionBlock", "call", "b.ExtensionBlock(blockType)", "b.ExtensionBlock", .param, "uint64", "", none, 0, false⟩,
  ⟨"pkg/bpv7/bundle.go", "Bundle.RemoveExtensionBlockByBlockNumber", "slice", "b.CanonicalBlocks[:i] @ i", "", .loc, "", "", none, 0, false⟩,
  ⟨"pkg/bpv7/bundle.go", "Bundle.RemoveExtensionBlockByBlockNumber", "slice", "b.CanonicalBlocks[i+1:] @ i + 1", "", .loc, "", "", none, 0, false⟩,
  ⟨"pkg/bpv7/bundle.go", "Bundle.UnmarshalCbor", "loopbreak", "", "", .wire, "", "", none, 0, true⟩,
  ⟨"pkg/bpv7/bundle.go", "Bundle.MarshalJSON", "make", "len(b.CanonicalBlocks)", "[]json.Marshaler", .lenMem, "", "", none, 0, false⟩,
  ⟨"pkg/bpv7/canonical_block.go", "CanonicalBlock.UnmarshalCbor", "call", "cboring.WriteArrayLength(blockLen)", "cboring.WriteArrayLength", .wire, "uint64", "blockLen == 6", some 6, 0, false⟩,
  ⟨"pkg/bpv7/canonical_block.go", "CanonicalBlock.UnmarshalCbor", "call", "BlockControlFlags(bcf)", "BlockControlFlags", .wire, "", "", none, 0, false⟩,
  ⟨"pkg/bpv7/canonical_block.go", "CanonicalBlock.UnmarshalCbor", "call", "emptyCRC(CRCType(crcT))", "emptyCRC", .wire, "", "", none, 0, false⟩,
  ⟨"pkg/bpv7/canonical_block.go", "CanonicalBlock.UnmarshalCbor", "call", "CRCType(crcT)", "CRCType", .wire, "", "", none, 0, false⟩,
  ⟨"pkg/bpv7/canonical_block.go", "CanonicalBlock.UnmarshalCbor", "call", "CRCType(crcT)", "CRCType", .wire, "", "", none, 0, false⟩,
  ⟨"pkg/bpv7/canonical_block.go", "CanonicalBlock.UnmarshalCbor", "call", "CRCType(crcT)", "CRCType", .wire, "", "!(hasCrc != (CRCType(crcT) != CRCNo))", none, 0, false⟩,
  ⟨"pkg/bpv7/canonical_block.go", "CanonicalBlock.UnmarshalCbor", "call", "GetExtensionBlockManager().ReadBlock(blockType)", "GetExtensionBlockManager().ReadBlock", .wire, "uint64", "", none, 0, false⟩,
  ⟨"pkg/bpv7/canonical_block.go", "CanonicalBlock.UnmarshalCbor", "readstring", "cboring.ReadByteString", "", .wire, "", "", none, 0, false⟩,
  ⟨"pkg/bpv7/endpoint_dtn.go", "NewDtnEndpoint", "slice", "uri[len(dtnEndpointSchemeName)+1:] @ len(dtnEndpointSchemeName) + 1", "", .lenMem, "", "!strings.HasPrefix(uri, dtnEndpointSchemeName+\":\") => return", none, 0, false⟩,
  ⟨"pkg/bpv7/endpoint_dtn.go", "DtnEndpoint.UnmarshalCbor", "readraw", "n", "", .wire, "", "", none, 0, false⟩,
  ⟨"pkg/bpv7/extension_block.go", "ExtensionBlockManager.ReadBlock", "call", "ebm.createBlock(typeCode)", "ebm.createBlock", .param, "uint64", "", none, 0, false⟩,
  ⟨"pkg/bpv7/extension_block.go", "ExtensionBlockManager.ReadBlock", "readstring", "cboring.ReadByteString", "", .wire, "", "", none, 0, false⟩,
  ⟨"pkg/bpv7/extension_block.go", "ExtensionBlockManager.ReadBlock", "readstring", "cboring.ReadByteString", "", .wire, "", "", none, 0, false⟩,
  ⟨"pkg/bpv7/extension_block_bundle_age.go", "NewBundleAgeBlock", "call", "BundleAgeBlock(ms)", "BundleAgeBlock", .param, "uint64", "", none, 0, false⟩,
  ⟨"pkg/bpv7/extension_block_bundle_age.go", "BundleAgeBlock.UnmarshalCbor", "call", "BundleAgeBlock(us)", "BundleAgeBlock", .wire, "", "", none, 0, false⟩,
  ⟨"pkg/bpv7/extension_block_dtlsr.go", "DTLSRBlock.UnmarshalCbor", "call", "DtnTime(timestamp)", "DtnTime", .wire, "", "", none, 0, false⟩,
  ⟨"pkg/bpv7/extension_block_dtlsr.go", "DTLSRBlock.UnmarshalCbor", "loop", "lenData", "", .wire, "uint64", "", none, 0, true⟩,
  ⟨"pkg/bpv7/extension_block_dtlsr.go", "DTLSRBlock.UnmarshalCbor", "call", "DtnTime(timestamp)", "DtnTime", .wire, "", "", none, 0, false⟩,
  ⟨"pkg/bpv7/extension_block_prophet.go", "ProphetBlock.UnmarshalCbor", "loop", "lenData", "", .wire, "uint64", "", none, 0, true⟩,
  ⟨"pkg/bpv7/extension_block_signature.go", "SignatureBlock.UnmarshalCbor", "readstring", "cboring.ReadByteString", "", .wire, "", "", none, 0, false⟩,
  ⟨"pkg/bpv7/primary_block.go", "PrimaryBlock.UnmarshalCbor", "call", "BundleControlFlags(bcf)", "BundleControlFlags", .wire, "", "", none, 0, false⟩,
  ⟨"pkg/bpv7/primary_block.go", "PrimaryBlock.UnmarshalCbor", "call", "BundleControlFlags(bcf)", "BundleControlFlags", .wire, "", "", none, 0, false⟩,
  ⟨"pkg/bpv7/primary_block.go", "PrimaryBlock.UnmarshalCbor", "call", "emptyCRC(CRCType(crcT))", "emptyCRC", .wire, "", "", none, 0, false⟩,
  ⟨"pkg/bpv7/primary_block.go", "PrimaryBlock.UnmarshalCbor", "call", "CRCType(crcT)", "CRCType", .wire, "", "", none, 0, false⟩,
  ⟨"pkg/bpv7/primary_block.go", "PrimaryBlock.UnmarshalCbor", "call", "CRCType(crcT)", "CRCType", .wire, "", "", none, 0, false⟩,
  ⟨"pkg/bpv7/primary_block.go", "PrimaryBlock.UnmarshalCbor", "call", "CRCType(crcT)", "CRCType", .wire, "", "!(hasCrc != (CRCType(crcT) != CRCNo))", none, 0, false⟩,
  ⟨"pkg/bpv7/primary_block.go", "PrimaryBlock.UnmarshalCbor", "readstring", "cboring.ReadByteString", "", .wire, "", "", none, 0, false⟩,
  ⟨"pkg/cla/bbc/connector.go", "NewConnector", "makechan", "64", "chan Fragment", .const, "", "", none, 0, false⟩,
  ⟨"pkg/cla/bbc/connector.go", "NewConnector", "makechan", "64", "chan byte", .const, "", "", none, 0, false⟩,
  ⟨"pkg/cla/bbc/connector.go", "NewConnector", "makechan", "64", "chan cla.ConvergenceStatus", .const, "", "", none, 0, false⟩,
  ⟨"pkg/cla/bbc/connector.go", "Connector.handlerRead", "loopbreak", "", "", .wire, "", "", none, 0, true⟩,
  ⟨"pkg/cla/bbc/transmission.go", "IncomingTransmission.Bundle", "xzreader", "xz.NewReader", "", .wire, "", "", none, 0, false⟩,
  ⟨"pkg/cla/bbc/transmission.go", "NewOutgoingTransmission", "call", "newPlainOutgoingTransmission(transmissionID)", "newPlainOutgoingTransmission", .param, "byte", "", none, 0, false⟩,
  ⟨"pkg/cla/bbc/transmission.go", "NewOutgoingTransmission", "call", "newPlainOutgoingTransmission(mtu)", "newPlainOutgoingTransmission", .param, "int", "", none, 0, false⟩,
  ⟨"pkg/cla/bbc/transmission.go", "OutgoingTransmission.WriteFragment", "slice", "t.Payload[:t.mtu] @ t.mtu", "", .loc, "", "!(len(t.Payload) <= t.mtu)", none, 0, false⟩,
  ⟨"pkg/cla/bbc/transmission.go", "OutgoingTransmission.WriteFragment", "slice", "t.Payload[t.mtu:] @ t.mtu", "", .loc, "", "!(len(t.Payload) <= t.mtu)", none, 0, false⟩,
  ⟨"pkg/cla/mtcp/server.go", "MTCPServer.handleSender", "loopbreak", "", "", .wire, "", "", none, 0, true⟩,
  ⟨"pkg/cla/tcpclv4/internal/msgs/contact_header.go", "ContactHeader.Unmarshal", "make", "6", "[]byte", .const, "", "", none, 0, false⟩,
  ⟨"pkg/cla/tcpclv4/internal/msgs/contact_header.go", "ContactHeader.Unmarshal", "readfull", "data = make([]byte, 6)", "", .const, "", "", none, 0, false⟩,
  ⟨"pkg/cla/tcpclv4/internal/msgs/message.go", "ReadMessage", "make", "1", "[]byte", .const, "", "", none, 0, false⟩,
  ⟨"pkg/cla/tcpclv4/internal/msgs/message.go", "ReadMessage", "readfull", "msgTypeBytes = make([]byte, 1)", "", .const, "", "", none, 0, false⟩,
  ⟨"pkg/cla/tcpclv4/internal/msgs/message.go", "discardBytes", "copyn", "int64(l)", "ioutil.Discard", .param, "uint64", "l > math.MaxInt64 => return", some 9223372036854775807, 0, false⟩,
  ⟨"pkg/cla/tcpclv4/internal/msgs/sess_init.go", "SessionInitMessage.Unmarshal", "make", "nodeIdLen", "[]byte", .wire, "uint16", "", some 65535, 0, false⟩,
  ⟨"pkg/cla/tcpclv4/internal/msgs/sess_init.go", "SessionInitMessage.Unmarshal", "readfull", "nodeIdBuff = make([]byte, nodeIdLen)", "", .wire, "uint16", "", some 65535, 0, false⟩,
  ⟨"pkg/cla/tcpclv4/internal/msgs/sess_init.go", "SessionInitMessage.Unmarshal", "call", "discardBytes(uint64(sessionExtsLen))", "discardBytes", .wire, "uint32", "", none, 0, false⟩,
  ⟨"pkg/cla/tcpclv4/internal/msgs/xfer_segment.go", "DataTransmissionMessage.Unmarshal", "call", "discardBytes(uint64(transferExtLen))", "discardBytes", .wire, "uint32", "", none, 0, false⟩,
  ⟨"pkg/cla/tcpclv4/internal/msgs/xfer_segment.go", "DataTransmissionMessage.Unmarshal", "readraw", "dataLen", "", .wire, "uint64", "dataLen > 0", none, 1, false⟩,
  ⟨"pkg/cla/tcpclv4/internal/utils/message_switch_readerwriter.go", "NewMessageSwitchReaderWriter", "makechan", "32", "chan msgs.Message", .const, "", "", none, 0, false⟩,
  ⟨"pkg/cla/tcpclv4/internal/utils/message_switch_readerwriter.go", "NewMessageSwitchReaderWriter", "makechan", "32", "chan msgs.Message", .const, "", "", none, 0, false⟩,
  ⟨"pkg/cla/tcpclv4/internal/utils/message_switch_readerwriter.go", "MessageSwitchReaderWriter.handleIn", "loopbreak", "", "", .wire, "", "", none, 0, true⟩,
  ⟨"pkg/cla/tcpclv4/internal/utils/transfer_manager.go", "TransferManager.handle", "loopbreak", "", "", .wire, "", "", none, 0, true⟩,
  ⟨"pkg/cla/tcpclv4/internal/utils/transfer_manager.go", "TransferManager.Send", "makechan", "32", "chan msgs.Message", .const, "", "", none, 0, false⟩,
  ⟨"pkg/cla/tcpclv4/internal/utils/transfer_manager.go", "TransferManager.Send", "makechan", "1", "chan error", .const, "", "", none, 0, false⟩,
  ⟨"pkg/cla/tcpclv4/internal/utils/transfer_manager.go", "TransferManager.Send", "makechan", "1", "chan int", .const, "", "", none, 0, false⟩,
  ⟨"pkg/cla/tcpclv4/internal/utils/transfer_manager.go", "TransferManager.Send", "loopbreak", "", "", .wire, "", "", none, 0, true⟩,
  ⟨"pkg/cla/tcpclv4/internal/utils/transfer_out.go", "NewBundleOutgoingTransfer", "call", "NewOutgoingTransfer(id)", "NewOutgoingTransfer", .param, "uint64", "", none, 0, false⟩,
  ⟨"pkg/cla/tcpclv4/internal/utils/transfer_out.go", "OutgoingTransfer.NextSegment", "make", "mtu", "[]byte", .param, "uint64", "mtu == 0 => return; mtu > MaxSegmentMtu => mtu = MaxSegmentMtu", some 1048576, 1, false⟩,
  ⟨"pkg/cla/tcpclv4/internal/utils/transfer_out.go", "OutgoingTransfer.NextSegment", "readfull", "buf = make([]byte, mtu)", "", .param, "uint64", "mtu == 0 => return; mtu > MaxSegmentMtu => mtu = MaxSegmentMtu", some 1048576, 1, false⟩,
  ⟨"pkg/cla/tcpclv4/internal/utils/transfer_out.go", "OutgoingTransfer.NextSegment", "slice", "buf[:n] @ n", "", .loc, "", "", none, 0, false⟩,
  ⟨"pkg/discovery/announcement.go", "UnmarshalAnnouncements", "make", "0", "[]Announcement", .const, "", "", none, 0, false⟩,
  ⟨"pkg/discovery/announcement.go", "UnmarshalAnnouncements", "loop", "l", "", .wire, "", "", none, 0, true⟩,
  ⟨"pkg/discovery/announcement.go", "Announcement.UnmarshalCbor", "call", "cla.CLAType(n)", "cla.CLAType", .wire, "", "", none, 0, false⟩]

theorem extraction_complete : extractionFailures = [] := rfl

theorem alloc_sites_expected : allocSites = expected := rfl

/-- Largest buffer that may be allocated on the word of a length field (cboring's own limit). -/
def maxPrealloc : Nat := 1024 * 1024

def wireDerived (s : Site) : Bool := s.prov == .wire || s.prov == .param

/-- Functions a decoded number may be handed to: conversions to named integer types, registry look-ups,
CBOR writers, the unbuffered skip, constructors that store it. None of them allocates by its argument;
`cboring.ReadRawBytes` and `make` have rows of their own. A decoded number passed to anything else is a new
row of the table and needs a decision here. -/
def allowedCallees : List String :=
  ["DtnTime", "StatusReportReason", "BlockControlFlags", "BundleControlFlags", "CRCType", "BundleAgeBlock",
   "cla.CLAType", "arm.data.Load", "b.ExtensionBlock", "GetExtensionBlockManager().ReadBlock", "ebm.createBlock",
   "cboring.WriteArrayLength", "discardBytes", "newPlainOutgoingTransmission", "NewOutgoingTransfer",
   -- `emptyCRC(t)` returns a slice of constant length 0, 2 or 4 for the three known CRC types and an error otherwise
   "emptyCRC"]

/-- Decidable core of `Bounded`. -/
def boundedB (s : Site) : Bool :=
  !wireDerived s ||
  (match s.kind with
   | "make" | "makecap" | "makemap" | "makechan" | "grow" | "readfull" =>
     -- a buffer sized by a decoded number: only behind a constant bound of at most 1 MiB
     (match s.bound with | some b => b ≤ maxPrealloc | none => false)
   | "slice" => s.bound.isSome
   | "copyn" =>
     -- streamed into a growing buffer or discarded: memory follows the bytes that arrive
     (s.elem == "&buf" || s.elem == "ioutil.Discard") && (match s.bound with | some b => b < 2 ^ 63 | none => false)
   | "readraw" | "readstring" => true      -- cboring.ReadRawBytes, see `Bounded`
   | "loop" | "loopbreak" => s.reads       -- every iteration reads from the wire or leaves
   | "call" => allowedCallees.contains s.elem
   | _ => false)

/-- What the property demands of one allocation site: its size is not wire-derived; or it is guarded by a
constant bound ≤ 1 MiB; or it streams; or it goes through `cboring.ReadRawBytes`, which pre-allocates at
most 1 MiB whatever the length says (`readRawPrealloc_le`, the limits themselves are rows of the table);
or it is a count-driven loop that reads an element — at least one byte, `Decoders` theorems below — before
it appends. -/
def Bounded (s : Site) : Prop :=
  boundedB s = true ∧
  ((s.kind = "readraw" ∨ s.kind = "readstring") → ∀ l, Cbor.readRawPrealloc l ≤ maxPrealloc)

theorem bounded_of_boundedB (s : Site) (h : boundedB s = true) : Bounded s :=
  ⟨h, fun _ l => Cbor.Lemmas.readRawPrealloc_le l⟩

/-- Full statement; false today because of the xz reader (known finding
`alloc-unbounded-bbc-xz-dictsize`): -/
def EverySiteBounded : Prop := ∀ s ∈ allocSites, Bounded s

/-- Every site except the decompressor of the BBC is bounded. -/
theorem every_site_bounded_partial : ∀ s ∈ allocSites, s.kind ≠ "xzreader" → Bounded s := by
  intro s hs hk
  refine bounded_of_boundedB s ?_
  have h : ∀ s ∈ allocSites, s.kind ≠ "xzreader" → boundedB s = true := by decide +kernel
  exact h s hs hk

/-- Witness for the excluded class: the one xz site, whose dictionary is sized by the stream's header. -/
theorem every_site_bounded_witness : ¬ EverySiteBounded := by
  intro h
  have h1 : ∃ s ∈ allocSites, boundedB s = false := by decide +kernel
  obtain ⟨s, hs, hb⟩ := h1
  have := (h s hs).1
  simp [hb] at this

theorem xz_site_unique : (allocSites.filter (fun s => s.kind == "xzreader")).length = 1 := by decide +kernel

/-- The library guard the table relies on is the one the model of `ReadRawBytes` has: reject above
`MaxInt32`, pre-allocate only up to 1 MiB, stream otherwise. -/
theorem cboring_limits :
    (allocSites.filter (fun s => s.file == "cboring:strings.go" && s.fn == "ReadRawBytes")).map (fun s => (s.kind, s.bound)) =
      [("make", some Decoders.preallocLimit), ("readfull", some Decoders.preallocLimit), ("copyn", some Cbor.maxInt32)] := by
  decide +kernel

/-- The sender's segment buffer is guarded: zero is refused, anything above `MaxSegmentMtu` is clamped. -/
theorem segment_buffer_site :
    ∃ s ∈ allocSites, s.fn = "OutgoingTransfer.NextSegment" ∧ s.kind = "make" ∧ s.lower = 1 ∧
      s.bound = some Decoders.maxSegmentMtu := by decide +kernel

theorem gen_max_segment_mtu : Gen.C04.maxSegmentMtu = Decoders.maxSegmentMtu := rfl

/-- `SessInitStage.Handle` refuses a Segment MRU of zero and clamps the rest (control skeleton). -/
theorem sess_init_handle_expected : sessInitHandle =
    ["ci.state = state",
     "ci.closeChan = closeChan",
     "ciOut := msgs.NewSessionInitMessage( ci.state.Configuration.Keepalive, ci.state.Configuration.SegmentMru, ci.state.Configuration.TransferMru, ci.state.Configuration.NodeId.String())",
     "var ( ciIn *msgs.SessionInitMessage err error )",
     "if ci.state.Configuration.ActivePeer",
     "  ci.state.MsgOut <- ciOut",
     "  ciIn, err = ci.receiveMsgOrClose()",
     "else",
     "  ciIn, err = ci.receiveMsgOrClose()",
     "  if err == nil",
     "    ci.state.MsgOut <- ciOut",
     "if err == nil && ciIn.SegmentMru == 0",
     "  err = fmt.Errorf(\"peer's SESS_INIT has a Segment MRU of zero\")",
     "if err == nil",
     "  ci.state.Keepalive = uint16(math.Min(float64(ci.state.Configuration.Keepalive), float64(ciIn.KeepaliveInterval)))",
     "  ci.state.SegmentMtu = ciIn.SegmentMru",
     "  if ci.state.SegmentMtu > utils.MaxSegmentMtu",
     "    ci.state.SegmentMtu = utils.MaxSegmentMtu",
     "  ci.state.TransferMtu = ciIn.TransferMru",
     "  ci.state.PeerNodeId, err = bpv7.NewEndpointID(ciIn.NodeId)",
     "ci.state.StageError = err"] := rfl

theorem next_segment_head_expected : nextSegmentHead =
    ["if mtu == 0",
     "  err = fmt.Errorf(\"segment MTU must not be zero\")",
     "  return",
     "else if mtu > MaxSegmentMtu",
     "  mtu = MaxSegmentMtu",
     "var segFlags msgs.SegmentFlags"] := rfl

/-! ## 2. Decoders: allocation accounting and termination

`allocs (run d bs)` is the allocation log of decoder `d` on input `bs`: one entry `(requested, arrived)`
per allocation whose size depends on a decoded number (also when the decoder ends in an error).
`C = 1 MiB + 512` (cboring's pre-allocation limit, `bytes.MinRead`), `K = 128` (twice the largest
element, append doubles). -/

open Dtn7.Decoders.Lemmas in
/-- **Administrative records / status reports** (`ReadAdministrativeRecord`): whatever the item count
claims, nothing is requested beyond `C + K ·` bytes that have arrived. -/
theorem alloc_bounded_adminrec (bs : Cbor.Bytes) :
    ∀ p ∈ allocs (run adminRecord bs), p.1 ≤ C + K * p.2 :=
  sound_adminRecord.log _ logOk_nil

open Dtn7.Decoders.Lemmas in
/-- **Discovery announcements** (`UnmarshalAnnouncements`, one UDP packet). -/
theorem alloc_bounded_announcements (bs : Cbor.Bytes) :
    ∀ p ∈ allocs (run announcements bs), p.1 ≤ C + K * p.2 :=
  sound_announcements.log _ logOk_nil

open Dtn7.Decoders.Lemmas in
/-- **DTLSR and PRoPHET map blocks**. -/
theorem alloc_bounded_dtlsr (bs : Cbor.Bytes) : ∀ p ∈ allocs (run dtlsr bs), p.1 ≤ C + K * p.2 :=
  sound_dtlsr.log _ logOk_nil

open Dtn7.Decoders.Lemmas in
theorem alloc_bounded_prophet (bs : Cbor.Bytes) : ∀ p ∈ allocs (run prophet bs), p.1 ≤ C + K * p.2 :=
  sound_prophet.log _ logOk_nil

open Dtn7.Decoders.Lemmas in
/-- **Endpoint IDs** (the text SSP goes through `cboring.ReadRawBytes`). -/
theorem alloc_bounded_eid (bs : Cbor.Bytes) : ∀ p ∈ allocs (run eid bs), p.1 ≤ C + K * p.2 :=
  sound_eid.log _ logOk_nil

open Dtn7.Decoders.Lemmas in
/-- **XFER_SEGMENT**: extension items are skipped unbuffered, the data goes through `ReadRawBytes`. -/
theorem alloc_bounded_xfer_segment (bs : Cbor.Bytes) :
    ∀ p ∈ allocs (run xferSegment bs), p.1 ≤ C + K * p.2 :=
  sound_xferSegment.log _ logOk_nil

open Dtn7.Decoders.Lemmas in
/-- **SESS_INIT**: the node ID buffer is bounded by its 16 bit length field, extension items are skipped. -/
theorem alloc_bounded_sess_init (bs : Cbor.Bytes) :
    ∀ p ∈ allocs (run sessInit bs), p.1 ≤ C + K * p.2 :=
  sound_sessInit.log _ logOk_nil

open Dtn7.Decoders.Lemmas in
/-- **The block array of a bundle**: for any primary / canonical block decoder that itself stays within
the bound and whose successful blocks consume input, the indefinite-length block loop does too. -/
theorem alloc_bounded_bundle_blocks {α β : Type} (primary : D β) (block : D α)
    (hp : Sound primary) (hb : Sound block) (ha : Adv block) (bs : Cbor.Bytes) :
    ∀ p ∈ allocs (run (bundleBlocks primary block) bs), p.1 ≤ C + K * p.2 :=
  (sound_bundleBlocks hp hb ha).log _ logOk_nil

open Dtn7.Decoders.Lemmas in
/-- **Termination on input-derived fuel** (`dec_total` is by construction: the decoders are total Lean
functions). Every count-driven loop runs on fuel `remaining input + 1`; none of the decoders ever reports
exhausted fuel, i.e. the number of iterations is bounded by the number of input bytes, whatever a count
field says (2^64 − 1 included). -/
theorem dec_never_out_of_fuel (bs : Cbor.Bytes) :
    (run adminRecord bs).1 ≠ .error fuelErr ∧ (run announcements bs).1 ≠ .error fuelErr ∧
    (run dtlsr bs).1 ≠ .error fuelErr ∧ (run prophet bs).1 ≠ .error fuelErr ∧
    (run xferSegment bs).1 ≠ .error fuelErr ∧ (run sessInit bs).1 ≠ .error fuelErr :=
  ⟨sound_adminRecord.nofuel _, sound_announcements.nofuel _, sound_dtlsr.nofuel _, sound_prophet.nofuel _,
   sound_xferSegment.nofuel _, sound_sessInit.nofuel _⟩

open Dtn7.Decoders.Lemmas in
/-- The same for the block loop of a bundle and for any count-driven loop over an advancing element. -/
theorem loops_never_out_of_fuel {α β : Type} (primary : D β) (block : D α) (elem : D α) (esz n : Nat)
    (hp : Sound primary) (hb : Sound block) (ha : Adv block) (he : Sound elem) (hae : Adv elem) (hk : 2 * esz ≤ K)
    (bs : Cbor.Bytes) :
    (run (bundleBlocks primary block) bs).1 ≠ .error fuelErr ∧ (run (repeatN elem esz n) bs).1 ≠ .error fuelErr :=
  ⟨(sound_bundleBlocks hp hb ha).nofuel _, (sound_repeatN elem esz n he hae hk).nofuel _⟩

open Dtn7.Decoders.Lemmas in
/-- **Every element consumes input**: a successfully decoded status item, announcement or map entry takes
at least one byte (in fact at least two) from the input — the reason why the `loop` rows of the allocation
table (`reads = true`: read first, append afterwards) cannot allocate or iterate beyond what has arrived. -/
theorem elements_consume_input :
    Adv statusItem ∧ Adv announcement ∧ Adv dtlsrEntry ∧ Adv prophetEntry ∧ Adv eid :=
  ⟨statusItem_elem.2, announcement_elem.2, dtlsrEntry_elem.2, prophetEntry_elem.2, eid_elem.2⟩

/-- The model's CBOR head reader is the shared model of `cboring.ReadMajors`. -/
theorem head_is_decHead (s : St) :
    (head s).1 = (Cbor.decHead s.rest).map (fun r => (r.1, r.2.1)) ∧
    (∀ m n r, Cbor.decHead s.rest = .ok (m, n, r) → (head s).2.rest = r) :=
  Dtn7.Decoders.Lemmas.head_decHead s

/-! Witnesses: the variants without these guards (`statusReportOld`, `xferSegmentOld`) falsify the bound with
inputs of a few bytes. -/

/-- D8: a status report announcing 2^40 items — `make([]BundleStatusItem, n)` requested 24·2^40 bytes
after 10 bytes had arrived. -/
theorem alloc_bounded_status_report_old_witness :
    ¬ ∀ p ∈ allocs (run statusReportOld [0x84, 0x9B, 0, 0, 1, 0, 0, 0, 0, 0]), p.1 ≤ C + K * p.2 := by decide

/-- D10: an XFER_SEGMENT header announcing 2^32 − 1 bytes of extension items. -/
theorem alloc_bounded_xfer_segment_old_witness :
    ¬ ∀ p ∈ allocs (run xferSegmentOld [1, 3, 0, 0, 0, 0, 0, 0, 0, 7, 0xFF, 0xFF, 0xFF, 0xFF]), p.1 ≤ C + K * p.2 := by
  decide

/-! Non-vacuity: the decoders accept real messages, and their logs are not empty. -/
example : ((run adminRecord [0x82, 0x01, 0x84, 0x82, 0x82, 0xF5, 0x00, 0x81, 0xF4, 0x05, 0x82, 0x01, 0x00,
    0x82, 0x00, 0x00]).1.toOption.map (fun r => (r.items.length, r.reason))) = some (2, 5) := by decide +kernel
example : allocs (run adminRecord [0x82, 0x01, 0x84, 0x82, 0x82, 0xF5, 0x00, 0x81, 0xF4, 0x05, 0x82, 0x01, 0x00,
    0x82, 0x00, 0x00]) = [(96, 9), (48, 7)] := by decide +kernel
example : ((run xferSegment [1, 3, 0, 0, 0, 0, 0, 0, 0, 7, 0, 0, 0, 0, 0, 0, 0, 0, 0, 0, 0, 2, 9, 9]).1.toOption.map
    (fun x => x.data)) = some [9, 9] := by decide
example : allocs (run xferSegment [1, 3, 0, 0, 0, 0, 0, 0, 0, 7, 0, 0, 0, 0, 0xFF, 0, 0, 0, 0, 0, 0, 2]) = [] := by decide

/-! ## 3. The sender side: sizes a peer declares during session setup -/

/-- **`negotiated_mtu_ok`**: a segment size taken from a peer's SESS_INIT is at least 1 and at most
`MaxSegmentMtu`; a Segment MRU of zero fails the session. -/
theorem negotiated_mtu_ok (peerMru m : Nat) (h : negotiate peerMru = .ok m) : 1 ≤ m ∧ m ≤ Decoders.maxSegmentMtu :=
  Dtn7.Decoders.Lemmas.clamp_ok h

/-- D11: `negotiateOld`, the variant without the check, hands any value on, 0 and 2^64 − 1 included. -/
theorem negotiated_mtu_old_witness :
    ¬ (∀ v m, negotiateOld v = .ok m → 1 ≤ m ∧ m ≤ Decoders.maxSegmentMtu) := by
  intro h
  have := h 0 0 rfl
  omega

/-- `NextSegment` applies the same check to whatever it is handed. -/
theorem segment_buffer_ok (mtu m : Nat) (h : segmentBuffer mtu = .ok m) : 1 ≤ m ∧ m ≤ Decoders.maxSegmentMtu :=
  Dtn7.Decoders.Lemmas.clamp_ok h

/-- **`nextSegment_progress`**: with a segment size ≥ 1 every segment takes between 1 and `mtu` bytes
from the stream … -/
theorem nextSegment_progress (la st : Bool) (rest : List UInt8) (mtu : Nat) (hm : 1 ≤ mtu) (sg : Tcpcl.Seg)
    (r : List UInt8) (h : Tcpcl.nextSegment la st rest mtu = .seg sg r) :
    r.length < rest.length ∧ 1 ≤ sg.data.length ∧ sg.data.length ≤ mtu :=
  Dtn7.Decoders.Lemmas.nextSegment_progress la st rest mtu hm sg r h

/-- … and the end of the transfer is reported exactly when nothing is left. -/
theorem nextSegment_ends (la st : Bool) (rest : List UInt8) (mtu : Nat)
    (h : Tcpcl.nextSegment la st rest mtu = .eof) : rest = [] := by
  unfold Tcpcl.nextSegment at h
  by_cases h0 : rest.length = 0
  · exact List.length_eq_zero_iff.mp h0
  · by_cases h1 : rest.length < mtu <;> simp [h0, h1] at h

/-- **No spinning, no peer-sized buffers**: whatever segment size `Send` is handed, it emits at most one
segment per byte of the bundle, every segment carries between 1 and `MaxSegmentMtu` bytes, and together
they are the bundle. -/
theorem send_segments_bounded (mtu : Nat) (data : List UInt8) (segs : List Tcpcl.Seg)
    (h : sendSegments mtu data = .ok segs) :
    segs.length ≤ data.length ∧ (∀ sg ∈ segs, 1 ≤ sg.data.length ∧ sg.data.length ≤ Decoders.maxSegmentMtu) ∧
      Tcpcl.concatData segs = data := by
  unfold sendSegments at h
  rcases hb : segmentBuffer mtu with e | m
  · rw [hb] at h; cases h
  · rw [hb] at h
    cases h
    obtain ⟨hm1, hm2⟩ := segment_buffer_ok mtu m hb
    unfold Tcpcl.segments
    rw [if_pos (show 0 < m from hm1)]
    have hne := Tcpcl.Lemmas.segmentsFuel_nonempty true m hm1 data.length true data
    by_cases hd : data = []
    · subst hd; simp [Tcpcl.Lemmas.segmentsFuel_nil, Tcpcl.concatData]
    · obtain ⟨h1, h2, _, _⟩ := Tcpcl.Lemmas.segmentsFuel_ok true m hm1 data.length true data hd (Nat.le_refl _)
      refine ⟨?_, fun sg hsg => ⟨hne sg hsg, Nat.le_trans (h1 sg hsg) hm2⟩, h2⟩
      have := Tcpcl.Lemmas.concat_length_ge _ hne
      rwa [h2] at this

example : (negotiate (2 ^ 64 - 1)).toOption = some 1048576 := by decide
example : (negotiate 23).toOption = some 23 := by decide
example : (negotiate 0).toOption = none := by decide
example : (sendSegments 2 [1, 2, 3]).toOption.map (·.length) = some 2 := by decide
example : (sendSegments 0 [1, 2, 3]).toOption = none := by decide

end Dtn7.Props.C04
