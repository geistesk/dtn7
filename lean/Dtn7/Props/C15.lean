/-
C15 — status reports are truthful, correctly addressed and cannot cascade.
Property theorems only; helper lemmas live in `Dtn7.Lemmas.Reports` and `Dtn7.Lemmas.ReportsCbor`, the model and the Spec
(`ReportJustified`, …) in `Dtn7.Model.Reports`.
-/
import Dtn7.Model.Reports
import Dtn7.Lemmas.Reports
import Dtn7.Model.ReportsCbor
import Dtn7.Lemmas.ReportsCbor
import Dtn7.Gen.C15

namespace Dtn7.Props.C15
open Dtn7.Reports

/-! ## The tie: facts regenerated from the source on every run -/

theorem gen_extraction_ok : Dtn7.Gen.C15.extractionFailures = [] := rfl

/-- Flag bits, status positions, reason codes and the report lifetime the model uses. -/
theorem gen_constants :
    Dtn7.Gen.C15.fIsFragment = fIsFragment ∧ Dtn7.Gen.C15.fAdmin = fAdmin ∧
    Dtn7.Gen.C15.fReqTime = fReqTime ∧ Dtn7.Gen.C15.fReqReception = fReqReception ∧
    Dtn7.Gen.C15.fReqForward = fReqForward ∧ Dtn7.Gen.C15.fReqDelivery = fReqDelivery ∧
    Dtn7.Gen.C15.fReqDeletion = fReqDeletion ∧
    fReqAll = fReqReception ||| fReqForward ||| fReqDelivery ||| fReqDeletion ∧
    Dtn7.Gen.C15.bfReport = bfReport ∧ Dtn7.Gen.C15.bfDelete = bfDelete ∧
    Dtn7.Gen.C15.bfRemove = bfRemove ∧
    Dtn7.Gen.C15.posReceived = posReceived ∧ Dtn7.Gen.C15.posForwarded = posForwarded ∧
    Dtn7.Gen.C15.posDelivered = posDelivered ∧ Dtn7.Gen.C15.posDeleted = posDeleted ∧
    Dtn7.Gen.C15.maxPos = maxPos ∧
    Dtn7.Gen.C15.rNoInformation = rNoInformation ∧ Dtn7.Gen.C15.rLifetimeExpired = rLifetimeExpired ∧
    Dtn7.Gen.C15.rHopLimitExceeded = rHopLimitExceeded ∧
    Dtn7.Gen.C15.rBlockUnsupported = rBlockUnsupported ∧
    Dtn7.Gen.C15.reportLifetimeMs = reportLifetimeMs ∧
    Dtn7.Gen.C15.adminRecordTypeStatusReport = 1 := by and_intros <;> rfl

/-- `BundleControlFlags.Has` and `BlockControlFlags.Has` are `(bcf & flag) != 0` (`has`). -/
theorem gen_has : Dtn7.Gen.C15.flagsHas = ["return (bcf & flag) != 0"] ∧
    Dtn7.Gen.C15.blockFlagsHas = ["return (bcf & flag) != 0"] := ⟨rfl, rfl⟩

/-- `Core.SendStatusReport`, statement by statement (logging removed): the two guards come first, `NewStatusReport` gets the subject bundle, the report bundle is built with the administrative flag only, source `aaEndpoint`, destination = the subject's report-to, and is submitted through `SendBundle`. -/
theorem gen_sendStatusReport : Dtn7.Gen.C15.sendStatusReport =
    ["bndl, _ := descriptor.Bundle()",
    "if bndl.PrimaryBlock.BundleControlFlags.Has(bpv7.AdministrativeRecordPayload)",
    "  return",
    "if c.HasEndpoint(bndl.PrimaryBlock.ReportTo)",
    "  return",
    "var sr = bpv7.NewStatusReport(*bndl, status, reason, bpv7.DtnTimeNow())",
    "var ar, arErr = bpv7.AdministrativeRecordToCbor(sr)",
    "if arErr != nil",
    "  return",
    "var aaEndpoint = descriptor.Receiver",
    "if aaEndpoint == bpv7.DtnNone()",
    "  aaEndpoint = c.NodeId",
    "if !c.HasEndpoint(aaEndpoint) && aaEndpoint != c.NodeId",
    "  return",
    "var outBndl, err = bpv7.Builder(). BundleCtrlFlags(bpv7.AdministrativeRecordPayload). Source(aaEndpoint). Destination(bndl.PrimaryBlock.ReportTo). CreationTimestampNow(). Lifetime(\"60m\"). Canonical(ar). Build()",
    "if err != nil",
    "  return",
    "c.SendBundle(&outBndl)"] := by rfl

/-- The early exits of `SendStatusReport`, in order. -/
theorem gen_ssrGuards : Dtn7.Gen.C15.ssrGuards =
    ["bndl.PrimaryBlock.BundleControlFlags.Has(bpv7.AdministrativeRecordPayload)",
    "c.HasEndpoint(bndl.PrimaryBlock.ReportTo)",
    "arErr != nil",
    "!c.HasEndpoint(aaEndpoint) && aaEndpoint != c.NodeId",
    "err != nil"] := by rfl

/-- The builder chain of the report bundle. -/
theorem gen_ssrBuilder : Dtn7.Gen.C15.ssrBuilder =
    ["bpv7",
    "Builder()",
    "BundleCtrlFlags(bpv7.AdministrativeRecordPayload)",
    "Source(aaEndpoint)",
    "Destination(bndl.PrimaryBlock.ReportTo)",
    "CreationTimestampNow()",
    "Lifetime(\"60m\")",
    "Canonical(ar)",
    "Build()"] := by rfl

/-- `NewStatusReport` is called after both guards, about the subject bundle, with the caller's status and reason. -/
theorem gen_ssrNewStatusReport : Dtn7.Gen.C15.ssrNewStatusReport =
    ["SendStatusReport | unless bndl.PrimaryBlock.BundleControlFlags.Has(bpv7.AdministrativeRecordPayload) | unless c.HasEndpoint(bndl.PrimaryBlock.ReportTo) | NewStatusReport(*bndl, status, reason, bpv7.DtnTimeNow())"] := by rfl

/-- `Core.HasEndpoint`. -/
theorem gen_hasEndpoint : Dtn7.Gen.C15.hasEndpoint =
    ["if c.NodeId.SameNode(endpoint)",
    "  return true",
    "if c.agentManager.HasEndpoint(endpoint)",
    "  return true",
    "if c.claManager.HasEndpoint(endpoint)",
    "  return true",
    "for _, cr := range c.claManager.Receiver()",
    "  if cr.GetEndpointID().SameNode(endpoint)",
    "    return true",
    "return false"] := by rfl

/-- `AgentManager.HasEndpoint`. -/
theorem gen_agentHasEndpoint : Dtn7.Gen.C15.agentHasEndpoint =
    ["return agent.AppAgentHasEndpoint(manager.mux, eid)"] := by rfl

/-- `cla.Manager.HasEndpoint` compares authorities. -/
theorem gen_claHasEndpoint : Dtn7.Gen.C15.claHasEndpoint =
    ["for _, clas := range manager.listenerIDs",
    "  for _, adapter := range clas",
    "    if adapter.Authority() == endpoint.Authority()",
    "      return true",
    "return false"] := by rfl

/-- `NewStatusReport`: one item per position, asserted at `statusItem` only, time only with `RequestStatusTime`, `RefBundle = bndl.ID()`. -/
theorem gen_newStatusReport : Dtn7.Gen.C15.newStatusReport =
    ["report = &StatusReport{ StatusInformation: make([]BundleStatusItem, maxStatusInformationPos), ReportReason: reason, RefBundle: bndl.ID(), }",
    "for i := 0; i < maxStatusInformationPos; i++",
    "  sip := StatusInformationPos(i)",
    "  switch",
    "  case sip == statusItem && bndl.PrimaryBlock.BundleControlFlags.Has(RequestStatusTime):",
    "    report.StatusInformation[i] = NewTimeReportingBundleStatusItem(time)",
    "  case sip == statusItem:",
    "    report.StatusInformation[i] = NewBundleStatusItem(true)",
    "  default:",
    "    report.StatusInformation[i] = NewBundleStatusItem(false)",
    "return"] := by rfl

/-- `Bundle.ID()` carries the fragment flag, offset and total length. -/
theorem gen_bundleId : Dtn7.Gen.C15.bundleId =
    ["return BundleID{ SourceNode: b.PrimaryBlock.SourceNode, Timestamp: b.PrimaryBlock.CreationTimestamp, IsFragment: b.PrimaryBlock.BundleControlFlags.Has(IsFragment), FragmentOffset: b.PrimaryBlock.FragmentOffset, TotalDataLength: b.PrimaryBlock.TotalDataLength, }"] := by rfl

/-- `BundleStatusItem.MarshalCbor`: the time is written exactly if asserted and requested. -/
theorem gen_statusItemMarshal : Dtn7.Gen.C15.statusItemMarshal =
    ["var arrLen uint64 = 1",
    "if bsi.Asserted && bsi.StatusRequested",
    "  arrLen = 2",
    "if err := cboring.WriteArrayLength(arrLen, w); err != nil",
    "  return err",
    "if err := cboring.WriteBoolean(bsi.Asserted, w); err != nil",
    "  return err",
    "if arrLen == 2",
    "  if err := cboring.WriteUInt(uint64(bsi.Time), w); err != nil",
    "    return err",
    "return nil"] := by rfl

/-- `StatusReport.MarshalCbor`: `2 + RefBundle.Len()` elements. -/
theorem gen_statusReportMarshal : Dtn7.Gen.C15.statusReportMarshal =
    ["if err := cboring.WriteArrayLength(2+sr.RefBundle.Len(), w); err != nil",
    "  return err",
    "if err := cboring.WriteArrayLength(uint64(len(sr.StatusInformation)), w); err != nil",
    "  return err",
    "for _, si := range sr.StatusInformation",
    "  statusInformation := si",
    "  if err := cboring.Marshal(&statusInformation, w); err != nil",
    "    return fmt.Errorf(\"Marshalling BundleStatusItem failed: %v\", err)",
    "if err := cboring.WriteUInt(uint64(sr.ReportReason), w); err != nil",
    "  return err",
    "if err := cboring.Marshal(&sr.RefBundle, w); err != nil",
    "  return fmt.Errorf(\"Marshalling BundleID failed: %v\", err)",
    "return nil"] := by rfl

/-- `BundleID.MarshalCbor`: offset and total length exactly for fragments. -/
theorem gen_bundleIdMarshal : Dtn7.Gen.C15.bundleIdMarshal =
    ["if err := cboring.Marshal(&bid.SourceNode, w); err != nil",
    "  return fmt.Errorf(\"marshalling source node failed: %v\", err)",
    "if err := cboring.Marshal(&bid.Timestamp, w); err != nil",
    "  return fmt.Errorf(\"marshalling timestamp failed: %v\", err)",
    "if bid.IsFragment",
    "  flds := []uint64{bid.FragmentOffset, bid.TotalDataLength}",
    "  for _, fld := range flds",
    "    if err := cboring.WriteUInt(fld, w); err != nil",
    "      return err",
    "return nil"] := by rfl

/-- `BundleID.Len`. -/
theorem gen_bundleIdLen : Dtn7.Gen.C15.bundleIdLen =
    ["if bid.IsFragment",
    "  return 4",
    "else",
    "  return 2"] := by rfl

/-- `bundleDeletion`. -/
theorem gen_bundleDeletion : Dtn7.Gen.C15.bundleDeletion =
    ["if bp.MustBundle().PrimaryBlock.BundleControlFlags.Has(bpv7.StatusRequestDeletion)",
    "  c.SendStatusReport(bp, bpv7.DeletedBundle, reason)",
    "bp.PurgeConstraints()",
    "_ = bp.Sync()"] := by rfl

/-- The call sites of `SendStatusReport` outside `localDelivery` (reception by flag, reception by an
unsupported block's flag, forwarding, deletion) with the conditions they sit under. -/
theorem gen_reportSites : Dtn7.Gen.C15.reportSites =
    ["receive | unless len(bp.Constraints) > 0 | if bp.MustBundle().PrimaryBlock.BundleControlFlags.Has(bpv7.StatusRequestReception) | SendStatusReport(bp, bpv7.ReceivedBundle, bpv7.NoInformation)",
    "receive | unless len(bp.Constraints) > 0 | for i := len(bp.MustBundle().CanonicalBlocks) - 1; i >= 0; i-- | unless bpv7.GetExtensionBlockManager().IsKnown(cb.TypeCode()) | if cb.BlockControlFlags.Has(bpv7.StatusReportBlock) | SendStatusReport(bp, bpv7.ReceivedBundle, bpv7.BlockUnsupported)",
    "forward | unless bp.MustBundle().IsLifetimeExceeded() | if bundleSent | if bp.MustBundle().PrimaryBlock.BundleControlFlags.Has(bpv7.StatusRequestForward) | SendStatusReport(bp, bpv7.ForwardedBundle, bpv7.NoInformation)",
      "bundleDeletion | if bp.MustBundle().PrimaryBlock.BundleControlFlags.Has(bpv7.StatusRequestDeletion) | SendStatusReport(bp, bpv7.DeletedBundle, reason)"] := by rfl

/-- The callers of `bundleDeletion` with their conditions and reasons. -/
theorem gen_deletionSites : Dtn7.Gen.C15.deletionSites =
    ["transmit | if src != bpv7.DtnNone() && !c.HasEndpoint(src) | bundleDeletion(bp, bpv7.NoInformation)",
    "receive | unless len(bp.Constraints) > 0 | for i := len(bp.MustBundle().CanonicalBlocks) - 1; i >= 0; i-- | unless bpv7.GetExtensionBlockManager().IsKnown(cb.TypeCode()) | if cb.BlockControlFlags.Has(bpv7.DeleteBundle) | bundleDeletion(bp, bpv7.BlockUnsupported)",
    "forward | if hcBlock, err := bp.MustBundle().ExtensionBlock(bpv7.ExtBlockTypeHopCountBlock); err == nil | if exceeded | bundleDeletion(bp, bpv7.HopLimitExceeded)",
    "forward | if bp.MustBundle().IsLifetimeExceeded() | bundleDeletion(bp, bpv7.LifetimeExpired)",
    "forward | unless bp.MustBundle().IsLifetimeExceeded() | if age, err := bp.UpdateBundleAge(); err == nil | if age >= bp.MustBundle().PrimaryBlock.Lifetime | bundleDeletion(bp, bpv7.LifetimeExpired)",
    "localDelivery | if bp.MustBundle().IsAdministrativeRecord() | if !c.checkAdministrativeRecord(bp) | bundleDeletion(bp, bpv7.NoInformation)"] := by rfl

/-- `bundleSent` is set only in the success branch of a convergence layer's `Send`. -/
theorem gen_bundleSentSites : Dtn7.Gen.C15.bundleSentSites =
    ["forward | unless bp.MustBundle().IsLifetimeExceeded() | for range nodes | go | func literal | else of (err := node.Send(*bp.MustBundle()); err != nil) | func literal | bundleSent = true"] := by rfl

/-- The retry path: `checkPendingBundles` rebuilds every descriptor from the ID the store keeps
(`bi.BId`), `newBundleItem` stores that ID scrubbed (no fragment offset / total length), and
`BundleDescriptor.Bundle` loads the bundle itself from the stored bytes — which is where
`SendStatusReport` takes the reference from (`gen_sendStatusReport`, `gen_newStatusReport`). -/
theorem gen_checkPendingBundles : Dtn7.Gen.C15.checkPendingBundles =
    ["if bis, err := c.store.QueryPending(); err != nil",
    "else",
    "  for _, bi := range bis",
    "    c.dispatching(NewBundleDescriptor(bi.BId, c.store))"] := by rfl

theorem gen_newBundleItem : Dtn7.Gen.C15.newBundleItem =
    ["bid := b.ID()",
    "bi = BundleItem{ Id: bid.Scrub().String(), BId: bid.Scrub(), Pending: false, Expires: calcExpirationDate(b), Fragmented: b.PrimaryBlock.HasFragmentation(), Properties: make(map[string]interface{}), }",
    "bp := BundlePart{ Filename: bundlePartPath(bid, storagePath), FragmentOffset: bid.FragmentOffset, TotalDataLength: bid.TotalDataLength, }",
    "bi.Parts = append(bi.Parts, bp)",
    "return"] := by rfl

theorem gen_descriptorBundle : Dtn7.Gen.C15.descriptorBundle =
    ["if descriptor.bndl != nil",
    "  return descriptor.bndl, nil",
    "if bi, err := descriptor.store.QueryId(descriptor.Id.Scrub()); err != nil",
    "  return nil, err",
    "else if bndl, err := bi.Parts[0].Load(); err != nil",
    "  return nil, err",
    "else",
    "  descriptor.bndl = &bndl",
    "  return &bndl, nil"] := by rfl

/-- The fifth call site, in `localDelivery`: whatever else it is conditioned on, it reports
`DeliveredBundle`/`NoInformation` and sits under the bundle's delivery-request flag. -/
theorem gen_deliveryReport :
    Dtn7.Gen.C15.deliveryReportCall = "SendStatusReport(bp, bpv7.DeliveredBundle, bpv7.NoInformation)" ∧
    Dtn7.Gen.C15.deliveryReportFlagGuarded = true := ⟨rfl, rfl⟩

/-- Which variant of `localDelivery` the source has. `reportOnlyOnSuccess` is read from the source: does the
delivery report depend on `AgentManager.Deliver` having succeeded? In /repo it does (first disjunct), and
`report_justified_code` is the full statement. The second disjunct pins the skeleton of the variant without
that dependency (D16), the function the model with `reportOnlyOnSuccess = false` mirrors. -/
theorem gen_localDelivery :
    Dtn7.Gen.C15.reportOnlyOnSuccess = true ∨
    (Dtn7.Gen.C15.reportOnlyOnSuccess = false ∧
     Dtn7.Gen.C15.deliveryReportSite =
      ["localDelivery | if bp.MustBundle().PrimaryBlock.BundleControlFlags.Has(bpv7.StatusRequestDelivery) | SendStatusReport(bp, bpv7.DeliveredBundle, bpv7.NoInformation)"] ∧
     Dtn7.Gen.C15.localDelivery =
    ["if bp.MustBundle().IsAdministrativeRecord()",
      "  if !c.checkAdministrativeRecord(bp)",
      "    c.bundleDeletion(bp, bpv7.NoInformation)",
      "    return",
      "bp.AddConstraint(LocalEndpoint)",
      "_ = bp.Sync()",
      "if err := c.agentManager.Deliver(bp); err != nil",
      "if bp.MustBundle().PrimaryBlock.BundleControlFlags.Has(bpv7.StatusRequestDelivery)",
      "  c.SendStatusReport(bp, bpv7.DeliveredBundle, bpv7.NoInformation)",
      "bp.PurgeConstraints()",
      "_ = bp.Sync()"]) := by
  first
    | exact Or.inl rfl
    | exact Or.inr ⟨rfl, rfl, rfl⟩

/-- The configuration the source selects (`⟨true⟩` for /repo). -/
def codeCfg : Cfg := ⟨Dtn7.Gen.C15.reportOnlyOnSuccess⟩

/-! ## The property -/

/-- **Truthfulness, outcome by outcome** (`reportOnlyOnSuccess = true`, as in /repo): for every node, every subject
bundle (all flag words, fragments or not, any report-to, any receiver), every time and every
outcome, each report the node emits is an administrative record without request flags, addressed
to the subject's report-to endpoint, naming its exact ID, with a time exactly if requested, and
asserting exactly one status which happened *and* was requested. -/
theorem report_justified (n : Node) (s : Subject) (now : Nat) (o : Outcome) (r : Report)
    (hr : r ∈ processOutcome ⟨true⟩ n s now o) : ReportJustified s (eventsOf o) r :=
  Lemmas.report_justified_general ⟨true⟩ n s now o (Or.inl rfl) r hr

/-- The variant that reports whatever `Deliver` returned (`reportOnlyOnSuccess = false`, D16) satisfies the
statement for every outcome except "addressed to the node but no agent took the bundle" … -/
theorem report_justified_partial (n : Node) (s : Subject) (now : Nat) (o : Outcome) (r : Report)
    (ho : o ≠ .noAgent) (hr : r ∈ processOutcome ⟨false⟩ n s now o) :
    ReportJustified s (eventsOf o) r :=
  Lemmas.report_justified_general ⟨false⟩ n s now o (Or.inr ho) r hr

/-- A bundle from `dtn://src/` to `dtn://node/app`, delivery report requested, report-to
`dtn://rep/`; the node `dtn://node/` has no agent for `app`. -/
def witnessNode : Node := { id := .dtn [110] [] }
def witnessSubject : Subject :=
  { flags := fReqDelivery, source := .dtn [115] [], destination := .dtn [110] [97],
    reportTo := .dtn [114] [], time := 1, seq := 0 }
def witnessReport : Report :=
  { flags := fAdmin, source := .dtn [110] [], destination := .dtn [114] [], reportTo := .dtn [110] [],
    lifetime := 3600000, items := [⟨false, none⟩, ⟨false, none⟩, ⟨true, none⟩, ⟨false, none⟩],
    reason := 0, ref := ⟨.dtn [115] [], 1, 0, none⟩ }

/-- … and this is the witness that it fails there (D16): a "delivered" report although nothing was
delivered. -/
theorem report_justified_witness :
    witnessReport ∈ processOutcome ⟨false⟩ witnessNode witnessSubject 0 .noAgent ∧
    ¬ ReportJustified witnessSubject (eventsOf .noAgent) witnessReport := by
  refine ⟨by decide, fun h => ?_⟩
  have h1 := (Lemmas.fail_none_iff _ _ _).mpr h
  have h2 : reportJustifiedFail witnessSubject (eventsOf .noAgent) witnessReport =
      some "reported-delivered-did-not-happen" := by decide
  rw [h2] at h1
  cases h1

/-- The statement for whichever variant the extracted source has: full when the delivery report depends on
`Deliver`'s success (as in /repo), otherwise for all outcomes but `noAgent`. -/
theorem report_justified_code (n : Node) (s : Subject) (now : Nat) (o : Outcome) (r : Report)
    (hc : Dtn7.Gen.C15.reportOnlyOnSuccess = true ∨ o ≠ .noAgent)
    (hr : r ∈ processOutcome codeCfg n s now o) : ReportJustified s (eventsOf o) r :=
  Lemmas.report_justified_general codeCfg n s now o hc r hr

/-- **Truthfulness along whole flows** (`receive` with its unknown blocks then dispatching,
`SendBundle`, a retry from the store): every report of the flow is justified by the events of that
flow. -/
theorem flow_report_justified (n : Node) (s : Subject) (now : Nat) (fl : Flow) (r : Report)
    (hr : r ∈ flowReports ⟨true⟩ n s now fl) : ReportJustified s (flowEvents s fl) r :=
  Lemmas.flow_justified ⟨true⟩ n s now fl (Or.inl rfl) r hr

theorem flow_report_justified_partial (n : Node) (s : Subject) (now : Nat) (fl : Flow) (r : Report)
    (hno : Outcome.noAgent ∉ flowOutcomes s fl)
    (hr : r ∈ flowReports ⟨false⟩ n s now fl) : ReportJustified s (flowEvents s fl) r :=
  Lemmas.flow_justified ⟨false⟩ n s now fl (Or.inr hno) r hr

/-- **No report about an administrative record** — whatever happens to it, in either variant. -/
theorem no_report_about_admin (cfg : Cfg) (n : Node) (s : Subject) (now : Nat) (fl : Flow)
    (h : s.admin = true) : flowReports cfg n s now fl = [] :=
  Lemmas.flow_no_report_about_admin cfg n s now fl h

/-- **No report about a bundle whose report-to endpoint is this node** (node ID, an application
agent's endpoint, a convergence layer's endpoint). -/
theorem no_report_to_self (cfg : Cfg) (n : Node) (s : Subject) (now : Nat) (fl : Flow)
    (h : n.hasEndpoint s.reportTo = true) : flowReports cfg n s now fl = [] := by
  simp only [flowReports, List.flatMap_eq_nil_iff]
  intro o _
  exact Lemmas.no_report_to_self cfg n s now o h

/-- **Every report is an administrative record without request flags**: its flag word is exactly
the administrative-record bit. -/
theorem report_has_no_request_flags (cfg : Cfg) (h : List Step) (r : Report)
    (hr : r ∈ runHistory cfg h) :
    r.flags = fAdmin ∧ has r.flags fAdmin = true ∧ has r.flags fReqAll = false := by
  have := Lemmas.mem_runHistory_flags hr
  rw [this]; decide

/-- **No cascade, counting form** (induction over the history): along any history of any nodes
processing any subjects — including reports emitted earlier — the number of reports is bounded by
the number of events that concern non-administrative subjects (at most two per event: an unknown
block may ask for a reception report and for the bundle's deletion). -/
theorem no_cascade (cfg : Cfg) (h : List Step) :
    (runHistory cfg h).length ≤ 2 * nonAdminEvents h :=
  Lemmas.no_cascade cfg h

/-- **No cascade, one report per event**: with `reportOnlyOnSuccess = true` the number of reports
of any history is at most the number of events (received, unsupported block, forwarded, delivered,
deleted) that happened to non-administrative subjects … -/
theorem no_cascade_events (h : List Step) :
    (runHistory ⟨true⟩ h).length ≤ nonAdminEventCount h :=
  Lemmas.no_cascade_events ⟨true⟩ h (Or.inl rfl)

/-- … and with `reportOnlyOnSuccess = false` as long as no flow of the history ends in "no agent took the
bundle" (D16: there a report is emitted although no event happened). -/
theorem no_cascade_events_partial (h : List Step)
    (hno : ∀ e ∈ h, Outcome.noAgent ∉ flowOutcomes e.subject e.flow) :
    (runHistory ⟨false⟩ h).length ≤ nonAdminEventCount h :=
  Lemmas.no_cascade_events ⟨false⟩ h (Or.inr hno)

theorem no_cascade_events_witness :
    ¬ (runHistory ⟨false⟩ [⟨witnessNode, witnessSubject, 0, .submit .noAgent⟩]).length ≤
      nonAdminEventCount [⟨witnessNode, witnessSubject, 0, .submit .noAgent⟩] := by decide

/-- **No cascade, re-entry form**: a report emitted anywhere in a history, re-entering any node
(with any timestamp, extra blocks and receiver) along any flow, produces no report. -/
theorem report_reentry_silent (cfg : Cfg) (h : List Step) (r : Report) (hr : r ∈ runHistory cfg h)
    (n : Node) (time seq : Nat) (blocks : List Nat) (receiver : Eid) (now : Nat) (fl : Flow) :
    flowReports cfg n (r.asSubject time seq blocks receiver) now fl = [] := by
  apply Lemmas.flow_no_report_about_admin
  simp [Subject.admin, Report.asSubject, Lemmas.mem_runHistory_flags hr]
  decide

/-- Hence a history in which only administrative records circulate is silent. -/
theorem no_cascade_closed (cfg : Cfg) (h : List Step) (hadm : ∀ e ∈ h, e.subject.admin = true) :
    runHistory cfg h = [] := by
  simp only [runHistory, List.flatMap_eq_nil_iff]
  intro e he
  exact Lemmas.flow_no_report_about_admin cfg e.node e.subject e.now e.flow (hadm e he)

/-- **The reference is the exact ID**, fragment offset and total length included. -/
theorem ref_is_exact_id (cfg : Cfg) (n : Node) (s : Subject) (now : Nat) (fl : Flow) (r : Report)
    (hr : r ∈ flowReports cfg n s now fl) :
    r.ref = s.id ∧ (s.isFragment = true → r.ref.frag = some (s.fragOffset, s.totalLen)) ∧
    (s.isFragment = false → r.ref.frag = none) := by
  obtain ⟨p, reason, _, _, hs⟩ := Lemmas.mem_flowReports_ssr hr
  have hid := (Lemmas.ssr_some hs).2.2.2.2.2.2.2.2.1
  refine ⟨hid, ?_, ?_⟩ <;> intro hf <;> simp [hid, Subject.id, hf]

/-- **Also on the retry-from-store path**: `checkPendingBundles` rebuilds the descriptor from the
store's index, which keeps the ID without fragment offset and total length; a report about a
fragment nevertheless names the fragment (the reference is taken from the stored bundle itself),
so it differs from the descriptor's ID. -/
theorem ref_from_stored_bundle (cfg : Cfg) (n : Node) (s : Subject) (now : Nat) (d : Outcome)
    (r : Report) (hf : s.isFragment = true) (hr : r ∈ flowReports cfg n s now (.retry d)) :
    r.ref = s.id ∧ r.ref.frag = some (s.fragOffset, s.totalLen) ∧
    r.ref ≠ descriptorId s (.retry d) := by
  obtain ⟨hid, hfr, _⟩ := ref_is_exact_id cfg n s now (.retry d) r hr
  refine ⟨hid, hfr hf, fun h => ?_⟩
  have := congrArg BundleId.frag h
  rw [hfr hf] at this
  simp [descriptorId, storedId] at this

/-- **A time is reported exactly if requested**: an item carries a time iff it is the asserted one
and the subject has the request-time flag; and then it is the time of the report. -/
theorem time_iff_requested (cfg : Cfg) (n : Node) (s : Subject) (now : Nat) (fl : Flow) (r : Report)
    (hr : r ∈ flowReports cfg n s now fl) :
    ∀ it ∈ r.items, (it.time.isSome = true ↔ (it.asserted = true ∧ s.reqTime = true)) ∧
      (it.time.isSome = true → it.time = some now) := by
  obtain ⟨p, reason, _, _, hs⟩ := Lemmas.mem_flowReports_ssr hr
  have hi := (Lemmas.ssr_some hs).2.2.2.2.2.2.1
  intro it hit
  rw [hi] at hit
  simp only [newItems, List.mem_cons, List.mem_nil_iff, or_false] at hit
  cases hrt : s.reqTime <;> rcases hit with rfl | rfl | rfl | rfl <;>
    simp [newItem, hrt] <;> split <;> simp

/-- **Addressing**: destination = the subject's report-to; the source is the node ID or the
registered endpoint the bundle was received on; lifetime 60 minutes. -/
theorem report_addressing (cfg : Cfg) (n : Node) (s : Subject) (now : Nat) (fl : Flow) (r : Report)
    (hr : r ∈ flowReports cfg n s now fl) :
    r.destination = s.reportTo ∧ r.lifetime = 3600000 ∧
    (r.source = n.id ∨ (r.source = s.receiver ∧ n.hasEndpoint s.receiver = true)) := by
  obtain ⟨p, reason, _, _, hs⟩ := Lemmas.mem_flowReports_ssr hr
  have h := Lemmas.ssr_some hs
  exact ⟨h.2.2.2.1, h.2.2.2.2.2.1, h.2.2.2.2.2.2.2.2.2⟩

/-- **On the wire**: the payload of every report — `[1, [items, reason, source, [time, seq]
(, offset, total)]]`, 4 or 6 elements depending on the fragment flag — is read back by a receiver
(`ReadAdministrativeRecord` / `StatusReport.UnmarshalCbor`) as exactly the record that was written,
every byte consumed; in particular the receiver obtains the subject's exact ID, fragment offset and
total length included. (All numbers below 2^64, the subject's source an endpoint the codec
accepts.) -/
theorem wire_exact_id (cfg : Cfg) (n : Node) (s : Subject) (now : Nat) (fl : Flow) (r : Report)
    (hr : r ∈ flowReports cfg n s now fl)
    (hsrc : s.source.wf) (hnow : u64 now) (ht : u64 s.time) (hq : u64 s.seq)
    (hfo : u64 s.fragOffset) (hft : u64 s.totalLen) :
    decAdminRecord (encAdminRecord r.record) = .ok (r.record, []) ∧ r.record.ref = s.id := by
  obtain ⟨p, reason, _, hreason, hs⟩ := Lemmas.mem_flowReports_ssr hr
  have hw := Lemmas.record_wf_of_ssr hs hreason hsrc hnow ht hq hfo hft
  have := Lemmas.decAdminRecord_enc r.record [] hw
  simp only [List.append_nil] at this
  exact ⟨this, (Lemmas.ssr_some hs).2.2.2.2.2.2.2.2.1⟩

/-- The fragment flag decides between the 4- and the 6-element form. -/
theorem wire_length (rec : Record) :
    ∃ rest, encStatusReport rec = Dtn7.Cbor.encArray (if rec.ref.frag.isSome then 6 else 4) ++ rest := by
  refine ⟨(Dtn7.Cbor.encArray rec.items.length ++ encItems rec.items) ++
    Dtn7.Cbor.encUInt rec.reason ++ encBundleId rec.ref, ?_⟩
  simp only [encStatusReport, BundleId.len, List.append_assoc]
  split <;> rfl

/-- **Completeness of the model** (the converse direction, checked against the code by the
correspondence run, not part of the property statement): when the guards allow reporting, a status
that happened and was requested is asserted by a report of the flow. -/
theorem report_complete (cfg : Cfg) (n : Node) (s : Subject) (now : Nat) (fl : Flow) (p : Nat)
    (hw : fl.wellFormed = true) (ha : reportingAllowed n s = true)
    (hh : happened (flowEvents s fl) p = true) (hq : requested s (flowEvents s fl) p = true) :
    ∃ r ∈ flowReports cfg n s now fl, assertedPositions r = [p] := by
  have key : ∀ o q reason (c : Bool), o ∈ flowOutcomes s fl → q < 4 → c = true →
      (∀ r, r ∈ toList c (sendStatusReport n s q reason now) → r ∈ processOutcome cfg n s now o) →
      ∃ r ∈ flowReports cfg n s now fl, assertedPositions r = [q] := by
    intro o q reason c ho hq4 hc hsub
    obtain ⟨r, hr, hi⟩ := Lemmas.ssr_allowed n s q reason now ha
    exact ⟨r, Lemmas.mem_flowReports.mpr ⟨o, ho, hsub r (by simp [toList, hc, hr])⟩,
      Lemmas.assertedPositions_new _ q now hq4 r hi⟩
  unfold happened at hh
  split at hh
  · -- received
    simp only [List.contains_eq_mem, decide_eq_true_eq] at hh
    obtain ⟨o, ho, he⟩ := Lemmas.mem_flowEvents.mp hh
    have hk : o = .received ∨ ∃ f, o = .unknownBlock f := by
      cases o <;> simp [eventsOf] at he ⊢
    have hrec := Lemmas.received_mem_of_receive_side hw ho hk
    simp only [requested, Bool.or_eq_true, List.any_eq_true] at hq
    rcases hq with hq | ⟨e, hem, hwant⟩
    · exact key .received 0 rNoInformation _ hrec (by decide) hq (by intro r hr; exact hr)
    · obtain ⟨o', ho', he'⟩ := Lemmas.mem_flowEvents.mp hem
      cases e with
      | unsupportedBlock f =>
        have : o' = .unknownBlock f := by
          cases o' <;> simp [eventsOf] at he' ⊢
          · exact he'.symm
        subst this
        simp only [blockWantsReport] at hwant
        exact key (.unknownBlock f) 0 rBlockUnsupported _ ho' (by decide) hwant
          (by intro r hr; simp only [processOutcome, List.mem_append]; exact Or.inl hr)
      | _ => simp [blockWantsReport] at hwant
  · -- forwarded
    simp only [List.contains_eq_mem, decide_eq_true_eq] at hh
    obtain ⟨o, ho, he⟩ := Lemmas.mem_flowEvents.mp hh
    have : o = .forwarded := by cases o <;> simp [eventsOf] at he ⊢
    subst this
    exact key .forwarded 1 rNoInformation _ ho (by decide) hq (by intro r hr; exact hr)
  · -- delivered
    simp only [List.contains_eq_mem, decide_eq_true_eq] at hh
    obtain ⟨o, ho, he⟩ := Lemmas.mem_flowEvents.mp hh
    have : o = .deliveredAgent := by cases o <;> simp [eventsOf] at he ⊢
    subst this
    exact key .deliveredAgent 2 rNoInformation _ ho (by decide) hq (by intro r hr; exact hr)
  · -- deleted
    simp only [List.any_eq_true] at hh
    obtain ⟨e, hem, hdel⟩ := hh
    obtain ⟨o, ho, he⟩ := Lemmas.mem_flowEvents.mp hem
    simp only [requested] at hq
    cases o with
    | unknownBlock f =>
      cases hd : has f bfDelete
      · simp [eventsOf, hd] at he
        rcases he with rfl | rfl <;> simp [isDeleted] at hdel
      · exact key (.unknownBlock f) 3 rBlockUnsupported _ ho (by decide) hq
          (by intro r hr; simp only [processOutcome, List.mem_append, hd, if_true, bundleDeletion]
              exact Or.inr hr)
    | lifetimeExpired =>
      exact key .lifetimeExpired 3 rLifetimeExpired _ ho (by decide) hq (by intro r hr; exact hr)
    | hopExceeded =>
      exact key .hopExceeded 3 rHopLimitExceeded _ ho (by decide) hq (by intro r hr; exact hr)
    | foreignSource =>
      exact key .foreignSource 3 rNoInformation _ ho (by decide) hq (by intro r hr; exact hr)
    | received => simp [eventsOf] at he; subst he; simp [isDeleted] at hdel
    | deliveredAgent => simp [eventsOf] at he; subst he; simp [isDeleted] at hdel
    | forwarded => simp [eventsOf] at he; subst he; simp [isDeleted] at hdel
    | noAgent => simp [eventsOf] at he
    | allFailed => simp [eventsOf] at he
    | notDispatched => simp [eventsOf] at he
  · cases hh

/-- The executable Spec the driver evaluates on the implementation's reports is the Spec the
theorems conclude. -/
theorem spec_executable (s : Subject) (evs : List Event) (r : Report) :
    reportJustifiedFail s evs r = none ↔ ReportJustified s evs r :=
  Lemmas.fail_none_iff s evs r

/-! ## Non-vacuity: concrete instances -/

/-- A fragment with all four request flags and the time flag, two unknown blocks (the last one asks
for a report, the first one for deletion), received at `dtn://node/`. -/
def exSubject : Subject :=
  { flags := fIsFragment ||| fReqTime ||| fReqAll, source := .dtn [115] [], destination := .dtn [100] [],
    reportTo := .dtn [114] [], time := 7, seq := 3, fragOffset := 10, totalLen := 100,
    blocks := [bfDelete, bfReport] }

example : flowOutcomes exSubject (.receive .forwarded) =
    [.received, .unknownBlock bfReport, .unknownBlock bfDelete] := by decide
example : (flowReports ⟨true⟩ witnessNode exSubject 5 (.receive .forwarded)).map
    (fun r => (assertedPositions r, r.reason, r.ref.frag, r.items.map (·.time))) =
    [([0], 0, some (10, 100), [some 5, none, none, none]),
     ([0], 11, some (10, 100), [some 5, none, none, none]),
     ([3], 11, some (10, 100), [none, none, none, some 5])] := by decide
example : (flowReports ⟨true⟩ witnessNode { exSubject with blocks := [] } 5 (.receive .forwarded)).map
    assertedPositions = [[0], [1]] := by decide
example : flowReports ⟨true⟩ witnessNode { exSubject with flags := exSubject.flags ||| fAdmin } 5
    (.receive .forwarded) = [] := by decide
example : flowReports ⟨true⟩ witnessNode { exSubject with reportTo := .dtn [110] [120] } 5
    (.receive .forwarded) = [] := by decide
example : (flowReports ⟨false⟩ witnessNode witnessSubject 0 (.receive .noAgent)).length = 1 := by decide
example : flowReports ⟨true⟩ witnessNode witnessSubject 0 (.receive .noAgent) = [] := by decide
example : reportingAllowed witnessNode exSubject = true := by decide
example : (Flow.receive .forwarded).wellFormed = true := by decide
example : (match decAdminRecord (encAdminRecord witnessReport.record) with
    | .ok (rec, rest) => rec == witnessReport.record && rest == []
    | .error _ => false) = true := by decide
example : (flowReports ⟨true⟩ witnessNode exSubject 5 (.receive .forwarded)).map
    (fun r => (encAdminRecord r.record).length) = [27, 27, 27] := by decide
example : exSubject.source.wf := ⟨by decide, by decide, by decide, by decide⟩
example : happened (flowEvents exSubject (.receive .forwarded)) 0 = true ∧
    requested exSubject (flowEvents exSubject (.receive .forwarded)) 0 = true ∧
    happened (flowEvents exSubject (.receive .forwarded)) 3 = true := by decide
example : (runHistory ⟨false⟩ [⟨witnessNode, exSubject, 5, .receive .forwarded⟩]).length = 3 := by decide
example : ∀ e ∈ [(⟨witnessNode, { exSubject with flags := fAdmin }, 5, .receive .forwarded⟩ : Step)],
    e.subject.admin = true := by decide
example : (Outcome.forwarded ≠ .noAgent) := by decide
example : Outcome.noAgent ∉ flowOutcomes exSubject (.receive .forwarded) := by decide
example : (flowReports ⟨true⟩ witnessNode exSubject 5 (.retry .forwarded)).map (·.ref.frag) =
    [some (10, 100)] ∧ (descriptorId exSubject (.retry .forwarded)).frag = none := by decide
example : nonAdminEventCount [⟨witnessNode, exSubject, 5, .receive .forwarded⟩] = 6 := by decide
example : nonAdminEvents [⟨witnessNode, exSubject, 5, .receive .forwarded⟩] = 3 := by decide

end Dtn7.Props.C15
