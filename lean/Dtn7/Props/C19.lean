/-
C19 — PRoPHET predictabilities stay probabilities and gate forwarding.
The property theorems; the lemmas behind them are in `Dtn7.Lemmas.{Prophet,ProphetRat,ProphetF64,F64,SchedRW}`.

Every arithmetic theorem exists twice: `…_exact` on exact rationals and (unsuffixed) on the binary64
ROUNDING model (`fadd/fsub/fmul = rne ∘ exact`, values = integers in units of 2^-1074), which the
correspondence run compares bit for bit with Go's float64.
-/
import Dtn7.Lemmas.ProphetRat
import Dtn7.Lemmas.ProphetF64
import Dtn7.Lemmas.SchedRW
import Dtn7.Gen.C19
import Mathlib.Tactic.NormNum

namespace Dtn7.Props.C19
open Dtn7 Dtn7.Prophet Dtn7.Lemmas.Prophet

/-! ## Facts regenerated from the Go source (extract/c19.go) -/

theorem gen_no_extraction_failures : Gen.C19.extractionFailures = [] := rfl

/-- The arithmetic of `encounter`, `agePred`, `transitivity` in the source: operands and operation
ORDER (reverse Polish, see `Dtn7.Prophet.evalRpn`), the configuration constant used, where `pOld`
and `peerPred` are read from. -/
theorem gen_arithmetic :
    Gen.C19.encounterRpn = [1, 0, 1, 11, 2, 12, 10] ∧ Gen.C19.encounterConst = "PInit" ∧
    Gen.C19.encounterPOld = "prophet.predictabilities[peer]" ∧
    Gen.C19.ageRpn = [1, 2, 12] ∧ Gen.C19.ageConst = "Gamma" ∧
    Gen.C19.agePOld = "prophet.predictabilities[peer]" ∧
    Gen.C19.transRpn = [1, 0, 1, 11, 3, 12, 4, 12, 2, 12, 10] ∧ Gen.C19.transConst = "Beta" ∧
    Gen.C19.transPOld = "prophet.predictabilities[otherPeer]" ∧
    Gen.C19.transPeerPred = "prophet.predictabilities[peer]" := by and_intros <;> rfl

/-- The model's formulas ARE the source's expressions (for every number type). -/
theorem encounter_expr_is_model {α : Type} (o : Ops α) (pOld c a b : α) :
    evalRpn o pOld c a b Gen.C19.encounterRpn [] = some (encounterVal o c pOld) := rfl
theorem age_expr_is_model {α : Type} (o : Ops α) (pOld c a b : α) :
    evalRpn o pOld c a b Gen.C19.ageRpn [] = some (ageVal o c pOld) := rfl
theorem trans_expr_is_model {α : Type} (o : Ops α) (pOld c a b : α) :
    evalRpn o pOld c a b Gen.C19.transRpn [] = some (transVal o c pOld a b) := rfl

/-- The bodies of the four small functions, statement by statement (logging removed). -/
theorem gen_skeletons :
    Gen.C19.encounterSkeleton =
      ["pOld := prophet.predictabilities[peer]",
       "pNew := pOld + ((1 - pOld) * prophet.config.PInit)",
       "prophet.predictabilities[peer] = pNew"] ∧
    Gen.C19.ageSkeleton =
      ["pOld := prophet.predictabilities[peer]",
       "pNew := pOld * prophet.config.Gamma",
       "prophet.predictabilities[peer] = pNew"] ∧
    Gen.C19.ageCronSkeleton =
      ["prophet.dataMutex.Lock()", "defer prophet.dataMutex.Unlock()",
       "for peer := range prophet.predictabilities", "  prophet.agePred(peer)"] ∧
    Gen.C19.transSkeleton =
      ["peerPredictabilities, present := prophet.peerPredictabilities[peer]",
       "if !present", "  return",
       "for otherPeer, otherPeerPred := range peerPredictabilities",
       "  peerPred := prophet.predictabilities[peer]",
       "  pOld := prophet.predictabilities[otherPeer]",
       "  pNew := pOld + ((1 - pOld) * peerPred * otherPeerPred * prophet.config.Beta)",
       "  prophet.predictabilities[otherPeer] = pNew"] := by and_intros <;> rfl

/-- `SenderForBundle`: the strict comparison and its operands; metadata bundles return `nil, true`
before the loop; `NotifyNewBundle` imports a vector only behind the "addressed to me" guard. -/
theorem gen_forwarding :
    Gen.C19.forwardCond = "peerPred > ownPred" ∧
    Gen.C19.forwardPeerPred = "prophet.peerPredictabilities[peerID][destination]" ∧
    Gen.C19.forwardOwnPred = "prophet.predictabilities[destination]" ∧
    Gen.C19.metadataReturnsNilTrue = true ∧
    Gen.C19.importGuard = "bp.MustBundle().PrimaryBlock.Destination != prophet.c.NodeId" ∧
    Gen.C19.prophetBlockType = 194 := by and_intros <;> rfl

/-- The documented default constants (cmd/dtnd/configuration.toml) are binary64 values in [0,1]. -/
theorem gen_defaults :
    Gen.C19.default_pinit = "0.75" ∧ Gen.C19.default_beta = "0.25" ∧ Gen.C19.default_gamma = "0.98" ∧
    (F64.ofBits Gen.C19.default_pinit_bits).map inUnit = some true ∧
    (F64.ofBits Gen.C19.default_beta_bits).map inUnit = some true ∧
    (F64.ofBits Gen.C19.default_gamma_bits).map inUnit = some true := by
  decide +kernel

/-! ### the lock table (F4) -/

/-- The entry points of `*Prophet` (methods not called by other methods of the type). -/
theorem gen_entry_methods :
    Gen.C19.entryMethods = ["DispatchingAllowed", "NotifyNewBundle", "ReportFailure",
      "ReportPeerAppeared", "ReportPeerDisappeared", "SenderForBundle", "ageCron"] := rfl

/-- The structured walk met no lock operation it could not follow (no Lock/Unlock inside a branch
that continues, no double acquisition, no unbalanced method). -/
theorem gen_lock_walk_clean : Gen.C19.lockWalkProblems = [] := rfl

/-- Every access to `predictabilities` / `peerPredictabilities`, with the state of `dataMutex`. -/
theorem gen_lock_table :
    Gen.C19.lockTable =
     [("NotifyNewBundle", "NotifyNewBundle", "peerPredictabilities", "read", "W"),
      ("NotifyNewBundle", "NotifyNewBundle", "peerPredictabilities", "write", "W"),
      ("NotifyNewBundle", "transitivity", "peerPredictabilities", "read", "W"),
      ("NotifyNewBundle", "transitivity", "predictabilities", "read", "W"),
      ("NotifyNewBundle", "transitivity", "predictabilities", "read", "W"),
      ("NotifyNewBundle", "transitivity", "predictabilities", "write", "W"),
      ("ReportPeerAppeared", "encounter", "predictabilities", "read", "W"),
      ("ReportPeerAppeared", "encounter", "predictabilities", "write", "W"),
      ("ReportPeerAppeared", "sendMetadata", "predictabilities", "read", "R"),
      ("ReportPeerAppeared", "sendMetadata", "predictabilities", "range", "R"),
      ("SenderForBundle", "SenderForBundle", "peerPredictabilities", "read", "R"),
      ("SenderForBundle", "SenderForBundle", "predictabilities", "read", "R"),
      ("ageCron", "ageCron", "predictabilities", "range", "W"),
      ("ageCron", "agePred", "predictabilities", "read", "W"),
      ("ageCron", "agePred", "predictabilities", "write", "W")] := rfl

/-- No unprotected entry: writes under W, reads under R or W, the maps are never handed out. -/
theorem gen_all_protected :
    ∀ a ∈ Gen.C19.lockTable,
      a.2.2.2.1 ≠ "escape" ∧ a.2.2.2.2 ≠ "none" ∧ (a.2.2.2.1 = "write" → a.2.2.2.2 = "W") := by decide

/-- The shapes of the entry methods, decoded from the extractor's trace codes. -/
def prophetMethods : List (List (SchedRW.Item Nat)) :=
  Gen.C19.traces.map fun t => SchedRW.decodeMethod t.2

theorem gen_trace_codes_known : ∀ t ∈ Gen.C19.traces, SchedRW.codesKnown t.2 = true := by decide

/-- Premise of `Lemmas.SchedRW.methods_race_free` for both maps (0 = predictabilities,
1 = peerPredictabilities): every entry method's shape, decoded from `Gen.C19.traces`, obeys the lock
discipline and is balanced. -/
theorem gen_methods_disciplined :
    ∀ ℓ ∈ [0, 1], ∀ m ∈ prophetMethods, SchedRW.shapeEnd ℓ .none m = some .none := by decide

/-- The tree before the `fix:` commit for D28 does NOT satisfy that premise. In the trace codes of
`SchedRW.decodeMethod` (1 = RLock, 2 = Lock, 3 = Unlock, 10+m / 20+m = read / write of map m, 30+m = map m
handed out) the first list is "Lock, read and write map 0, Unlock, RLock, hand out map 0, Unlock"
(`sendMetadata` gave the own map to the metadata block, which reads it after the release), the second
"read map 1, read map 0" with no lock at all (`SenderForBundle`). -/
theorem d28_witness :
    let before : List (List Nat) := [[2, 10, 20, 3, 1, 30, 3], [11, 10]]
    ¬ (∀ ℓ ∈ [0, 1], ∀ c ∈ before, SchedRW.shapeEnd ℓ .none (SchedRW.decodeMethod c) = some .none) := by
  decide

/-! ## Concurrency -/

/-- **No concurrent map access.** Let any number of goroutines each run any sequence of calls of
`*Prophet`'s entry methods (peer appeared ‖ metadata received ‖ ageing ‖ SenderForBundle ‖ …, every
path through their branches and loops). Then in no state reachable under any feasible schedule of
the RW-mutex semantics is a write to one of the two maps about to happen together with another
access to the same map — the situation in which Go's runtime aborts with "concurrent map read and
map write". Follows from the extracted method traces (`Gen.C19.traces`, through `prophetMethods` and
`gen_methods_disciplined`) by `Lemmas.SchedRW.methods_race_free`; the access table `gen_lock_table` /
`gen_all_protected` records the same discipline entry by entry for the reader and the checks, and is not a
premise of this theorem. -/
theorem no_concurrent_map_access (progs : List (List (SchedRW.Step Nat)))
    (hp : ∀ p ∈ progs, SchedRW.ProgOf prophetMethods p) (σ : List Nat) (s' : SchedRW.State Nat)
    (h : SchedRW.exec (SchedRW.init progs) σ = some s') :
    ¬ SchedRW.Racy 0 s' ∧ ¬ SchedRW.Racy 1 s' :=
  ⟨Lemmas.SchedRW.methods_race_free 0 prophetMethods
      (gen_methods_disciplined 0 (by decide)) progs hp σ s' h,
   Lemmas.SchedRW.methods_race_free 1 prophetMethods
      (gen_methods_disciplined 1 (by decide)) progs hp σ s' h⟩

/-- The generic theorem it instantiates. -/
theorem protected_imp_race_free {L : Type} [DecidableEq L] (ℓ : L)
    (progs : List (List (SchedRW.Step L)))
    (hp : ∀ p ∈ progs, (SchedRW.wlEnd ℓ .none p).isSome = true) (σ : List Nat)
    (s' : SchedRW.State L) (h : SchedRW.exec (SchedRW.init progs) σ = some s') :
    ¬ SchedRW.Racy ℓ s' :=
  Lemmas.SchedRW.protected_imp_race_free ℓ progs hp σ s' h

/-- Without the discipline the semantics does exhibit the race: an unlocked reader (the old
`SenderForBundle`) next to `ageCron`. -/
theorem race_semantics_witness :
    ∃ s', SchedRW.exec (SchedRW.init [[.read 0], [.acqW, .write 0, .rel]]) [1] = some s' ∧
      SchedRW.Racy (0 : Nat) s' :=
  ⟨_, rfl, 1, 0, .write 0, .read 0, by decide, rfl, rfl, rfl, rfl⟩

/-! ## Range and monotonicity — exact rationals -/

/-- `0 ≤ v ≤ 1` -/
abbrev ProbQ := Lemmas.Prophet.ProbQ

/-- **Range invariant (exact).** Constants in [0,1], all received values in [0,1], a start state
within [0,1] (e.g. the empty one) ⇒ after every event sequence every held value is in [0,1]. -/
theorem range_inv_exact {κ : Type} [DecidableEq κ] (cfg : Cfg Rat) (hc : CfgDom ProbQ cfg)
    (evs : List (Ev κ Rat)) (hev : ∀ ev ∈ evs, EvDom ProbQ ev) (st : St κ Rat) (hs : StDom ProbQ st) :
    ∀ kv ∈ (run ratOps cfg st evs).own, 0 ≤ kv.2 ∧ kv.2 ≤ 1 :=
  (run_dom ratLaws cfg hc evs hev st hs).1

theorem encounter_mono_exact {κ : Type} [DecidableEq κ] (cfg : Cfg Rat) (hc : CfgDom ProbQ cfg)
    (st : St κ Rat) (hs : StDom ProbQ st) (peer k : κ) :
    mget 0 st.own k ≤ mget 0 (encounter ratOps cfg st peer).own k :=
  encounter_le ratLaws cfg hc st hs peer k

theorem ageing_antitone_exact {κ : Type} [DecidableEq κ] (cfg : Cfg Rat) (hc : CfgDom ProbQ cfg)
    (st : St κ Rat) (hs : StDom ProbQ st) (k : κ) :
    mget 0 (ageAll ratOps cfg st).own k ≤ mget 0 st.own k :=
  ageAll_le ratLaws cfg hc st hs k

theorem transitive_mono_exact {κ : Type} [DecidableEq κ] (cfg : Cfg Rat) (hc : CfgDom ProbQ cfg)
    (st : St κ Rat) (hs : StDom ProbQ st) (toMe : Bool) (peer : κ) (vec : List (κ × Rat))
    (hv : MapDom ProbQ vec) (k : κ) :
    mget 0 st.own k ≤ mget 0 (receiveVec ratOps cfg st toMe peer vec).own k :=
  receiveVec_le ratLaws cfg hc st hs toMe peer vec hv k

/-! ## The three facts about the concrete `rne` (unit 2^-1074, `x` extra fraction bits) -/

theorem rne_monotone (x : Nat) {k1 k2 : Nat} (h : k1 ≤ k2) : F64.rneNat x k1 ≤ F64.rneNat x k2 :=
  Lemmas.F64.rneNat_mono x h

theorem rne_exact_on_doubles (x f : Nat) (hf : F64.IsF64 f) : F64.rneNat x (f * 2 ^ x) = f :=
  Lemmas.F64.rneNat_exact x f hf

theorem rne_result_is_double (x k : Nat) : F64.IsF64 (F64.rneNat x k) := Lemmas.F64.rneNat_isF64 x k

/-- `p + rne((1 − p) · …)` rounds to at most 1: whatever `t ≤ rne(1 − p)` is added to `p ≤ 1`. -/
theorem rne_add_one_sub_le_one (p t : Nat) (hp : p ≤ 2 ^ 1074)
    (ht : t ≤ F64.rneNat 0 (2 ^ 1074 - p)) : F64.rneNat 0 (p + t) ≤ 2 ^ 1074 :=
  Lemmas.F64.add_one_sub_le_one p t hp ht

/-- The bound behind it is tight: 1 + 2⁻⁵³ still rounds to 1 (tie to even), one unit more does not. -/
theorem rne_tie_at_one :
    F64.rneNat 0 (2 ^ 1074 + 2 ^ 1021) = 2 ^ 1074 ∧
    F64.rneNat 0 (2 ^ 1074 + 2 ^ 1021 + 1) = 2 ^ 1074 + 2 ^ 1022 := by
  have e3 := Lemmas.F64.two_pow_1022
  have h1 : (1 : Nat) < 2 ^ 1021 := Nat.one_lt_two_pow (by decide)
  constructor
  · rw [Lemmas.F64.rneNat_tie_one]
  · rw [Lemmas.F64.rneNat_of_binade (q := 2 ^ 52) (r := 2 ^ 1021 + 1)
      (Lemmas.F64.shiftOf_near_one (by omega) (by omega)) (by rw [← Lemmas.F64.two_pow_1074]; omega)
      (by omega), if_pos (.inl (by omega)), Nat.add_mul, ← Lemmas.F64.two_pow_1074, Nat.one_mul]

/-! ## Range and monotonicity — binary64 rounding model -/

/-- `v` (units of 2^-1074) is a binary64 value in [0,1]. -/
abbrev ProbF := Lemmas.Prophet.ProbF

theorem probF_iff (v : Int) : ProbF v ↔ 0 ≤ v ∧ v ≤ F64.one ∧ F64.IsF64 v.toNat := by
  rw [Lemmas.F64.one_eq]
  constructor
  · rintro ⟨n, rfl, h1, h2⟩
    exact ⟨by omega, by omega, by simpa using h2⟩
  · rintro ⟨h0, h1, h2⟩
    exact ⟨v.toNat, by omega, by omega, h2⟩

/-- **Range invariant (binary64).** Constants and received values binary64 numbers in [0,1], start
state within [0,1] ⇒ after EVERY event sequence (encounters, ageing ticks, received vectors in any
iteration order) every held value is in [0,1] — rounding never pushes a value out. -/
theorem range_inv {κ : Type} [DecidableEq κ] (cfg : Cfg Int) (hc : CfgDom ProbF cfg)
    (evs : List (Ev κ Int)) (hev : ∀ ev ∈ evs, EvDom ProbF ev) (st : St κ Int) (hs : StDom ProbF st) :
    ∀ kv ∈ (run f64Ops cfg st evs).own, 0 ≤ kv.2 ∧ kv.2 ≤ F64.one := by
  intro kv hkv
  have := (probF_iff kv.2).1 ((run_dom f64Laws cfg hc evs hev st hs).1 kv hkv)
  exact ⟨this.1, this.2.1⟩

/-- In particular from the empty tables a fresh node starts with. -/
theorem range_inv_from_start {κ : Type} [DecidableEq κ] (cfg : Cfg Int) (hc : CfgDom ProbF cfg)
    (evs : List (Ev κ Int)) (hev : ∀ ev ∈ evs, EvDom ProbF ev) :
    allInUnit (run f64Ops cfg ({} : St κ Int) evs).own = true := by
  have h0 : StDom ProbF ({} : St κ Int) :=
    ⟨fun _ h => absurd h List.not_mem_nil, fun _ h => absurd h List.not_mem_nil⟩
  have h := range_inv cfg hc evs hev {} h0
  simp only [allInUnit, List.all_eq_true, inUnit, Bool.and_eq_true, decide_eq_true_eq]
  exact h

/-- **An encounter never lowers a value** (any key). -/
theorem encounter_mono {κ : Type} [DecidableEq κ] (cfg : Cfg Int) (hc : CfgDom ProbF cfg)
    (st : St κ Int) (hs : StDom ProbF st) (peer k : κ) :
    mget 0 st.own k ≤ mget 0 (encounter f64Ops cfg st peer).own k :=
  encounter_le f64Laws cfg hc st hs peer k

/-- **Ageing never raises a value.** -/
theorem ageing_antitone {κ : Type} [DecidableEq κ] (cfg : Cfg Int) (hc : CfgDom ProbF cfg)
    (st : St κ Int) (hs : StDom ProbF st) (k : κ) :
    mget 0 (ageAll f64Ops cfg st).own k ≤ mget 0 st.own k :=
  ageAll_le f64Laws cfg hc st hs k

/-- **The transitive update never lowers a value**, whatever the iteration order of the vector. -/
theorem transitive_mono {κ : Type} [DecidableEq κ] (cfg : Cfg Int) (hc : CfgDom ProbF cfg)
    (st : St κ Int) (hs : StDom ProbF st) (toMe : Bool) (peer : κ) (vec : List (κ × Int))
    (hv : MapDom ProbF vec) (k : κ) :
    mget 0 st.own k ≤ mget 0 (receiveVec f64Ops cfg st toMe peer vec).own k :=
  receiveVec_le f64Laws cfg hc st hs toMe peer vec hv k

/-- A vector addressed to another node changes nothing. -/
theorem foreign_vector_ignored {κ α : Type} [DecidableEq κ] (o : Ops α) (cfg : Cfg α) (st : St κ α)
    (peer : κ) (vec : List (κ × α)) : receiveVec o cfg st false peer vec = st := rfl

/-! ## The forwarding decision -/

/-- **Forwarding rule.** A peer returned by `SenderForBundle` (any number type) is connected, was
not in the sent list, the bundle is no metadata bundle, and `own < peerPred` held. -/
theorem forward_rule {κ α : Type} [DecidableEq κ] (o : Ops α) (st : St κ α) (isMeta : Bool) (dest : κ)
    (conn sent : List κ) (p : κ) (h : p ∈ (senderForBundle o st isMeta dest conn sent).1) :
    isMeta = false ∧ p ∈ conn ∧
      o.lt (mget o.zero st.own dest) (peerPred o st p dest) = true ∧ p ∉ sent :=
  senderForBundle_mem o st isMeta dest conn sent p h

/-- On binary64: strictly greater. -/
theorem forward_rule_strict {κ : Type} [DecidableEq κ] (st : St κ Int) (isMeta : Bool) (dest : κ)
    (conn sent : List κ) (p : κ) (h : p ∈ (senderForBundle f64Ops st isMeta dest conn sent).1) :
    mget 0 st.own dest < peerPred f64Ops st p dest ∧ p ∉ sent := by
  have := forward_rule f64Ops st isMeta dest conn sent p h
  exact ⟨by simpa [f64Ops] using this.2.2.1, this.2.2.2⟩

/-- Ties are excluded … -/
theorem forward_excludes_ties {κ : Type} [DecidableEq κ] (st : St κ Int) (isMeta : Bool) (dest : κ)
    (conn sent : List κ) (p : κ) (heq : peerPred f64Ops st p dest = mget 0 st.own dest) :
    p ∉ (senderForBundle f64Ops st isMeta dest conn sent).1 := by
  intro h
  have := (forward_rule_strict st isMeta dest conn sent p h).1
  omega

/-- … and so are peers whose vector is unknown (their predictability reads as 0). -/
theorem forward_excludes_unknown_peers {κ : Type} [DecidableEq κ] (st : St κ Int) (isMeta : Bool)
    (dest : κ) (conn sent : List κ) (p : κ) (hun : lookupVec st.peers p = none)
    (hown : 0 ≤ mget 0 st.own dest) :
    p ∉ (senderForBundle f64Ops st isMeta dest conn sent).1 := by
  intro h
  have := (forward_rule_strict st isMeta dest conn sent p h).1
  simp only [peerPred, hun, f64Ops] at this
  omega

/-- **Metadata bundles are not forwarded by the rule** (and are flagged for deletion). -/
theorem metadata_not_forwarded {κ α : Type} [DecidableEq κ] (o : Ops α) (st : St κ α) (dest : κ)
    (conn sent : List κ) : senderForBundle o st true dest conn sent = ([], true) := by
  simp [senderForBundle]

/-- What `Core.forward` offers a bundle to: the destination node itself (direct delivery) or peers
admitted by the rule. -/
theorem forward_targets {κ : Type} [DecidableEq κ] (st : St κ Int) (isMeta : Bool) (dest : κ)
    (conn sent : List κ) (p : κ) (h : p ∈ forwardTargets f64Ops st isMeta dest conn sent) :
    p = dest ∨ (isMeta = false ∧ mget 0 st.own dest < peerPred f64Ops st p dest ∧ p ∉ sent) := by
  rcases forwardTargets_mem f64Ops st isMeta dest conn sent p h with h | h
  · exact Or.inl h
  · exact Or.inr ⟨h.1, by simpa [f64Ops] using h.2.2.1, h.2.2.2⟩

/-! ## Non-vacuity -/

/-- 0.75, 0.25 and 1 as binary64 values in [0,1]. -/
example : ProbF (3 * 2 ^ 1072) :=
  ⟨3 * 2 ^ 1072, by simp, by unfold Lemmas.F64.oneN; omega, 3, 1072, by decide, rfl⟩
example : CfgDom ProbF (⟨F64.one, F64.one, 0⟩ : Cfg Int) :=
  ⟨Lemmas.Prophet.probF_one, Lemmas.Prophet.probF_one, Lemmas.Prophet.probF_zero⟩
example : CfgDom ProbQ (⟨3/4, 1/4, 49/50⟩ : Cfg Rat) := by
  refine ⟨⟨?_, ?_⟩, ⟨?_, ?_⟩, ⟨?_, ?_⟩⟩ <;> norm_num
example : EvDom ProbF (Ev.receive true (1 : Nat) [(2, F64.one), (3, 0)]) := by
  intro kv h
  simp only [List.mem_cons, List.mem_nil_iff, or_false] at h
  rcases h with rfl | rfl
  · exact Lemmas.Prophet.probF_one
  · exact Lemmas.Prophet.probF_zero
/-- the exact model computes: first encounter = PInit, second = PInit + (1−PInit)·PInit -/
example : (run ratOps ⟨3/4, 1/4, 49/50⟩ ({} : St Nat Rat) [.encounter 7, .encounter 7, .age]).own
    = [(7, 147/160)] := by
  simp only [run, List.foldl, step, encounter, ageAll, mget, mset, encounterVal, ageVal, ratOps,
    if_true, List.map]
  norm_num
/-- the decision model chooses exactly the strictly better, not yet served peer -/
example : senderForBundle f64Ops (⟨[(9, 5)], [(1, [(9, 6)]), (2, [(9, 5)]), (3, [(9, 7)])]⟩ : St Nat Int)
    false 9 [1, 2, 3, 4] [3] = ([1], false) := by decide
/-- a feasible schedule of two disciplined threads -/
example : (SchedRW.exec (SchedRW.init [[.acqR, .read (0 : Nat), .rel], [.acqW, .write 0, .rel]])
    [0, 0, 0, 1, 1, 1]).isSome = true := by decide
/-- a real call sequence is a `ProgOf prophetMethods` -/
example : ∃ m, m ∈ prophetMethods ∧ SchedRW.Path m [.acqW, .read 0, .read 0, .write 0, .rel] := by
  refine ⟨[.op .acqW, .anyOf [.read 0, .read 0, .write 0], .op .rel], by decide, ?_⟩
  exact .op (.any (as' := [.read 0, .read 0, .write 0]) (p := [.rel]) (by decide) (.op .nil))

end Dtn7.Props.C19
