/-
C01 — bundle wire codec is lossless, deterministic and idempotent.
Property theorems only; helper lemmas live in `Dtn7.Lemmas.*`.
-/
import Dtn7.Model.Bundle
import Dtn7.Model.BundleSpec
import Dtn7.Model.ExpectedC01
import Dtn7.Gen.C01
import Dtn7.Lemmas.BundleTop

namespace Dtn7.Props.C01
open Dtn7.Cbor Dtn7.Eid Dtn7.Bundle

/-! ### Tie to the source: regenerated facts -/

theorem gen_no_extraction_failure : Dtn7.Gen.C01.extractionFailures = [] := rfl

/-- Type codes, CRC codes, scheme numbers, version, the fragment bit and cboring's framing bytes and
major types are the ones the model uses. -/
theorem gen_constants :
    Gen.C01.dtnVersion = dtnVersion ∧ Gen.C01.tPayload = tPayload ∧ Gen.C01.tPrevNode = tPrevNode ∧
    Gen.C01.tAge = tAge ∧ Gen.C01.tHop = tHop ∧ Gen.C01.tSpray = tSpray ∧ Gen.C01.tDtlsr = tDtlsr ∧
    Gen.C01.tProphet = tProphet ∧ Gen.C01.tSignature = tSignature ∧
    Gen.C01.crcNo = crcNo ∧ Gen.C01.crc16 = crc16T ∧ Gen.C01.crc32 = crc32T ∧
    Gen.C01.schemeDtn = schemeDtn ∧ Gen.C01.schemeIpn = schemeIpn ∧
    Gen.C01.isFragment = 2 ^ bIsFragment ∧
    Gen.C01.cbIndefiniteArray = indefiniteArray.toNat ∧ Gen.C01.cbBreakCode = breakCode.toNat ∧
    Gen.C01.cbUInt = majUInt * 32 ∧ Gen.C01.cbByteString = majBytes * 32 ∧
    Gen.C01.cbTextString = majText * 32 ∧ Gen.C01.cbArray = majArray * 32 ∧
    Gen.C01.cbMap = majMap * 32 ∧ Gen.C01.cbSimpleData = majSimple * 32 := by and_intros <;> rfl

/-- The model that applies is the strict one: the source contains the repairs of D5, D6, D7. -/
theorem gen_strict : Gen.C01.strict = true ∧ Gen.C01.fixD5 = true ∧ Gen.C01.fixD6 = true ∧ Gen.C01.fixD7 = true := by and_intros <;> rfl

/-- Parsing ends in `CheckValid`; both block parsers compare the computed with the received CRC. -/
theorem gen_guards :
    Gen.C01.unmarshalEndsInCheckValid = true ∧ Gen.C01.primaryCrcGuard = true ∧
    Gen.C01.canonicalCrcGuard = true := ⟨rfl, rfl, rfl⟩

/-- Package bpv7 registers exactly payload, previous node, bundle age, hop count by itself. -/
theorem gen_default_registered : Gen.C01.defaultRegistered = Expected.C01.defaultRegistered := rfl

/-- The functions the model mirrors still have the shape they had when it was written. -/
theorem gen_skeletons :
    Gen.C01.bundleMarshal = Expected.C01.bundleMarshal ∧
    Gen.C01.bundleUnmarshal = Expected.C01.bundleUnmarshal ∧
    Gen.C01.primaryMarshal = Expected.C01.primaryMarshal ∧
    Gen.C01.primaryUnmarshal = Expected.C01.primaryUnmarshal ∧
    Gen.C01.canonicalMarshal = Expected.C01.canonicalMarshal ∧
    Gen.C01.canonicalUnmarshal = Expected.C01.canonicalUnmarshal ∧
    Gen.C01.writeBlock = Expected.C01.writeBlock ∧
    Gen.C01.readBlock = Expected.C01.readBlock ∧
    Gen.C01.eidMarshal = Expected.C01.eidMarshal ∧
    Gen.C01.eidUnmarshal = Expected.C01.eidUnmarshal ∧
    Gen.C01.dtnUnmarshal = Expected.C01.dtnUnmarshal ∧
    Gen.C01.calculateCRCBuff = Expected.C01.calculateCRCBuff ∧
    Gen.C01.dtnMarshal = Expected.C01.dtnMarshal ∧
    Gen.C01.ipnMarshal = Expected.C01.ipnMarshal ∧
    Gen.C01.ipnUnmarshal = Expected.C01.ipnUnmarshal ∧
    Gen.C01.timestampMarshal = Expected.C01.timestampMarshal ∧
    Gen.C01.timestampUnmarshal = Expected.C01.timestampUnmarshal ∧
    Gen.C01.payloadMarshal = Expected.C01.payloadMarshal ∧
    Gen.C01.payloadUnmarshal = Expected.C01.payloadUnmarshal ∧
    Gen.C01.genericMarshal = Expected.C01.genericMarshal ∧
    Gen.C01.genericUnmarshal = Expected.C01.genericUnmarshal ∧
    Gen.C01.prevNodeMarshal = Expected.C01.prevNodeMarshal ∧
    Gen.C01.prevNodeUnmarshal = Expected.C01.prevNodeUnmarshal ∧
    Gen.C01.ageMarshal = Expected.C01.ageMarshal ∧
    Gen.C01.ageUnmarshal = Expected.C01.ageUnmarshal ∧
    Gen.C01.hopMarshal = Expected.C01.hopMarshal ∧
    Gen.C01.hopUnmarshal = Expected.C01.hopUnmarshal ∧
    Gen.C01.sprayMarshal = Expected.C01.sprayMarshal ∧
    Gen.C01.sprayUnmarshal = Expected.C01.sprayUnmarshal ∧
    Gen.C01.dtlsrMarshal = Expected.C01.dtlsrMarshal ∧
    Gen.C01.dtlsrUnmarshal = Expected.C01.dtlsrUnmarshal ∧
    Gen.C01.prophetMarshal = Expected.C01.prophetMarshal ∧
    Gen.C01.prophetUnmarshal = Expected.C01.prophetUnmarshal ∧
    Gen.C01.signatureMarshal = Expected.C01.signatureMarshal ∧
    Gen.C01.signatureUnmarshal = Expected.C01.signatureUnmarshal ∧
    Gen.C01.createBlock = Expected.C01.createBlock ∧
    Gen.C01.parseDtnSsp = Expected.C01.parseDtnSsp :=
  by and_intros <;> rfl

theorem gen_patterns : Gen.C01.dtnRegexpSsp = "//([\\w-._]+)/(.*)" ∧ Gen.C01.dtnNoneSsp = "none" := ⟨rfl, rfl⟩

/-! ### Theorems

`cfg.strict = true` selects the model of the code as it is (`gen_strict`); `cfg.extra` is any set of
additionally registered routing/signature block types; `now` any instant. -/

/-- **Lossless, with exact consumption** (first sentence of C01): for every encodable bundle that
passes `CheckValid`, `MarshalCbor` succeeds, and `ParseBundle` applied to those bytes followed by
arbitrary further bytes returns *the same* bundle — every primary field, and per block type, number,
flags, CRC type and content — and leaves exactly the bytes that followed. Map-valued blocks are entry
lists in the order Go happened to iterate; the statement holds for every order. -/
theorem parse_serialize (cfg : Cfg) (hs : cfg.strict = true) (now : Nat) (b : Bundle)
    (he : Encodable cfg b) (hv : checkValid cfg.strict now b = true) (rest : Bytes) :
    serialize b = .ok (serializeRaw b) ∧ parse cfg now (serializeRaw b ++ rest) = .ok (b, rest) :=
  Lemmas.parse_serialize cfg hs now b he hv rest

/-- **Deterministic**: the bytes are a function of the structure (every CRC is recomputed, nothing
else enters). -/
theorem serialize_deterministic (b : Bundle) (x y : Bytes) (hx : serialize b = .ok x)
    (hy : serialize b = .ok y) : x = y := by
  rw [hx] at hy; exact (Except.ok.inj hy)

/-- **Serialising the parsed result again yields the same bytes.** -/
theorem reserialise_same_bytes (cfg : Cfg) (hs : cfg.strict = true) (now : Nat) (b : Bundle)
    (he : Encodable cfg b) (hv : checkValid cfg.strict now b = true) (bs : Bytes)
    (hser : serialize b = .ok bs) (b' : Bundle) (r : Bytes) (hpar : parse cfg now bs = .ok (b', r)) :
    serialize b' = .ok bs := by
  rw [(Lemmas.parseRaw_of_serialize cfg b he bs hser b' r (Lemmas.parse_ok_iff.mp hpar).1).1]
  exact hser

/-- **Idempotent** (second sentence of C01): every byte string the parser accepts — whatever its
form: non-shortest heads, trailing bytes in a block value, a break code in place of a block item,
bytes after the bundle — decodes to an encodable bundle; that bundle re-serialises; and the new
bytes are accepted again at every instant at which the bundle is still valid, consumed entirely,
as the same bundle. This is the statement D5/D6/D7 falsify for `strict := false` (the witnesses below). -/
theorem accepted_reserialises (cfg : Cfg) (hs : cfg.strict = true) (now : Nat) (bs : Bytes)
    (b : Bundle) (r : Bytes) (h : parse cfg now bs = .ok (b, r)) :
    Encodable cfg b ∧ serialize b = .ok (serializeRaw b) ∧
    ∀ now', checkValid cfg.strict now' b = true → parse cfg now' (serializeRaw b) = .ok (b, []) :=
  Lemmas.accepted_reserialises cfg hs now bs b r h

/-- … in particular: same bundle ID, same blocks and payload, payload block last. -/
theorem accepted_reserialises_same (cfg : Cfg) (hs : cfg.strict = true) (now : Nat) (bs : Bytes)
    (b : Bundle) (r : Bytes) (h : parse cfg now bs = .ok (b, r)) :
    ∃ bs' b'', serialize b = .ok bs' ∧ parse cfg now bs' = .ok (b'', []) ∧
      b''.id = b.id ∧ b''.blocks = b.blocks ∧ b''.blocks.getLast?.map isPayload = some true := by
  obtain ⟨_, h2, h3⟩ := Lemmas.accepted_reserialises cfg hs now bs b r h
  have hv := (Lemmas.parse_ok_iff.mp h).2
  exact ⟨serializeRaw b, b, h2, h3 now hv, rfl, rfl, (Lemmas.checkValid_sound _ _ _ hv).payloadLast⟩

/-! Component round trips (bottom-up), each with exact consumption. -/

theorem eid_roundtrip (e : Eid) (hc : e.Canonical) (hb : e.Bounded) (rest : Bytes) :
    decEid (encEidRaw e ++ rest) = .ok (e, rest) :=
  Eid.Lemmas.decEid_encEidRaw e hc hb rest

theorem timestamp_roundtrip (t s : Nat) (ht : t < 2 ^ 64) (hs : s < 2 ^ 64) (rest : Bytes) :
    decTimestamp (encTimestamp t s ++ rest) = .ok ((t, s), rest) :=
  Lemmas.decTimestamp_enc t s ht hs rest

theorem primary_roundtrip (strict : Bool) (p : Primary) (hp : Primary.Enc p) (rest : Bytes) :
    decPrimary strict (encPrimaryRaw p ++ rest) = .ok (p, rest) :=
  Lemmas.decPrimary_enc strict p hp rest

theorem block_value_roundtrip (cfg : Cfg) (v : BlockValue) (hv : BlockValue.Enc cfg v) :
    decValue cfg v.typeCode (encValueInner v) = .ok v :=
  Lemmas.decValue_encValueInner cfg v hv

theorem canonical_roundtrip (cfg : Cfg) (c : Canonical) (hc : Canonical.Enc cfg c) (rest : Bytes) :
    decCanon cfg (encCanonRaw c ++ rest) = .block c rest :=
  Lemmas.decCanon_enc cfg c hc rest

/-- The parser's output is always in the normal form the serialiser writes (why idempotence holds). -/
theorem parsed_is_encodable (cfg : Cfg) (hs : cfg.strict = true) (bs : Bytes) (b : Bundle) (r : Bytes)
    (h : parseRaw cfg bs = .ok (b, r)) : Encodable cfg b :=
  Lemmas.parseRaw_inv hs h

/-- The bound on the number of loop iterations in the model of `Bundle.UnmarshalCbor` (`fuel`) is
not a restriction: any amount above the input length gives the same result. -/
theorem block_loop_fuel_irrelevant (cfg : Cfg) (f1 f2 : Nat) (bs : Bytes) (h1 : bs.length < f1)
    (h2 : bs.length < f2) : decBlocks cfg f1 bs = decBlocks cfg f2 bs := by
  induction f1 generalizing f2 bs with
  | zero => omega
  | succ f1 ih =>
    cases f2 with
    | zero => omega
    | succ f2 =>
      simp only [decBlocks]
      cases hc : decCanon cfg bs with
      | brk r => rfl
      | err e => rfl
      | block c r =>
        have hl := (Lemmas.decCanon_block hc).2
        simp only
        rw [ih f2 r (by omega) (by omega)]

/-! ### Without the checks of D5, D6, D7: `accepted_reserialises` fails (one witness each)

`strict := false` is the model of the parser without the three `fix:` commits. -/

def wNow : Nat := 800000000000
def wPrimary : Primary := ⟨7, 0, 0, .ipn 2 1, .ipn 1 1, .ipn 1 1, 799999990000, 0, 3600000, 0, 0⟩
def wPay : Canonical := ⟨1, 0, 0, .payload [1, 2, 3]⟩
def lax : Cfg := { extra := [], strict := false }

/-- D5: an 8-element primary block announcing CRC type 3 — accepted, cannot be written again. -/
def d5Bytes : Bytes := (serializeRaw ⟨wPrimary, [wPay]⟩).set 4 3

theorem d5_witness :
    (parse lax wNow d5Bytes).toOption = some (⟨{ wPrimary with crcT := 3 }, [wPay]⟩, []) ∧
    (serialize ⟨{ wPrimary with crcT := 3 }, [wPay]⟩).toOption = none ∧
    (parse {} wNow d5Bytes).toOption = none := by decide +kernel

/-- D7: a 10-element primary block without the fragment flag — accepted with offset 5 / total 9 in
the bundle ID, which the re-serialised bytes no longer carry. -/
def d7Bytes : Bytes := (serializeRaw ⟨{ wPrimary with flags := 1, fragOff := 5, total := 9 }, [wPay]⟩).set 3 0

def d7Bundle : Bundle := ⟨{ wPrimary with fragOff := 5, total := 9 }, [wPay]⟩

theorem d7_witness :
    (parse lax wNow d7Bytes).toOption = some (d7Bundle, []) ∧
    ((parse lax wNow (serializeRaw d7Bundle)).toOption.map (fun x => x.1.id)) =
      some (Bundle.id ⟨wPrimary, [wPay]⟩) ∧
    Bundle.id ⟨wPrimary, [wPay]⟩ ≠ d7Bundle.id ∧
    (parse {} wNow d7Bytes).toOption = none :=
  ⟨by decide +kernel, by decide +kernel, by decide +kernel, by decide +kernel⟩

/-- D6: with the DTLSR block type registered, a peer `ipn:0.0` inside the block — accepted,
`MarshalCbor` refuses the endpoint. -/
def d6Bundle : Bundle := ⟨wPrimary, [⟨2, 0, 0, .dtlsr (.ipn 1 1) 7 [(.ipn 0 0, 3)]⟩, wPay]⟩

theorem d6_witness :
    (parse { extra := [tDtlsr], strict := false } wNow (serializeRaw d6Bundle)).toOption = some (d6Bundle, []) ∧
    (serialize d6Bundle).toOption = none ∧
    (parse { extra := [tDtlsr], strict := true } wNow (serializeRaw d6Bundle)).toOption = none := by
  decide +kernel

/-! ### Non-vacuity -/

/-- A fragment with an ipn source, CRC-16 primary block, previous node, hop count, bundle age, an
unknown block type and a CRC-32 payload: encodable, valid, and it makes the round trip. -/
def exBundle : Bundle :=
  ⟨⟨7, 1 + 2 ^ 17, 1, .dtn [110, 49] [97, 47, 98], .ipn 23 42, .none, 799999990000, 7, 3600000, 256, 70000⟩,
   [⟨2, 1, 2, .prevNode (.dtn [103, 119] [])⟩, ⟨3, 0, 1, .hop 30 30⟩, ⟨4, 16, 0, .age 65536⟩,
    ⟨9, 0, 2, .generic 4000000000 [1, 2, 3]⟩, ⟨1, 0, 2, .payload [104, 105]⟩]⟩

theorem example_hypotheses : Encodable {} exBundle ∧ checkValid true wNow exBundle = true := by
  decide +kernel

theorem example_roundtrip :
    (parse {} wNow (serializeRaw exBundle ++ [1, 2])).toOption = some (exBundle, [1, 2]) := by
  decide +kernel

/-- … and one with all four routing/signature blocks registered, two-entry maps. -/
def exRouting : Bundle :=
  ⟨wPrimary,
   [⟨2, 0, 1, .spray 8⟩, ⟨3, 0, 2, .dtlsr (.ipn 1 1) 5 [(.ipn 2 1, 9), (.dtn [97] [], 70000)]⟩,
    ⟨4, 0, 0, .prophet [(.ipn 3 1, 4602678819172646912), (.none, 0)]⟩, wPay]⟩

theorem example_routing :
    Encodable { extra := [192, 193, 194] } exRouting ∧
    (parse { extra := [192, 193, 194] } wNow (serializeRaw exRouting)).toOption = some (exRouting, []) := by
  decide +kernel

end Dtn7.Props.C01
