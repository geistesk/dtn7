/-
C09 — fragmentation respects the size limit and is exactly invertible.
The property theorems; the lemmas behind them are in `Dtn7.Lemmas.Fragment`, `Dtn7.Lemmas.FragReasm`
and `Dtn7.Lemmas.FragmentBundle` (`pricing_holds` and `fragments_fit_mtu` are proved here from those).

The model (`Dtn7.Model.Fragment`) is abstract over serialised sizes. The sizes are tied to the
serialiser twice: on the harness' side, the hypotheses of `size_bound` are evaluated by the driver on
the numbers measured on every real bundle, and the model's fragment sizes are compared with those of
the fragments the real code returned; on the model's side, `Dtn7.Model.FragmentBundle` computes the
same numbers with the codec model's encoders, and `pricing_holds` / `fragments_fit_mtu` discharge the
hypotheses of `size_bound` for every serialisable bundle of that model.
-/
import Dtn7.Model.Fragment
import Dtn7.Model.Reassemble
import Dtn7.Lemmas.Fragment
import Dtn7.Lemmas.FragReasm
import Dtn7.Model.FragmentBundle
import Dtn7.Lemmas.FragmentBundle
import Dtn7.Gen.C09

namespace Dtn7.Props.C09
open Dtn7.Frag

/-! ### Facts regenerated from the source on every run -/

theorem gen_extraction_complete : Dtn7.Gen.C09.extractionFailures = [] := rfl

/-- Flag bits, block type codes, the CRC type the estimate prices with, `cborOverhead`. -/
theorem gen_constants :
    Dtn7.Gen.C09.flagIsFragment = flagIsFragment ∧ Dtn7.Gen.C09.flagMustNotFragment = flagMustNotFragment ∧
    Dtn7.Gen.C09.flagReplicate = flagReplicate ∧ Dtn7.Gen.C09.typeBundleAge = typeBundleAge ∧
    Dtn7.Gen.C09.typePayload = 1 ∧ Dtn7.Gen.C09.crc32 = 2 ∧ Dtn7.Gen.C09.cborOverhead = cborOverhead := by and_intros <;> rfl

/-- The variant of the code the theorems speak about (`Cfg.fixed`): the fits-test precedes the estimate
and replaces the single-fragment shortcut (D1), offsets are absolute (D2), blocks are not renumbered (D4). -/
theorem gen_code_variant :
    Dtn7.Gen.C09.precheck = Cfg.fixed.precheck ∧ Dtn7.Gen.C09.mustNotFragmentFirst = true ∧
    Dtn7.Gen.C09.fragmentPrimaryBlockArgs = ["b.PrimaryBlock, fragmentOffset + i, totalDataLength"] ∧
    Dtn7.Gen.C09.fragmentRenumbers = false ∧ Dtn7.Gen.C09.reassembleRenumbers = false := by and_intros <;> rfl

/-- Every guard of `Bundle.Fragment`, in source order (comparison operators included). -/
theorem gen_fragment_guards : Dtn7.Gen.C09.fragmentConds =
    ["if b.PrimaryBlock.BundleControlFlags.Has(MustNotFragmented)",
     "if err = b.MarshalCbor(buff); err != nil",
     "if buff.Len() <= mtu",
     "if payloadBlock, err = b.PayloadBlock(); err != nil",
     "if b.PrimaryBlock.HasFragmentation()",
     "if extFirstOverhead, extOtherOverhead, err = fragmentExtensionBlocksLen(b, mtu); err != nil",
     "for i := 0; i < payloadBlockLen;",
     "if fragPrimaryBlock, primaryOverhead, err = fragmentPrimaryBlock(b.PrimaryBlock, fragmentOffset+i, totalDataLength); err != nil",
     "if i == 0",
     "if overhead >= mtu",
     "range b.CanonicalBlocks",
     "if cb.TypeCode() == ExtBlockTypePayloadBlock",
     "if i > 0 && !cb.BlockControlFlags.Has(ReplicateBlock)",
     "if err = fragBundle.CheckValid(); err != nil",
     "if len(bs) == 0"] := rfl

/-- The arithmetic of the loop: overhead, capacity, step. -/
theorem gen_fragment_arith :
    Dtn7.Gen.C09.fragmentOverhead =
      ["overhead := cborOverhead + primaryOverhead", "overhead += extFirstOverhead", "overhead += extOtherOverhead"] ∧
    Dtn7.Gen.C09.fragmentCapacity = ["fragPayloadBlockLen := mtu - overhead"] ∧
    Dtn7.Gen.C09.fragmentLoopStep = ["i := 0", "i += fragPayloadBlockLen"] := ⟨rfl, rfl, rfl⟩

/-- `fragmentExtensionBlocksLen`: guards, the byte-string head priced for `mtu`, the two sums. -/
theorem gen_extlen :
    Dtn7.Gen.C09.extLenConds =
      ["range b.CanonicalBlocks", "if cb.TypeCode() == ExtBlockTypePayloadBlock",
       "if err = cb.MarshalCbor(buff); err != nil", "if cb.BlockControlFlags.Has(ReplicateBlock)",
       "if cb.TypeCode() == ExtBlockTypePayloadBlock",
       "if err = cboring.WriteByteStringLen(uint64(mtu), buff); err != nil"] ∧
    Dtn7.Gen.C09.extLenHeadArg = ["uint64(mtu), buff"] ∧
    Dtn7.Gen.C09.extLenFirst = ["first += cbLen", "first += buff.Len() - 1"] ∧
    Dtn7.Gen.C09.extLenOthers = ["others += cbLen", "others += cbLen + buff.Len() - 1"] ∧
    Dtn7.Gen.C09.extLenCrc = ["nil"] := by and_intros <;> rfl

/-! ### Property theorems (`Cfg.fixed`: the variant of /repo, `gen_code_variant`) -/

/-- **Offsets partition the payload.** For every payload, every limit and every block mix — whatever the
per-fragment capacities turn out to be — the fragments' (offset, length) pairs tile
`[base, base + |payload|)` in order without gap or overlap, where `base` is 0 or, for an input that is
itself a fragment, that fragment's offset. (Holds for both variants of the code.) -/
theorem fragment_offsets_partition (c : Cfg) (x : In) (fs : List Frag) (h : fragment c x = .frags fs) :
    partitions (base c x) (base c x + x.payload.length) (fs.map fun f => (f.off, f.data.length)) = true := by
  have := Lemmas.loop_partition c x _ _ _ _ _ (Lemmas.fragment_frags c x fs h) (by omega)
  simpa using this

/-- **Size bound.** If no extension block serialises longer than the estimate prices it (the estimate
uses CRC-32 for every block) and the same holds for the empty payload block, every fragment serialises
to at most `mtu` bytes. `Lemmas.headLen_mono` carries the byte-string head: the chunk is shorter than
`mtu`, so its head is not wider than the head priced for `mtu`. -/
theorem size_bound (c : Cfg) (x : In) (fs : List Frag)
    (hblk : ∀ b ∈ x.blocks, b.actual ≤ b.priced) (hpl : x.pl.actual0 ≤ x.pl.priced)
    (h : fragment c x = .frags fs) : ∀ f ∈ fs, fragSize x f ≤ x.mtu := by
  intro f hf
  obtain ⟨j, _, _, hov, _, rfl⟩ := Lemmas.loop_mem c x _ _ _ _ _ (Lemmas.fragment_frags c x fs h) f hf
  exact Lemmas.fragSize_le c x j hblk hpl hov

/-- A bundle returned as itself does fit. -/
theorem self_fits (x : In) (h : fragment Cfg.fixed x = .self) : x.size ≤ x.mtu :=
  Lemmas.fragment_self_fits _ rfl x h

/-- **Never an empty list** (D1). -/
theorem never_empty (x : In) : fragment Cfg.fixed x ≠ .frags [] :=
  fun h => (Lemmas.fragment_frags_inv h).2 rfl rfl

/-- **A bundle that already fits is returned as itself** — also with an empty payload (D1). -/
theorem fits_returns_self (x : In) (hm : x.mustNotFragment = false) (hfit : x.size ≤ x.mtu) :
    fragment Cfg.fixed x = .self :=
  Lemmas.fragment_of_fits _ rfl x hm hfit

/-- **A must-not-fragment bundle is refused.** -/
theorem must_not_fragment_refused (c : Cfg) (x : In) (hm : x.mustNotFragment = true) :
    fragment c x = .error .mustNotFragment := by
  simp [fragment, hm]

/-- **What the Spec demands of the fragments**, for the model's fragments written as observations
(`Frag.obs`: the record the Spec `FragmentsOk` and the classifier `fragmentsFail` speak about, which the
driver fills from the implementation's output): size ≤ mtu, fragment flag, total, offsets, blocks of the
first and of every fragment, payload slices. `Frag.obs` sets `valid`, `identOk` and `blocksOk` to `true`
(the loop has tested `fragValid`; fields and blocks are copied), so those three clauses say nothing
about the model. Hypotheses: the pricing assumption of `size_bound` and one block per type
code (`Bundle.CheckValid`). -/
theorem fragment_ok (x : In) (fs : List Frag)
    (hblk : ∀ b ∈ x.blocks, b.actual ≤ b.priced) (hpl : x.pl.actual0 ≤ x.pl.priced)
    (hty : (x.blocks.map (·.type)).Nodup)
    (h : fragment Cfg.fixed x = .frags fs) :
    FragmentsOk x (base Cfg.fixed x) (tot Cfg.fixed x) (fs.map (Frag.obs x)) :=
  Lemmas.fragmentsOk_of_frags _ rfl x fs hblk hpl hty h

/-- The executable classifier the driver applies to the implementation's fragments accepts exactly the
lists that satisfy the Spec. -/
theorem spec_classifier_exact (x : In) (start total : Nat) (fs : List Obs) :
    fragmentsFail x start total fs = none ↔ FragmentsOk x start total fs :=
  Lemmas.fragmentsFail_none_iff x start total fs

/-- **Fragments of a fragment keep absolute offsets and the original total** (D2): if the input is the
fragment `[off, off + n)` of a payload `p` with total `|p|`, every fragment cut from it is a genuine
fragment of `p` (flag, total `|p|`, bytes = `p`'s slice at its own offset) inside `[off, off + n)`. -/
theorem refragment_absolute (x : In) (p : List UInt8) (fs : List Frag) (hfr : x.isFragment = true)
    (hp : x.payload = (p.drop x.off).take x.payload.length) (hin : x.off + x.payload.length ≤ p.length)
    (ht : x.total = p.length) (h : fragment Cfg.fixed x = .frags fs) :
    ∀ f ∈ fs, FragOf p f.toR ∧ x.off ≤ f.off ∧ f.off + f.data.length ≤ x.off + x.payload.length :=
  Lemmas.refragment_absolute _ rfl x p fs hfr hp hin ht h

/-- **Reassembly inverts fragmentation** (model level; the byte-identity of the re-serialised bundle is
judged by the driver on the real code's output): the fragments of an unfragmented bundle, in any order
(any arrangement sorted by offset that an unstable sort may produce), reassemble to the original payload
and extension blocks. -/
theorem reassemble_inverts (x : In) (fs : List Frag) (hnf : x.isFragment = false)
    (h : fragment Cfg.fixed x = .frags fs) (s : List RFrag) (hperm : s.Perm (fs.map Frag.toR))
    (hs : SortedOff s) : reassembleSorted true s = .ok x.payload (x.blocks.map (·.type)) :=
  Lemmas.fragment_reassemble _ x fs hnf h (fun e => never_empty x (e ▸ h)) s hperm hs

/-- … in particular with the model's own sort, for every permutation `π` of the fragments. -/
theorem reassemble_inverts_any_order (x : In) (fs : List Frag) (hnf : x.isFragment = false)
    (h : fragment Cfg.fixed x = .frags fs) (π : List RFrag) (hperm : π.Perm (fs.map Frag.toR)) :
    reassemble true π = .ok x.payload (x.blocks.map (·.type)) :=
  Lemmas.fragment_reassemble _ x fs hnf h (fun e => never_empty x (e ▸ h)) _ ((Lemmas.perm_sortOff π).trans hperm)
    (Lemmas.sorted_sortOff π)

/-! ### Composition with the bundle codec model: the size bound in real terms, without hypotheses

`inOf b mtu` is the abstract input of a real bundle: every number is computed with the codec model's own
encoders exactly as the Go code computes it (blocks re-encoded with CRC type 2, the payload block with
an empty payload, the fragment primary block, the serialised bundle). `realFragment` is the bundle the
loop of `Bundle.Fragment` assembles (`Bundle.fragmentOf`). -/

open Dtn7.Bundle in
/-- **The pricing hypotheses of `size_bound` hold for every bundle that can be serialised at all**
(CRC types 0, 1, 2): re-encoding a block with CRC-32 never shortens it — the CRC field grows from 0/3
to 5 bytes, everything else is unchanged — and the same for the payload block with an empty payload. -/
theorem pricing_holds (b : Bundle) (mtu : Nat) (hs : b.serializable = true) :
    (∀ k ∈ (inOf b mtu).blocks, k.actual ≤ k.priced) ∧ (inOf b mtu).pl.actual0 ≤ (inOf b mtu).pl.priced := by
  have hk : ∀ c ∈ b.blocks, crcKnown c.crcT = true := by
    intro c hc
    simp only [Bundle.serializable, Bool.and_eq_true, List.all_eq_true] at hs
    have := hs.2 c hc
    simp only [Canonical.serializable, Bool.and_eq_true] at this
    exact this.2
  constructor
  · intro k hkm
    rw [Lemmas.inOf_blocks] at hkm
    obtain ⟨c, hc, rfl⟩ := List.mem_map.mp hkm
    exact Lemmas.blkOf_actual_le_priced c (hk c (List.mem_filter.mp hc).1)
  · cases hp : payloadBlock? b with
    | none => simp [inOf, hp]
    | some p =>
      rw [Lemmas.inOf_pl b mtu p hp]
      exact Lemmas.pblkOf_actual0_le_priced p (hk p (List.mem_of_find?_eq_some hp))

open Dtn7.Bundle in
/-- **Every fragment fits, in real terms**: for every serialisable bundle `b` of the codec model and
every limit, if `Bundle.Fragment` (either variant of the code) returns fragments, each of them — the
real bundle with fragment primary block, the blocks carried and the payload slice — serialises with the
real encoders to at most `mtu` bytes. No pricing hypothesis is left: `fragSize` of the abstract model
is proved equal to the real serialised length (`Lemmas.fragSize_eq_real`). -/
theorem fragments_fit_mtu (c : Frag.Cfg) (b : Bundle) (mtu : Nat) (hs : b.serializable = true)
    (fs : List Frag) (h : fragment c (inOf b mtu) = .frags fs) :
    ∀ f ∈ fs, (serializeRaw (realFragment c b mtu f)).length ≤ mtu := by
  intro f hf
  obtain ⟨hblk, hpl⟩ := pricing_holds b mtu hs
  have hsz := size_bound c (inOf b mtu) fs hblk hpl h f hf
  have hloop := Lemmas.fragment_frags c _ fs h
  obtain ⟨j, _, hj, _, _, rfl⟩ := Lemmas.loop_mem c _ _ _ _ _ _ hloop f hf
  cases hp : payloadBlock? b with
  | none =>
    have : (inOf b mtu).payload = [] := by simp [inOf, hp]
    rw [this] at hj
    simp at hj
  | some p =>
    have he := Lemmas.fragSize_eq_real c b mtu j
      ((inOf b mtu).payload.drop j |>.take ((inOf b mtu).mtu - overheadAt c (inOf b mtu) (extLen (inOf b mtu)).1 (extLen (inOf b mtu)).2 j))
      p hp
    have hfirst : (base c (inOf b mtu) + j == base c (inOf b mtu)) = decide (j = 0) := by
      by_cases h0 : j = 0 <;> simp [h0]
    simp only [realFragment, hfirst]
    rw [← he]
    exact hsz

/-- **A bundle returned as itself fits, in real terms.** -/
theorem self_fits_real (b : Dtn7.Bundle.Bundle) (mtu : Nat) (h : fragment Cfg.fixed (inOf b mtu) = .self) :
    (Dtn7.Bundle.serializeRaw b).length ≤ mtu :=
  self_fits (inOf b mtu) h

/-- … and a serialisable bundle that fits and may be fragmented is returned as itself. -/
theorem fits_returns_self_real (b : Dtn7.Bundle.Bundle) (mtu : Nat) (bs : List UInt8)
    (hser : Dtn7.Bundle.serialize b = .ok bs) (hfit : bs.length ≤ mtu)
    (hm : (inOf b mtu).mustNotFragment = false) : fragment Cfg.fixed (inOf b mtu) = .self := by
  apply fits_returns_self _ hm
  unfold Dtn7.Bundle.serialize at hser
  split at hser
  · simp only [Except.ok.injEq] at hser
    subst hser
    exact hfit
  · simp at hser

/-- Non-vacuity: a real bundle (replicated hop count block without CRC, 12 payload bytes, CRC-32 on the primary and
payload block) that is cut into real fragments, each within the limit. -/
example :
    let b : Dtn7.Bundle.Bundle := ⟨⟨7, 0, 2, .ipn 2 1, .ipn 1 1, .ipn 1 1, 700000000000, 0, 3600000, 0, 0⟩,
      [⟨2, 1, 0, .hop 10 3⟩, ⟨1, 0, 2, .payload [1, 2, 3, 4, 5, 6, 7, 8, 9, 10, 11, 12]⟩]⟩
    (match fragment Cfg.fixed (inOf b 73) with
      | .frags fs => fs.map fun f => ((Dtn7.Bundle.serializeRaw (realFragment Cfg.fixed b 73 f)).length, f.off, f.data.length)
      | _ => []) = [(67, 0, 3), (67, 3, 3), (67, 6, 3), (67, 9, 3)] ∧
    b.serializable = true ∧ (Dtn7.Bundle.serializeRaw b).length = 74 := by decide +kernel

/-! ### `Cfg.old` (no fits-test, offsets relative to the input; not /repo's): witnesses of D1 and D2 -/

/-- A 70-byte bundle (10 payload bytes, no extension block) and the limit 70. -/
def wFits : In :=
  { mtu := 70, flags := 0, off := 0, total := 0, zeroTime := false, pbase := 52, size := 70,
    pl := ⟨false, 11, 6⟩, blocks := [], payload := [1, 2, 3, 4, 5, 6, 7, 8, 9, 10] }

/-- D1: without the fits-test the bundle is split into five fragments although it fits … -/
theorem old_fits_but_split_witness :
    (match fragment Cfg.old wFits with | .frags fs => fs.length | _ => 0) = 5 := by decide

/-- … `Cfg.fixed` returns it as itself. -/
example : fragment Cfg.fixed wFits = .self := by decide

/-- D1: an empty payload yields the empty list. -/
theorem old_empty_payload_witness : fragment Cfg.old { wFits with payload := [], size := 60 } = .frags [] := by
  decide

/-- D2: the fragment `[20, 30)` of a 50-byte payload, cut again, restarts at offset 0 with total 10. -/
theorem old_refragment_witness :
    (match fragment Cfg.old { wFits with flags := 1, off := 20, total := 50, mtu := 72, size := 80 } with
      | .frags (f :: _) => (f.off, f.total) | _ => (99, 99)) = (0, 10) := by decide

example : (match fragment Cfg.fixed { wFits with flags := 1, off := 20, total := 50, mtu := 72, size := 80 } with
      | .frags (f :: _) => (f.off, f.total) | _ => (99, 99)) = (20, 50) := by decide

/-! ### Non-vacuity: concrete instances of the hypotheses -/

/-- hop-count block (not replicated) and a replicated block, payload of 12 bytes, limit 84. -/
def wBlocks : In :=
  { mtu := 84, flags := 0, off := 0, total := 0, zeroTime := false, pbase := 35, size := 98,
    pl := ⟨false, 11, 9⟩, blocks := [⟨2, 7, true, 14, 12⟩, ⟨3, 10, false, 15, 15⟩],
    payload := [1, 2, 3, 4, 5, 6, 7, 8, 9, 10, 11, 12] }

example : (match fragment Cfg.fixed wBlocks with | .frags fs => fs.map (fun f => (f.off, f.data.length)) | _ => []) =
    [(0, 4), (4, 8)] := by decide
example : (∀ b ∈ wBlocks.blocks, b.actual ≤ b.priced) ∧ wBlocks.pl.actual0 ≤ wBlocks.pl.priced ∧
    (wBlocks.blocks.map (·.type)).Nodup := by decide
example : fragment Cfg.fixed { wBlocks with mtu := 98 } = .self := by decide
example : fragment Cfg.fixed { wBlocks with mtu := 60 } = .error .overhead := by decide
example : fragment Cfg.fixed { wBlocks with flags := 4 } = .error .mustNotFragment := by decide
example : fragment Cfg.fixed { wBlocks with payload := [], size := 86, mtu := 60 } = .error .emptyResult := by decide
/-- zero creation time and an age block that is not replicated: the second fragment is invalid. -/
example : fragment Cfg.fixed { wBlocks with zeroTime := true, blocks := [⟨2, 7, false, 14, 12⟩], size := 83, mtu := 70 } =
    .error .invalid := by decide

end Dtn7.Props.C09
