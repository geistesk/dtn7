/-
C17 — all auxiliary wire formats round-trip and stay aligned on a stream; endpoint URI text and
endpoint structure determine each other; invalid field values are rejected.

Property theorems only; helper lemmas live in `Dtn7.Lemmas.{Wire,TcpclMsgs,BbcFrag,Decimal,EidText,WireCbor}`.
Every round trip has the exact-consumption form `dec (enc v ++ rest) = ok (v, rest)` under an explicit,
decidable `Canonical v`; stream alignment follows generically (`stream_aligned`).
-/
import Dtn7.Model.TcpclMsgs
import Dtn7.Model.BbcFrag
import Dtn7.Model.EidText
import Dtn7.Model.WireCbor
import Dtn7.Lemmas.TcpclMsgs
import Dtn7.Lemmas.BbcFrag
import Dtn7.Lemmas.EidText
import Dtn7.Lemmas.WireCbor
import Dtn7.Gen.C17

namespace Dtn7.Props.C17
open Dtn7.Cbor (Bytes beBytes)
open Dtn7.Wire

/-! ## Facts regenerated from the source (a change of any of them breaks the named theorem) -/

theorem gen_extraction_complete : Dtn7.Gen.C17.extractionFailures = [] := rfl

section
open Dtn7.TcpclMsgs
/-- Message type codes and the dispatch table of `msgs.ReadMessage` (`messages` map keys). -/
theorem gen_tcpcl_type_codes :
    Dtn7.Gen.C17.sessInit = SESS_INIT ∧ Dtn7.Gen.C17.sessTerm = SESS_TERM ∧
    Dtn7.Gen.C17.xferSegment = XFER_SEGMENT ∧ Dtn7.Gen.C17.xferAck = XFER_ACK ∧
    Dtn7.Gen.C17.xferRefuse = XFER_REFUSE ∧ Dtn7.Gen.C17.keepalive = KEEPALIVE ∧
    Dtn7.Gen.C17.msgReject = MSG_REJECT ∧
    Dtn7.Gen.C17.dispatchCodes =
      [XFER_SEGMENT, XFER_ACK, XFER_REFUSE, KEEPALIVE, SESS_TERM, MSG_REJECT, SESS_INIT, CONTACT] := by decide

theorem gen_tcpcl_flags :
    Dtn7.Gen.C17.contactCanTls = 1 ∧ Dtn7.Gen.C17.terminationReply = 1 ∧
    Dtn7.Gen.C17.segmentEnd = 1 ∧ Dtn7.Gen.C17.segmentStart = 2 := by and_intros <;> rfl

/-- Magic "dtn!" and version 4. -/
theorem gen_contact_head : Dtn7.Gen.C17.contactHead = contactHead.map UInt8.toNat := rfl

/-- The reason-code sets read off the `IsValid` / `String` switches are the model's, and the three
`Unmarshal` methods do call `IsValid` (widening a switch or dropping a call breaks this theorem). -/
theorem gen_reason_codes :
    Dtn7.Gen.C17.termCodes = termCodes ∧ Dtn7.Gen.C17.refuseCodes = refuseCodes ∧
    Dtn7.Gen.C17.rejectCodes = rejectCodes ∧
    Dtn7.Gen.C17.refuseIsValid = ["return trc.String() != \"INVALID\""] ∧
    Dtn7.Gen.C17.sessTermChecksCode = true ∧ Dtn7.Gen.C17.xferRefuseChecksCode = true ∧
    Dtn7.Gen.C17.rejectChecksCode = true := by decide
end

/-- The bit layout of the BBC fragment header and the `% 16` of the sequence numbers. -/
theorem gen_bbc_header :
    Dtn7.Gen.C17.fragmentIdentifierSize = Dtn7.Bbc.fragmentIdentifierSize ∧
    Dtn7.Gen.C17.newFragment =
      ["var identifier byte = 0x00", "identifier |= (sequenceNo & 0x1F) << 3", "if start", "  identifier |= 0x04",
       "if end", "  identifier |= 0x02", "if fail", "  identifier |= 0x01",
       "return Fragment{ transmissionId: transmissionId, identifier: identifier, Payload: payload, }"] ∧
    Dtn7.Gen.C17.fragSequenceNumber = ["return f.identifier >> 3 & 0x1F"] ∧
    Dtn7.Gen.C17.fragStartBit = ["return f.identifier&0x04 != 0"] ∧
    Dtn7.Gen.C17.fragEndBit = ["return f.identifier&0x02 != 0"] ∧
    Dtn7.Gen.C17.fragFailBit = ["return f.identifier&0x01 != 0"] ∧
    Dtn7.Gen.C17.nextSequenceNumber = ["return (seq + 1) % 16"] := by and_intros <;> rfl

/-- The three regular expressions the hand-written recognisers stand for, the scheme numbers and names.
`ipnRegexp` admits no leading zeros (D30): it is the parser `parseUri true`, which the theorems below use. -/
theorem gen_eid_grammar :
    Dtn7.Gen.C17.uriRegexp = "^([[:alnum:]]+):.+$" ∧
    Dtn7.Gen.C17.dtnSspRegexpUsed = "^//([\\w-._]+)/(.*)$" ∧
    Dtn7.Gen.C17.dtnRegexpFull = "^dtn:(none|//([\\w-._]+)/(.*))$" ∧
    Dtn7.Gen.C17.ipnRegexp = "^ipn:(0|[1-9]\\d*)\\.(0|[1-9]\\d*)$" ∧
    Dtn7.Gen.C17.dtnSchemeName = "dtn" ∧ Dtn7.Gen.C17.ipnSchemeName = "ipn" ∧ Dtn7.Gen.C17.dtnNoneSsp = "none" ∧
    Dtn7.Gen.C17.dtnSchemeNo = 1 ∧ Dtn7.Gen.C17.ipnSchemeNo = 2 ∧
    Dtn7.Gen.C17.ipnCheckValid =
      ["if e.Node < 1 || e.Service < 1", "  return fmt.Errorf(\"ipn's node and Service number must be >= 1\")",
       "return nil"] := by and_intros <;> rfl

theorem gen_cbor_codes :
    Dtn7.Gen.C17.adminRecordStatusReport = Dtn7.WireCbor.adminStatusReport ∧
    Dtn7.Gen.C17.claTypes = Dtn7.WireCbor.claTypes ∧ Dtn7.Gen.C17.announcementChecksType = true ∧
    Dtn7.Gen.C17.claCheckValid =
      ["if claType.String() == unknownClaTypeString", "  err = errors.New(unknownClaTypeString)", "return"] ∧
    Dtn7.Gen.C17.wamCodes = [Dtn7.WireCbor.wamStatus, Dtn7.WireCbor.wamRegister, Dtn7.WireCbor.wamBundle,
      Dtn7.WireCbor.wamSyscallRequest, Dtn7.WireCbor.wamSyscallResponse] ∧
    Dtn7.Gen.C17.wamStatus = 0 ∧ Dtn7.Gen.C17.wamRegister = 1 ∧ Dtn7.Gen.C17.wamBundle = 2 ∧
    Dtn7.Gen.C17.wamSyscallRequest = 3 ∧ Dtn7.Gen.C17.wamSyscallResponse = 4 := by and_intros <;> rfl

/-- "time present ⇔ asserted ∧ requested" is what `BundleStatusItem.MarshalCbor` writes. -/
theorem gen_status_item :
    Dtn7.Gen.C17.statusItemMarshal =
      ["var arrLen uint64 = 1", "if bsi.Asserted && bsi.StatusRequested", "  arrLen = 2",
       "if err := cboring.WriteArrayLength(arrLen, w); err != nil", "  return err",
       "if err := cboring.WriteBoolean(bsi.Asserted, w); err != nil", "  return err", "if arrLen == 2",
       "  if err := cboring.WriteUInt(uint64(bsi.Time), w); err != nil", "    return err", "return nil"] := rfl

/-! ## Generic: exact consumption ⇒ stream alignment -/

/-- If a decoder consumes exactly the bytes its encoder wrote, then reading values until the stream is
exhausted returns exactly the values written, in order — for ANY format. The per-format instances follow. -/
theorem stream_aligned {α} (enc : α → Bytes) (dec : Bytes → Except Err (α × Bytes)) (C : α → Prop)
    (rt : ∀ v rest, C v → dec (enc v ++ rest) = .ok (v, rest)) (ne : ∀ v, C v → enc v ≠ [])
    (vs : List α) (hC : ∀ v ∈ vs, C v) : decMany dec (vs.flatMap enc) = .ok vs :=
  Dtn7.Wire.Lemmas.decManyFuel_flatMap enc dec C rt ne vs hC _ (Nat.le_refl _)

/-! ## TCPCLv4 contact header and messages -/
section
open Dtn7.TcpclMsgs

/-- **Round trip through `ReadMessage`** for every canonical value of all eight kinds, with the
unconsumed rest untouched. -/
theorem tcpcl_roundtrip (m : Msg) (rest : Bytes) (hc : Canonical m) :
    readMessage (enc m ++ rest) = .ok (m, rest) :=
  Lemmas.readMessage_enc m rest hc

/-- **Alignment**: any sequence of canonical messages written to one stream is read back identically. -/
theorem tcpcl_stream_aligned (ms : List Msg) (hc : ∀ m ∈ ms, Canonical m) :
    decMany readMessage (ms.flatMap enc) = .ok ms :=
  stream_aligned enc readMessage Canonical Lemmas.readMessage_enc (fun m _ => Lemmas.enc_ne_nil m) ms hc

/-- The enumerated reason codes of RFC 9174 as ranges (Spec side). -/
def specTerm (c : UInt8) : Bool := c.toNat ≤ 5
def specRefuse (c : UInt8) : Bool := c.toNat ≤ 6
def specReject (c : UInt8) : Bool := 1 ≤ c.toNat && c.toNat ≤ 3

/-- The model's code tables are exactly the enumerated codes — all 256 byte values. -/
theorem valid_tables_exact : ∀ b : BitVec 8,
    termValid (UInt8.ofBitVec b) = specTerm (UInt8.ofBitVec b) ∧
    refuseValid (UInt8.ofBitVec b) = specRefuse (UInt8.ofBitVec b) ∧
    rejectValid (UInt8.ofBitVec b) = specReject (UInt8.ofBitVec b) := by
  decide +kernel

/-- The code tables READ FROM THE SOURCE are exactly the enumerated codes — all 256 byte values. -/
theorem gen_reason_code_tables_exact : ∀ b : BitVec 8,
    Dtn7.Gen.C17.termCodes.contains (UInt8.ofBitVec b).toNat = specTerm (UInt8.ofBitVec b) ∧
    Dtn7.Gen.C17.refuseCodes.contains (UInt8.ofBitVec b).toNat = specRefuse (UInt8.ofBitVec b) ∧
    Dtn7.Gen.C17.rejectCodes.contains (UInt8.ofBitVec b).toNat = specReject (UInt8.ofBitVec b) := by
  intro b
  rw [gen_reason_codes.1, gen_reason_codes.2.1, gen_reason_codes.2.2.1]
  exact valid_tables_exact b

/-- **reason_codes_exact**: a SESS_TERM / XFER_REFUSE / MSG_REJECT is accepted iff its code byte is one of
the enumerated codes, whatever the other fields and whatever follows. -/
theorem reason_codes_exact_sess_term (f c : UInt8) (rest : Bytes) :
    accepts (readMessage (u8 SESS_TERM :: f :: c :: rest)) = specTerm c := by
  rw [Lemmas.sessTerm_accepts]; exact (valid_tables_exact c.toBitVec).1

theorem reason_codes_exact_xfer_refuse (c : UInt8) (tid : Nat) (rest : Bytes) :
    accepts (readMessage (u8 XFER_REFUSE :: c :: (beBytes 8 tid ++ rest))) = specRefuse c := by
  rw [Lemmas.xferRefuse_accepts]; exact (valid_tables_exact c.toBitVec).2.1

theorem reason_codes_exact_msg_reject (c h : UInt8) (rest : Bytes) :
    accepts (readMessage (u8 MSG_REJECT :: c :: h :: rest)) = specReject c := by
  rw [Lemmas.reject_accepts]; exact (valid_tables_exact c.toBitVec).2.2

/-- **magic / version**: of six available bytes the first five must be exactly "dtn!" 4 … -/
theorem contact_magic_version (d rest : Bytes) (hd : d.length = 6) :
    accepts (decContact (d ++ rest)) = decide (d.take 5 = [0x64, 0x74, 0x6E, 0x21, 0x04]) := by
  show _ = decide (d.take 5 = contactHead)
  unfold decContact
  rw [Dtn7.Wire.Lemmas.takeN_append' 6 d rest hd]
  by_cases h : d.take 5 = contactHead <;> simp [h, accepts]

/-- … and a type byte that is none of the eight registered ones is rejected. -/
theorem unknown_type_rejected (b : UInt8) (rest : Bytes)
    (h : ¬ [SESS_INIT, SESS_TERM, XFER_SEGMENT, XFER_ACK, XFER_REFUSE, KEEPALIVE, MSG_REJECT, CONTACT].contains b.toNat) :
    readMessage (b :: rest) = .error .unknownType := by
  simp only [List.contains_cons, List.contains_nil, Bool.or_false, Bool.or_eq_true, beq_iff_eq, not_or] at h
  obtain ⟨h1, h2, h3, h4, h5, h6, h7, h8⟩ := h
  simp only [readMessage, h1, h2, h3, h4, h5, h6, h7, h8, if_false]

/-- Why `Canonical` asks for a valid code: an invalid one is written by `Marshal` but never read back. -/
theorem tcpcl_noncanonical_witness : readMessage (enc (.sessTerm 0 6)) = .error .badCode := rfl

example : Canonical (.sessInit 65535 (2 ^ 64 - 1) 0 [1, 2, 3]) := by decide
example : Canonical (.xferSegment 3 7 []) := by decide
example : readMessage (enc (.xferRefuse 6 9) ++ [1, 2]) = .ok (.xferRefuse 6 9, [1, 2]) := by decide
end

/-! ## BBC fragment header -/
section
open Dtn7.Bbc

/-- Parsing the bytes of a fragment returns the fragment (a fragment is a datagram: the rest is payload). -/
theorem frag_roundtrip (f : Frag) : parseFrag f.bytes = .ok f := rfl

/-- **Header fields**, all 256 sequence-number arguments × 8 flag combinations × any id and payload:
the accessors return the number's low five bits (the number itself below 32 — the code only uses 0..15)
and exactly the three flags. -/
theorem frag_header_fields (tid seq : UInt8) (s e f : Bool) (p : Bytes) :
    let fr := mkFrag tid seq s e f p
    fr.tid = tid ∧ fr.seq = seq &&& 0x1F ∧ fr.start = s ∧ fr.fin = e ∧ fr.fail = f ∧ fr.payload = p := by
  have := Lemmas.ident_fields seq s e f
  exact ⟨rfl, this.1, this.2.1, this.2.2.1, this.2.2.2, rfl⟩

theorem frag_header_seq (tid seq : UInt8) (s e f : Bool) (p : Bytes) (h : seq.toNat < 32) :
    (mkFrag tid seq s e f p).seq = seq := by
  rw [(frag_header_fields tid seq s e f p).2.1]
  exact Lemmas.and_1F_of_lt seq.toBitVec h

/-- No identifier byte is ambiguous or unused: every byte is the header of the fragment it describes. -/
theorem frag_header_surjective (fr : Frag) : mkFrag fr.tid fr.seq fr.start fr.fin fr.fail fr.payload = fr := by
  cases fr with
  | mk t i p =>
    simp only [mkFrag, Frag.seq, Frag.start, Frag.fin, Frag.fail]
    rw [Lemmas.ident_surjective_bv i.toBitVec]

/-- Sequence numbers stay below 16 and advance by one modulo 16. -/
theorem next_seq_mod16 (s : UInt8) : (nextSeq s).toNat < 16 ∧ (nextSeq s).toNat = (s.toNat + 1) % 256 % 16 :=
  Lemmas.nextSeq_lt_bv s.toBitVec

/-! The header functions of the model ARE the code's: `Dtn7.Gen.C17.Go.*` is produced on every run by the
Go→Lean translator (`extract/golean.go`) from `pkg/cla/bbc/transmission_fragment.go`; the comparison runs
over all 256 identifier bytes / sequence numbers and all flag combinations (kernel `decide`). -/
theorem go_bbc_header_is_model :
    (∀ b : BitVec 8, ∀ s e f : Bool,
      (Dtn7.Gen.C17.Go.NewFragment 0 (UInt8.ofBitVec b) s e f).identifier = mkIdent (UInt8.ofBitVec b) s e f) ∧
    (∀ b : BitVec 8,
      Dtn7.Gen.C17.Go.Fragment.SequenceNumber ⟨0, UInt8.ofBitVec b⟩ = Frag.seq ⟨0, UInt8.ofBitVec b, []⟩ ∧
      Dtn7.Gen.C17.Go.Fragment.StartBit ⟨0, UInt8.ofBitVec b⟩ = Frag.start ⟨0, UInt8.ofBitVec b, []⟩ ∧
      Dtn7.Gen.C17.Go.Fragment.EndBit ⟨0, UInt8.ofBitVec b⟩ = Frag.fin ⟨0, UInt8.ofBitVec b, []⟩ ∧
      Dtn7.Gen.C17.Go.Fragment.FailBit ⟨0, UInt8.ofBitVec b⟩ = Frag.fail ⟨0, UInt8.ofBitVec b, []⟩ ∧
      (Dtn7.Gen.C17.Go.Fragment.ReportFailure ⟨7, UInt8.ofBitVec b⟩).identifier =
        (Frag.reportFailure ⟨7, UInt8.ofBitVec b, []⟩).ident ∧
      Dtn7.Gen.C17.Go.nextSequenceNumber (UInt8.ofBitVec b) = nextSeq (UInt8.ofBitVec b) ∧
      Dtn7.Gen.C17.Go.nextTransmissionId (UInt8.ofBitVec b) = nextTid (UInt8.ofBitVec b)) := by
  constructor <;> decide +kernel

/-- Stated on the translated code itself: what `NewFragment` packs, the accessors read back, for every
sequence number below 32 and every flag combination. -/
theorem go_bbc_header_roundtrip :
    ∀ b : BitVec 8, b.toNat < 32 → ∀ s e f : Bool,
      let fr := Dtn7.Gen.C17.Go.NewFragment 9 (UInt8.ofBitVec b) s e f
      fr.TransmissionID = 9 ∧ fr.SequenceNumber = UInt8.ofBitVec b ∧ fr.StartBit = s ∧ fr.EndBit = e ∧ fr.FailBit = f := by
  decide +kernel

example : (mkFrag 7 15 true false false [1]).bytes = [7, 0x7C, 1] := by decide
end

/-! ## Endpoint IDs: URI text ↔ structure -/
section
open Dtn7.EidText

/-- **print → parse**: every valid endpoint is recovered from the text it prints as. -/
theorem eid_print_parse (e : Eid) (hv : Valid e) : parseUri true (printUri e) = .ok e :=
  Lemmas.parse_print true e hv

/-- **parse → print**: an accepted text is exactly the text of the endpoint it denotes, and that endpoint
is valid. Unconditional for `parseUri true`, the parser with /repo's `ipnRegexp` (no leading zeros in ipn numbers,
D30). -/
theorem eid_parse_print (s : Bytes) (e : Eid) (h : parseUri true s = .ok e) : printUri e = s ∧ Valid e :=
  Lemmas.print_parse s e h

/-- Hence text and structure determine each other: two accepted texts for one endpoint are equal. -/
theorem eid_text_unique (s₁ s₂ : Bytes) (e : Eid) (h₁ : parseUri true s₁ = .ok e) (h₂ : parseUri true s₂ = .ok e) :
    s₁ = s₂ :=
  (eid_parse_print s₁ e h₁).1.symm.trans (eid_parse_print s₂ e h₂).1

/-- The parser with `\d+` for the ipn numbers (`parseUri false`, D30) violates this: "ipn:01.1" is accepted and denotes the endpoint that
prints as "ipn:1.1" (D30; the print → parse direction held for it too: `Lemmas.parse_print false`). -/
theorem eid_lenient_parser_witness :
    parseUri false [105, 112, 110, 58, 48, 49, 46, 49] = .ok (.ipn 1 1) ∧
    printUri (.ipn 1 1) = [105, 112, 110, 58, 49, 46, 49] ∧
    parseUri true [105, 112, 110, 58, 48, 49, 46, 49] = .error .badEid := ⟨rfl, rfl, rfl⟩

/-- **Rejections** (all for any continuation): unknown scheme … -/
theorem eid_rejects_unknown_scheme (scheme ssp : Bytes) (ha : scheme.all isAlnum = true)
    (h1 : scheme ≠ sDtn) (h2 : scheme ≠ sIpn) : parseUri true (scheme ++ cColon :: ssp) = .error .badEid :=
  Lemmas.reject_unknown_scheme true scheme ssp ha h1 h2

/-- … a line feed anywhere after the scheme (so also in a demux) … -/
theorem eid_rejects_newline (scheme ssp : Bytes) (ha : scheme.all isAlnum = true) (hnl : (10 : UInt8) ∈ ssp) :
    parseUri true (scheme ++ cColon :: ssp) = .error .badEid :=
  Lemmas.reject_newline true scheme ssp ha hnl

/-- … an empty node name … -/
theorem eid_rejects_empty_node (demux : Bytes) :
    parseUri true (sDtn ++ [cColon, cSlash, cSlash, cSlash] ++ demux) = .error .badEid :=
  Lemmas.reject_empty_node true demux

/-- … ipn numbers that are 0 or do not fit 64 bits. -/
theorem eid_rejects_ipn_range (n s : Nat) (h : n = 0 ∨ s = 0 ∨ 2 ^ 64 ≤ n ∨ 2 ^ 64 ≤ s) :
    parseUri true (printUri (.ipn n s)) = .error .badEid :=
  Lemmas.reject_ipn_zero_or_big true n s h

/-- **CBOR form** round trip with exact consumption. -/
theorem eid_cbor_roundtrip (e : Eid) (rest : Bytes) (hc : CborCanonical e) :
    decEid (encEid e ++ rest) = .ok (e, rest) :=
  Dtn7.WireCbor.Lemmas.decEid_encEid e rest hc

theorem eid_cbor_stream_aligned (es : List Eid) (hc : ∀ e ∈ es, CborCanonical e) :
    decMany decEid (es.flatMap encEid) = .ok es :=
  stream_aligned encEid decEid CborCanonical Dtn7.WireCbor.Lemmas.decEid_encEid
    (fun e _ => Dtn7.WireCbor.Lemmas.encEid_ne_nil e) es hc

/-- Observation (mirrored, not judged: D6 territory): the CBOR decoder does not validate — an ipn endpoint with
number 0 is accepted (and cannot be re-marshalled), and any unsigned integer in the dtn position means dtn:none. -/
theorem eid_cbor_unvalidated_witness :
    decEid [0x82, 2, 0x82, 0, 0] = .ok (.ipn 0 0, []) ∧ checkValid (.ipn 0 0) = false ∧
    decEid [0x82, 1, 5] = .ok (.none, []) := ⟨rfl, rfl, rfl⟩

/-- `MarshalCbor` (which refuses what `CheckValid` refuses) accepts every valid endpoint. -/
theorem eid_marshal_accepts_valid (e : Eid) (hv : Valid e) : checkValid e = true := by
  cases e with
  | none => rfl
  | dtn node demux =>
    simp only [checkValid]
    rw [Lemmas.parseDtnSsp_print node demux hv.1 hv.2.1 hv.2.2]
  | ipn n s => simp [checkValid, hv.1, hv.2.2.1]

example : Valid (.dtn [110] [97, 47, 98]) := by decide
example : Valid (.ipn 1 (2 ^ 64 - 1)) := by decide
example : parseUri true [100, 116, 110, 58, 47, 47, 110, 47, 120] = .ok (.dtn [110] [120]) := by decide
example : CborCanonical (.dtn [110] []) := by decide
end

/-! ## CBOR formats of bpv7, discovery and the WebSocket agent -/
section
open Dtn7.WireCbor

theorem timestamp_roundtrip (t : Ts) (rest : Bytes) (hc : TsCanonical t) : decTs (encTs t ++ rest) = .ok (t, rest) :=
  Lemmas.decTs_encTs t rest hc

theorem timestamp_stream_aligned (ts : List Ts) (hc : ∀ t ∈ ts, TsCanonical t) :
    decMany decTs (ts.flatMap encTs) = .ok ts :=
  stream_aligned encTs decTs TsCanonical Lemmas.decTs_encTs (fun t _ => Lemmas.encTs_ne_nil t) ts hc

/-- The bundle ID is decoded with the fragment flag the enclosing structure announces. -/
theorem bundle_id_roundtrip (b : BundleId) (rest : Bytes) (hc : BundleIdCanonical b) :
    decBundleId b.isFrag (encBundleId b ++ rest) = .ok (b, rest) :=
  Lemmas.decBundleId_enc b rest hc

theorem status_item_roundtrip (i : StatusItem) (rest : Bytes) (hc : ItemCanonical i) :
    decItem (encItem i ++ rest) = .ok (i, rest) :=
  Lemmas.decItem_encItem i rest hc

/-- Why `ItemCanonical`: a requested-but-not-asserted item, or a time on an item without request, is written
without the time and comes back different. -/
theorem status_item_noncanonical_witness :
    decItem (encItem ⟨false, 5, true⟩) = .ok (⟨false, 0, false⟩, []) ∧
    decItem (encItem ⟨true, 5, false⟩) = .ok (⟨true, 0, false⟩, []) := ⟨rfl, rfl⟩

theorem status_report_roundtrip (s : StatusReport) (rest : Bytes) (hc : ReportCanonical s) :
    decReport (encReport s ++ rest) = .ok (s, rest) :=
  Lemmas.decReport_encReport s rest hc

theorem admin_record_roundtrip (s : StatusReport) (rest : Bytes) (hc : ReportCanonical s) :
    decAdmin (encAdmin s ++ rest) = .ok (s, rest) :=
  Lemmas.decAdmin_encAdmin s rest hc

theorem admin_record_stream_aligned (ss : List StatusReport) (hc : ∀ s ∈ ss, ReportCanonical s) :
    decMany decAdmin (ss.flatMap encAdmin) = .ok ss :=
  stream_aligned encAdmin decAdmin ReportCanonical Lemmas.decAdmin_encAdmin (fun s _ => Lemmas.encAdmin_ne_nil s) ss hc

theorem announcement_roundtrip (a : Announcement) (rest : Bytes) (hc : AnnCanonical a) :
    decAnn (encAnn a ++ rest) = .ok (a, rest) :=
  Lemmas.decAnn_encAnn a rest hc

/-- A whole discovery packet. -/
theorem announcements_roundtrip (as : List Announcement) (rest : Bytes) (hc : ∀ a ∈ as, AnnCanonical a)
    (hl : as.length < 2 ^ 64) : decAnns (encAnns as ++ rest) = .ok (as, rest) := by
  simp only [decAnns, encAnns, List.append_assoc, Dtn7.Cbor.Lemmas.decArray_encArray, hl]
  exact Lemmas.decN_flatMap encAnn decAnn AnnCanonical Lemmas.decAnn_encAnn as hc rest

theorem wam_roundtrip (w : Wam) (rest : Bytes) (hc : WamCanonical w) : decWam (encWam w ++ rest) = .ok (w, rest) :=
  Lemmas.decWam_encWam w rest hc

theorem wam_stream_aligned (ws : List Wam) (hc : ∀ w ∈ ws, WamCanonical w) :
    decMany decWam (ws.flatMap encWam) = .ok ws :=
  stream_aligned encWam decWam WamCanonical Lemmas.decWam_encWam (fun w _ => Lemmas.encWam_ne_nil w) ws hc

example : ReportCanonical ⟨[⟨true, 7, true⟩, ⟨false, 0, false⟩], 1, ⟨.ipn 1 2, ⟨3, 4⟩, true, 5, 6⟩⟩ := by decide
example : AnnCanonical ⟨10, .dtn [110] [], 4556⟩ := by decide
example : decAnns (encAnns [⟨10, .none, 1⟩, ⟨20, .ipn 1 1, 2⟩] ++ [9]) = .ok ([⟨10, .none, 1⟩, ⟨20, .ipn 1 1, 2⟩], [9]) := by
  decide
example : WamCanonical (.syscallResponse [1] [2, 3]) := by decide
end

end Dtn7.Props.C17
