/-
C07 — local delivery reaches exactly the registered recipients, once, and nobody else; it is not
transmitted to peers; a REST client's fetches return every bundle put into its mailbox exactly
once under every interleaving; a delivery is reported only after a hand-over.
The property theorems, each an instance or a short composition of lemmas in `Dtn7.Lemmas.Delivery` (fan-out, mailbox
schedules, the node) or `Dtn7.Lemmas.DeliveryHist` (histories against the reference registry).
-/
import Dtn7.Model.Delivery
import Dtn7.Lemmas.Delivery
import Dtn7.Lemmas.DeliveryHist
import Dtn7.Gen.C07

namespace Dtn7.Props.C07
open Dtn7.Delivery

/-! ## The tie to the source: facts regenerated from /repo on every run -/

theorem gen_extraction_ok : Dtn7.Gen.C07.extractionFailures = [] := rfl

/-- Both `sync.Map.Range` callbacks of the RestAgent return `true`: every client is visited. The
theorems below are about the model with `rangeAll = true`, which is the model of this code (D14). -/
theorem gen_range_visits_all :
    Dtn7.Gen.C07.rangeReturnsReceive = ["true"] ∧ Dtn7.Gen.C07.rangeReturnsEndpoints = ["true"] := ⟨rfl, rfl⟩

/-- `MuxAgent.handle`: every child whose `Endpoints()` contain a recipient gets the message — no
`break`, no other test. `bagContainsEndpoint` compares complete endpoint IDs. -/
theorem gen_mux_fanout :
    Dtn7.Gen.C07.muxHandle =
      ["defer close(mux.sender)",
       "for msg := range mux.receiver",
       "  mux.Lock()",
       "  for _, child := range mux.children",
       "    if rec := msg.Recipients(); rec == nil || AppAgentContainsEndpoint(child, rec)",
       "      child.MessageReceiver() <- msg",
       "  mux.Unlock()",
       "  if _, isShutdown := msg.(ShutdownMessage); isShutdown",
       "    return"] ∧
    Dtn7.Gen.C07.bagContainsEndpoint =
      ["matches := map[bpv7.EndpointID]struct{}{}",
       "for _, eid := range eids",
       "  matches[eid] = struct{}{}",
       "for _, eid := range bag",
       "  if _, ok := matches[eid]; ok",
       "    return true",
       "return false"] := ⟨rfl, rfl⟩

/-- `receiveBundleMessage` and `fetchMailbox`: the micro-steps (load, store / load, delete) and
the mutex around them (D15). -/
theorem gen_rest_microsteps :
    Dtn7.Gen.C07.restReceive =
      ["ra.mailboxMutex.Lock()",
       "defer ra.mailboxMutex.Unlock()",
       "var uuids []string",
       "ra.clients.Range(func(k, v interface{}) bool { if bagHasEndpoint(msg.Recipients(), v.(bpv7.EndpointID)) { uuids = append(uuids, k.(string)) } return true })",
       "for _, uuid := range uuids",
       "  var bundles []bpv7.Bundle",
       "  if val, ok := ra.mailbox.Load(uuid); !ok",
       "    bundles = []bpv7.Bundle{msg.Bundle}",
       "  else",
       "    bundles = append(val.([]bpv7.Bundle), msg.Bundle)",
       "  verifPoint(\"rest.deliver.loaded\")",
       "  ra.mailbox.Store(uuid, bundles)"] ∧
    Dtn7.Gen.C07.restFetchMailbox =
      ["ra.mailboxMutex.Lock()",
       "defer ra.mailboxMutex.Unlock()",
       "val, ok := ra.mailbox.Load(uuid)",
       "if ok",
       "  bundles = val.([]bpv7.Bundle)",
       "  verifPoint(\"rest.fetch.loaded\")",
       "  ra.mailbox.Delete(uuid)",
       "return"] := ⟨rfl, rfl⟩

/-- Lock table: every compound access to the mailbox / client map happens under the mutex; the
remaining accesses are single atomic `sync.Map` operations. This is the input of
`fetch_exactly_once` (`locked = true`). -/
theorem gen_lock_table :
    Dtn7.Gen.C07.restAccesses =
      ["receiveBundleMessage:clients.Range:locked",
       "receiveBundleMessage:mailbox.Load:locked",
       "receiveBundleMessage:mailbox.Store:locked",
       "fetchMailbox:mailbox.Load:locked",
       "fetchMailbox:mailbox.Delete:locked",
       "handleUnregister:clients.Delete:locked",
       "handleUnregister:mailbox.Delete:locked",
       "handleRegister:clients.Store:unlocked",
       "handleBuild:clients.Load:unlocked",
       "Endpoints:clients.Range:unlocked"] := rfl

theorem gen_mailbox_accesses_locked : Dtn7.Gen.C07.restMailboxUnlocked = [] := rfl

/-- `AgentManager.Deliver`, `Core.localDelivery` (report and purge only after a successful
`Deliver`: D16), `Core.HasEndpoint` and the local/forward decision of `Core.dispatching`. -/
theorem gen_node_skeletons :
    Dtn7.Gen.C07.amDeliver =
      ["b, bErr := descriptor.Bundle()",
       "if bErr != nil",
       "  return bErr",
       "if !manager.HasEndpoint(b.PrimaryBlock.Destination)",
       "  return fmt.Errorf(\"no registered ApplicationAgent for this Bundle's destination\")",
       "descriptor.RemoveConstraint(LocalEndpoint)",
       "if err := descriptor.Sync(); err != nil",
       "  return err",
       "manager.mux.MessageReceiver() <- agent.BundleMessage{Bundle: *b}",
       "return nil"] ∧
    Dtn7.Gen.C07.amHasEndpoint = ["return agent.AppAgentHasEndpoint(manager.mux, eid)"] ∧
    Dtn7.Gen.C07.localDelivery =
      ["if bp.MustBundle().IsAdministrativeRecord()",
       "  if !c.checkAdministrativeRecord(bp)",
       "    c.bundleDeletion(bp, bpv7.NoInformation)",
       "    return",
       "bp.AddConstraint(LocalEndpoint)",
       "_ = bp.Sync()",
       "if err := c.agentManager.Deliver(bp); err != nil",
       "  return",
       "if bp.MustBundle().PrimaryBlock.BundleControlFlags.Has(bpv7.StatusRequestDelivery)",
       "  c.SendStatusReport(bp, bpv7.DeliveredBundle, bpv7.NoInformation)",
       "bp.PurgeConstraints()",
       "_ = bp.Sync()"] ∧
    Dtn7.Gen.C07.coreHasEndpoint =
      ["if c.NodeId.SameNode(endpoint)",
       "  return true",
       "if c.agentManager.HasEndpoint(endpoint)",
       "  return true",
       "if c.claManager.HasEndpoint(endpoint)",
       "  return true",
       "for _, cr := range c.claManager.Receiver()",
       "  if cr.GetEndpointID().SameNode(endpoint)",
       "    return true",
       "return false"] ∧
    Dtn7.Gen.C07.dispatchingDecision =
      ["if c.HasEndpoint(bndl.PrimaryBlock.Destination)",
       "  c.localDelivery(bp)",
       "else",
       "  c.forward(bp)"] := by and_intros <;> rfl

/-- `localDelivery` calls nothing that transmits: no `forward`, no CLA, no `Send`. -/
theorem gen_local_delivery_does_not_transmit : Dtn7.Gen.C07.localDeliveryTransmitCalls = [] := rfl

/-! ## delivered_exactly -/

/-- **Every registry, any number of agents and clients**: a delivery through the mux hands the
bundle to exactly the recipients registered for exactly its destination — each once, unchanged,
nobody else. `m.registered` lists, for every ping agent, mock agent, REST client and web socket
client behind the mux, the endpoints it registered. -/
theorem delivered_exactly (cfg : Cfg) (hall : cfg.rangeAll = true) (m : Mux) (hwf : m.WF) (b : Bundle) :
    DeliveredExactly m.registered b (m.deliver cfg b).2 = true :=
  Lemmas.delivered_exactly cfg hall m hwf b

/-- The same as an equation (needs no well-formedness): the hand-overs are the registered
recipients for the destination, in registry order, each with the bundle itself. -/
theorem delivered_eq (cfg : Cfg) (hall : cfg.rangeAll = true) (m : Mux) (b : Bundle) :
    (m.deliver cfg b).2 = (registeredFor m.registered b.dest).map (fun r => (r, b)) :=
  Lemmas.deliver_out_eq cfg hall m b

/-- **Every history**: whatever sequence of agent registrations, REST registrations /
unregistrations / fetches, web socket connects / closes and deliveries led to a registry, it is
well-formed, hence every further delivery reaches exactly the then-registered recipients. -/
theorem delivered_exactly_history (cfg : Cfg) (hall : cfg.rangeAll = true) (ops : List Op) (b : Bundle) :
    DeliveredExactly (run cfg {} ops).registered b ((run cfg {} ops).deliver cfg b).2 = true :=
  Lemmas.delivered_exactly cfg hall _ (Lemmas.run_wf cfg {} ops Lemmas.empty_wf) b

/-- **What "put into its mailbox" means**: after a delivery, in every REST agent exactly the clients
registered for the bundle's destination have the bundle appended to their mailbox; all other
mailboxes and all registrations are unchanged. -/
theorem delivered_into_mailboxes (cfg : Cfg) (hall : cfg.rangeAll = true) (m : Mux) (hwf : m.WF)
    (b : Bundle) (i : Nat) (ra : Rest) (h : m.child i = some (.rest ra)) :
    ∃ ra', (m.deliver cfg b).1.child i = some (.rest ra') ∧ ra'.clients = ra.clients ∧
      ∀ u, aload u ra'.mailbox =
        if aload u ra.clients = some b.dest then some ((aload u ra.mailbox).getD [] ++ [b])
        else aload u ra.mailbox :=
  Lemmas.deliver_mailbox cfg hall m hwf b i ra h

/-- **Every history, judged by the independent reference** — `histOk` is the conjunction, along a
trace, of the per-operation predicate `eventsOk` that the driver evaluates on the implementation's
traces: it replays the operations on a flat table "recipient ↦
endpoints, recipient ↦ mailbox" (`Reg.step`) and demands of every delivery `DeliveredExactly`
w.r.t. the table's registrations at that moment, and of every REST fetch that it returns exactly
(as a multiset) what was delivered to that client since its previous fetch. Every trace of the
model — nested MuxAgent / RestAgent / WebSocketAgent state, `Range` loops, mailbox load-append-store
— satisfies it, for every sequence of operations. -/
theorem history_ok (cfg : Cfg) (hall : cfg.rangeAll = true) (ops : List Op) :
    histOk {} (trace cfg {} ops) = true :=
  Lemmas.histOk_of_sim cfg hall ops {} {} Lemmas.sim_empty

/-- `MuxAgent.Endpoints()` (and so `AgentManager.HasEndpoint`, `Core.HasEndpoint`) knows exactly
the registered endpoints. -/
theorem has_endpoint_iff (cfg : Cfg) (hall : cfg.rangeAll = true) (m : Mux) (e : Eid) :
    m.hasEndpoint cfg e = true ↔ ∃ r ∈ m.registered, e ∈ r.2 :=
  Lemmas.hasEndpoint_iff cfg hall m e

/-- D14 witness — `rangeAll := false` (`Range` callbacks return `false`; /repo's return `true`:
`gen_range_visits_all`): two REST clients
on one endpoint, only one of them gets the bundle … -/
theorem delivered_exactly_d14_witness :
    ¬ DeliveredExactly
        (⟨[(0, .rest { clients := [(1, ⟨"n1", "a"⟩), (2, ⟨"n1", "a"⟩)] })]⟩ : Mux).registered
        { tok := 1, dest := ⟨"n1", "a"⟩, reportTo := ⟨"rt", "x"⟩ }
        ((⟨[(0, .rest { clients := [(1, ⟨"n1", "a"⟩), (2, ⟨"n1", "a"⟩)] })]⟩ : Mux).deliver
          { rangeAll := false } { tok := 1, dest := ⟨"n1", "a"⟩, reportTo := ⟨"rt", "x"⟩ }).2 = true := by
  decide

/-- … and `Endpoints()` reports one endpoint, so the other client's endpoint is not local. -/
theorem has_endpoint_d14_witness :
    (⟨[(0, .rest { clients := [(1, ⟨"n1", "a"⟩), (2, ⟨"n1", "b"⟩)] })]⟩ : Mux).hasEndpoint
      { rangeAll := false } ⟨"n1", "b"⟩ = false := by decide

/-! ## fetch_exactly_once -/

/-- **Every interleaving** of any number of deliveries and fetches on one mailbox (threads `ts`,
all at their start; `σ` any schedule of their micro-steps lock / load / store|delete / unlock):
at every moment, what the fetches returned so far plus what the mailbox holds is a permutation of
what it held initially plus what deliveries stored so far. -/
theorem fetch_exactly_once_any_time (mb : Option (List Bundle)) (ts : List Thr)
    (hidle : ∀ t ∈ ts, t.idle = true) (σ : List Nat) :
    (fetchedAll (runSched true ({ mbox := mb, lock := none }, ts) σ).2 ++
        ((runSched true ({ mbox := mb, lock := none }, ts) σ).1.mbox.getD [])).Perm
      (mb.getD [] ++ storedAll (runSched true ({ mbox := mb, lock := none }, ts) σ).2) :=
  Lemmas.sched_perm mb ts hidle σ

/-- … and once all threads have finished, the fetch results together with the mailbox's remainder
(which the next fetch returns) are exactly the initial content plus every delivered bundle. -/
theorem fetch_exactly_once (mb : Option (List Bundle)) (ts : List Thr)
    (hidle : ∀ t ∈ ts, t.idle = true) (σ : List Nat)
    (hdone : ∀ t ∈ (runSched true ({ mbox := mb, lock := none }, ts) σ).2, t.done = true) :
    FetchExactlyOnce (mb.getD [] ++ bundlesAll ts)
      (fetchedAll (runSched true ({ mbox := mb, lock := none }, ts) σ).2 ++
        ((runSched true ({ mbox := mb, lock := none }, ts) σ).1.mbox.getD [])) = true := by
  rw [FetchExactlyOnce, List.isPerm_iff]
  have h := Lemmas.sched_perm mb ts hidle σ
  rw [Lemmas.stored_eq_bundles_of_done _ hdone, Lemmas.run_bundles] at h
  exact h

/-- D15 witnesses — `locked := false`, i.e. without the mailbox mutex (/repo takes it:
`gen_rest_microsteps`, `gen_lock_table`). Mailbox `[b₁]`, one fetch
(thread 0) and one delivery of `b₂` (thread 1).
fetch loads, delivery loads, fetch deletes, delivery stores: `b₁` is returned now and again later. -/
theorem fetch_d15_duplicate_witness :
    let b₁ : Bundle := { tok := 1, dest := ⟨"n", "a"⟩, reportTo := ⟨"r", ""⟩ }
    let b₂ : Bundle := { tok := 2, dest := ⟨"n", "a"⟩, reportTo := ⟨"r", ""⟩ }
    let r := runSched false ({ mbox := some [b₁] }, [.fIdle, .dIdle b₂]) [0, 0, 1, 1, 0, 0, 1, 1]
    (r.2.all Thr.done = true) ∧
    FetchExactlyOnce ([b₁] ++ bundlesAll [.fIdle, .dIdle b₂]) (fetchedAll r.2 ++ r.1.mbox.getD []) = false ∧
    fetchedAll r.2 ++ r.1.mbox.getD [] = [b₁, b₁, b₂] := by decide +kernel

/-- delivery loads, fetch loads, delivery stores, fetch deletes: `b₂` is lost. -/
theorem fetch_d15_lost_witness :
    let b₁ : Bundle := { tok := 1, dest := ⟨"n", "a"⟩, reportTo := ⟨"r", ""⟩ }
    let b₂ : Bundle := { tok := 2, dest := ⟨"n", "a"⟩, reportTo := ⟨"r", ""⟩ }
    let r := runSched false ({ mbox := some [b₁] }, [.fIdle, .dIdle b₂]) [1, 1, 0, 0, 1, 1, 0, 0]
    (r.2.all Thr.done = true) ∧
    FetchExactlyOnce ([b₁] ++ bundlesAll [.fIdle, .dIdle b₂]) (fetchedAll r.2 ++ r.1.mbox.getD []) = false ∧
    fetchedAll r.2 ++ r.1.mbox.getD [] = [b₁] := by decide +kernel

/-! ## not_forwarded, report_only_after_handover -/

/-- A bundle whose destination is an endpoint of this node (`Core.HasEndpoint`) is never handed to
`forward`: nothing of it reaches the routing algorithm or a convergence layer. -/
theorem not_forwarded (cfg : NCfg) (n : Node) (b : Bundle) (cons : List Constraint)
    (h : n.hasEndpoint cfg.toCfg b.dest = true) :
    NotForwarded (dispatching cfg n b cons).2.1 = true :=
  Lemmas.not_forwarded cfg n b cons h

/-- **A "delivered" status report is sent only if an application agent / client took the bundle.** -/
theorem report_only_after_handover (cfg : NCfg) (hall : cfg.rangeAll = true)
    (hguard : cfg.reportGuard = true) (n : Node) (b : Bundle) (cons : List Constraint) :
    ReportOnlyAfterHandover b (localDelivery cfg n b cons).2.1 = true :=
  Lemmas.report_only_after_handover cfg hall hguard n b cons

/-- The same for everything an arriving copy (`Core.receive`: duplicate test, dispatching) and a
run of the pending-bundles cron job (`Core.checkPendingBundles`: every pending bundle is dispatched
again, e.g. after an agent registered its destination) put out: every "delivered" report is
accompanied by a hand-over of that very bundle. -/
theorem receive_reports_only_after_handover (cfg : NCfg) (hall : cfg.rangeAll = true)
    (hguard : cfg.reportGuard = true) (n : Node) (b : Bundle) :
    ∀ b', Out.report b' ∈ (receive cfg n b).2 → ∃ r, Out.handed r b' ∈ (receive cfg n b).2 :=
  Lemmas.receive_reportsJustified cfg hall hguard n b

theorem tick_reports_only_after_handover (cfg : NCfg) (hall : cfg.rangeAll = true)
    (hguard : cfg.reportGuard = true) (n : Node) :
    ∀ b', Out.report b' ∈ (tick cfg n).2 → ∃ r, Out.handed r b' ∈ (tick cfg n).2 :=
  Lemmas.tick_reportsJustified cfg hall hguard n

/-- **The retention constraint `LocalEndpoint` disappears only after a hand-over** (or the bundle
is a malformed administrative record, which is deleted instead of delivered). -/
theorem retention_only_after_handover (cfg : NCfg) (hall : cfg.rangeAll = true)
    (hguard : cfg.reportGuard = true) (n : Node) (b : Bundle) (cons : List Constraint) :
    RetentionOk b (localDelivery cfg n b cons).2.1 (localDelivery cfg n b cons).2.2 = true :=
  Lemmas.retention_ok cfg hall hguard n b cons

/-- D16 witness — `reportGuard := false`, i.e. `localDelivery` going on after a failed `Deliver`
(/repo's returns: `gen_node_skeletons`): node `n1` without any agent, a bundle for
`n1/zz` requesting a delivery report: the report is sent, nobody got the bundle. -/
theorem report_d16_witness :
    ReportOnlyAfterHandover { tok := 1, dest := ⟨"n1", "zz"⟩, reportTo := ⟨"rt", "x"⟩, reqDelivery := true }
      (localDelivery { reportGuard := false } { nodeId := ⟨"n1", ""⟩ }
        { tok := 1, dest := ⟨"n1", "zz"⟩, reportTo := ⟨"rt", "x"⟩, reqDelivery := true }
        [.dispatchPending]).2.1 = false := by decide

/-! ## Non-vacuity -/

/-- A registry with a ping agent, a mock, two REST clients on one endpoint and a web client. -/
def exMux : Mux := run {} {}
  [.addPing 0 ⟨"n1", "a"⟩, .addRest 1, .restReg 1 1 ⟨"n1", "a"⟩, .restReg 1 2 ⟨"n1", "a"⟩,
   .restReg 1 3 ⟨"n1", "b"⟩, .addWs 2, .wsConnect 2 7 (some ⟨"n1", "a"⟩), .wsConnect 2 8 none,
   .addMock 3 [⟨"n1", "b"⟩, ⟨"n2", "a"⟩]]

def exBundle : Bundle := { tok := 5, dest := ⟨"n1", "a"⟩, reportTo := ⟨"rt", "5"⟩, reqDelivery := true }

example : (exMux.deliver {} exBundle).2 =
    [(.ping 0, exBundle), (.rest 1 1, exBundle), (.rest 1 2, exBundle), (.ws 2 7, exBundle)] := by decide
example : exMux.hasEndpoint {} ⟨"n1", "a"⟩ = true ∧ exMux.hasEndpoint {} ⟨"n1", "zz"⟩ = false := by decide
-- `histOk` is not vacuous: a trace in which a registered mock agent does not get the bundle,
-- or a REST fetch returns a bundle twice, is rejected
example : histOk {} [(.addMock 0 [⟨"n1", "a"⟩], []), (.deliver exBundle, [])] = false := by decide
example : histOk {} [(.addRest 0, []), (.restReg 0 1 ⟨"n1", "a"⟩, []), (.deliver exBundle, [(.rest 0 1, exBundle)]),
    (.restFetch 0 1, [(.rest 0 1, exBundle), (.rest 0 1, exBundle)])] = false := by decide
example : histOk {} [(.addRest 0, []), (.restReg 0 1 ⟨"n1", "a"⟩, []), (.deliver exBundle, [(.rest 0 1, exBundle)]),
    (.restFetch 0 1, [(.rest 0 1, exBundle)]), (.restFetch 0 1, [])] = true := by decide
-- a complete schedule of two deliveries and two fetches with the mutex
example :
    let b := fun t : Nat => ({ tok := t, dest := ⟨"n", "a"⟩, reportTo := ⟨"r", ""⟩ } : Bundle)
    let r := runSched true ({ mbox := some [b 1] }, [.fIdle, .dIdle (b 2), .fIdle, .dIdle (b 3)])
      [0, 1, 0, 0, 0, 1, 1, 1, 1, 3, 2, 3, 3, 3, 2, 2, 2, 2]
    r.2.all Thr.done = true ∧ fetchedAll r.2 = [b 1, b 2, b 3] ∧ r.1.mbox = none := by decide
-- local delivery with a report, and a node without agents that reports nothing
example : (localDelivery {} { nodeId := ⟨"n1", ""⟩, mux := exMux } exBundle [.dispatchPending]).2 =
    ([.handed (.ping 0) exBundle, .handed (.rest 1 1) exBundle, .handed (.rest 1 2) exBundle,
      .handed (.ws 2 7) exBundle, .report exBundle], []) := by decide
example : (localDelivery {} { nodeId := ⟨"n1", ""⟩ } exBundle [.dispatchPending]).2 =
    ([], [.dispatchPending, .localEndpoint]) := by decide
-- a bundle for a foreign endpoint is forwarded and kept pending; after an agent registered the
-- endpoint the next tick delivers it (with the report), a second tick does nothing
example :
    let b : Bundle := { tok := 9, dest := ⟨"n2", "a"⟩, reportTo := ⟨"rt", "9"⟩, reqDelivery := true }
    let n₁ := (receive {} { nodeId := ⟨"n1", ""⟩ } b).1
    let n₂ : Node := { n₁ with mux := (step {} n₁.mux (.addMock 0 [⟨"n2", "a"⟩])).1 }
    (receive {} { nodeId := ⟨"n1", ""⟩ } b).2 = [.forward b] ∧
    (tick {} n₂).2 = [.handed (.mock 0) b, .report b] ∧ (tick {} (tick {} n₂).1).2 = [] := by decide +kernel

end Dtn7.Props.C07
