/-
C12 — MTCP and the broadcast connector (BBC) deliver exactly what was sent or report failure.

Property theorems only; helper lemmas live in `Dtn7.Lemmas.{Mtcp,MtcpBundles,Bbc,BbcFrag}`.
-/
import Dtn7.Model.Mtcp
import Dtn7.Model.Bbc
import Dtn7.Lemmas.Mtcp
import Dtn7.Lemmas.MtcpBundles
import Dtn7.Lemmas.Bbc
import Dtn7.Gen.C12

namespace Dtn7.Props.C12
open Dtn7.Cbor (Bytes)

/-! ## Facts regenerated from the source -/

theorem gen_extraction_complete : Dtn7.Gen.C12.extractionFailures = [] := rfl

/-- The sender: `mtu − 2` payload bytes per fragment, START on the first call, the number advanced before use,
END when the rest fits. -/
theorem gen_bbc_sender :
    Dtn7.Gen.C12.fragmentIdentifierSize = Dtn7.Bbc.fragmentIdentifierSize ∧
    Dtn7.Gen.C12.nextSequenceNumber = ["return (seq + 1) % 16"] ∧
    Dtn7.Gen.C12.newPlainOutgoingTransmission =
      ["var fin = false", "if len(payload) == 0", "  fin = true",
       "t = &OutgoingTransmission{ Transmission: Transmission{ TransmissionID: transmissionID, Payload: payload, finished: fin, }, mtu: mtu - fragmentIdentifierSize, start: true, nextSegmentNo: 0, }",
       "return"] ∧
    Dtn7.Gen.C12.writeFragment =
      ["if t.IsFinished()", "  err = fmt.Errorf(\"Transmission was already marked as finished\")", "  return",
       "var nextPayload []byte", "if len(t.Payload) <= t.mtu", "  nextPayload = t.Payload", "  t.Payload = nil",
       "  t.finished = true", "else", "  nextPayload = t.Payload[:t.mtu]", "  t.Payload = t.Payload[t.mtu:]",
       "t.nextSegmentNo = nextSequenceNumber(t.nextSegmentNo)",
       "f = NewFragment(t.TransmissionID, t.nextSegmentNo, t.start, t.finished, false, nextPayload)",
       "t.start = false", "finished = t.IsFinished()", "return"] := by and_intros <;> rfl

/-- The receiver: START required for a new entry, number = previous + 1 mod 16, no second START, END finishes;
any error deletes the entry and broadcasts `ReportFailure`; a finished entry is decoded, reported, deleted. -/
theorem gen_bbc_receiver :
    Dtn7.Gen.C12.newIncomingTransmission =
      ["if !f.StartBit()", "  err = fmt.Errorf(\"Fragment has no start bit\")", "  return",
       "t = &IncomingTransmission{ Transmission: Transmission{ TransmissionID: f.TransmissionID(), Payload: f.Payload, finished: f.EndBit(), }, prevSequenceNo: f.SequenceNumber(), }",
       "return"] ∧
    Dtn7.Gen.C12.readFragment =
      ["if t.IsFinished()", "  err = fmt.Errorf(\"Transmission was already marked as finished\")", "  return",
       "if f.TransmissionID() != t.TransmissionID",
       "  err = fmt.Errorf(\"transmission ID mismatches: Fragment got %x, expected %x\", f.TransmissionID(), t.TransmissionID)",
       "  return",
       "if expected := nextSequenceNumber(t.prevSequenceNo); f.SequenceNumber() != expected",
       "  err = fmt.Errorf(\"expected sequence number of %x, got %x\", expected, f.SequenceNumber())", "  return",
       "if f.StartBit()", "  err = fmt.Errorf(\"Fragment has start bit, but previous data was already read\")", "  return",
       "t.Payload = append(t.Payload, f.Payload...)", "t.finished = f.EndBit()", "t.prevSequenceNo = f.SequenceNumber()",
       "finished = t.IsFinished()", "return"] ∧
    Dtn7.Gen.C12.handleIncomingFragment =
      ["var ( logger = log.WithField(\"bbc\", c.Address()) transmission *IncomingTransmission known bool )",
       "defer func", "  if err == nil", "    return", "  c.fragmentOut <- frag.ReportFailure()",
       "if frag.FailBit()", "  c.failTransmission <- frag.TransmissionID()", "  return",
       "if transmission, known = c.transmissions[frag.TransmissionID()]; !known",
       "  transmission, err = c.handleIncomingNewTransmission(frag)", "else",
       "  err = c.handleIncomingKnownTransmission(frag, transmission)", "if err != nil", "  return",
       "if transmission.IsFinished()", "  var bndl bpv7.Bundle",
       "  if bndl, err = transmission.Bundle(); err == nil",
       "    c.reportChan <- cla.NewConvergenceReceivedBundle(c, bpv7.DtnNone(), &bndl)", "  else",
       "  delete(c.transmissions, transmission.TransmissionID)", "return"] ∧
    Dtn7.Gen.C12.handleIncomingNewTransmission =
      ["if trans, err = NewIncomingTransmission(frag); err == nil", "  c.transmissions[trans.TransmissionID] = trans",
       "return"] ∧
    Dtn7.Gen.C12.handleIncomingKnownTransmission =
      ["if _, err = trans.ReadFragment(frag); err != nil", "  delete(c.transmissions, trans.TransmissionID)", "return"] ∧
    Dtn7.Gen.C12.reportFailure =
      ["return NewFragment(f.TransmissionID(), f.SequenceNumber(), false, false, true, []byte{})"] :=
  by and_intros <;> rfl

/-- MTCP: `Send` writes head, bundle, flushes, then the zero-length probe; the server loop reads a head, skips 0,
otherwise parses one bundle from the stream. -/
theorem gen_mtcp :
    Dtn7.Gen.C12.clientSendCalls =
      ["func", "recover", "func", "cla.NewConvergencePeerDisappeared", "client.GetPeerEndpointID", "client.mutex.Lock",
       "client.mutex.Unlock", "bufio.NewWriter", "new", "cboring.Marshal", "cboring.WriteByteStringLen", "uint64",
       "buff.Len", "buff.WriteTo", "connWriter.Flush", "cboring.WriteByteStringLen"] ∧
    Dtn7.Gen.C12.handleSender =
      ["defer func", "  _ = conn.Close()", "  if r := recover(); r != nil", "connReader := bufio.NewReader(conn)", "for",
       "  if n, err := cboring.ReadByteStringLen(connReader); err != nil", "    if err != io.EOF", "    return",
       "  else if n == 0", "    continue", "  bndl := new(bpv7.Bundle)",
       "  if err := cboring.Unmarshal(bndl, connReader); err != nil", "    return", "  else",
       "    serv.reportChan <- cla.NewConvergenceReceivedBundle(serv, serv.endpointID, bndl)"] := ⟨rfl, rfl⟩

/-- `Send`: five I/O steps, the first failing one is returned; the deferred function reports `PeerDisappeared`
exactly when the returned error is non-nil. -/
theorem gen_mtcp_send :
    Dtn7.Gen.C12.clientSend =
      ["defer func", "  if r := recover(); r != nil", "    err = fmt.Errorf(\"MTCPClient.Send: %v\", r)",
       "defer func", "  if err != nil",
       "    client.reportChan <- cla.NewConvergencePeerDisappeared(client, client.GetPeerEndpointID())",
       "client.mutex.Lock()", "defer client.mutex.Unlock()", "connWriter := bufio.NewWriter(client.conn)",
       "buff := new(bytes.Buffer)", "if cborErr := cboring.Marshal(&bndl, buff); cborErr != nil", "  err = cborErr",
       "  return", "if bsErr := cboring.WriteByteStringLen(uint64(buff.Len()), connWriter); bsErr != nil",
       "  err = bsErr", "  return", "if _, plErr := buff.WriteTo(connWriter); plErr != nil", "  err = plErr", "  return",
       "if flushErr := connWriter.Flush(); flushErr != nil", "  err = flushErr", "  return",
       "if probeErr := cboring.WriteByteStringLen(0, client.conn); probeErr != nil", "  err = probeErr", "  return",
       "return"] := rfl

/-! ## MTCP -/
section
open Dtn7.Mtcp Dtn7.Wire

/-- **Send on a broken connection**: whichever of the five steps fails — in particular any write the operating
system refuses — `Send` returns an error AND reports the peer as gone; it returns nil only if every step,
including the final probe write, succeeded. (WHETHER a write on a connection the peer has closed fails is
decided by TCP, not by this code: D32, observed by the harness, not provable here.) -/
theorem mtcp_send_error_reports_gone (ios : List Bool) :
    (send ios).peerDisappeared = (send ios).err ∧
    ((send ios).err = false ↔ ∃ rest, ios = true :: true :: true :: true :: true :: rest) :=
  ⟨rfl, decide_eq_false_iff_not.trans (Lemmas.takeWhile_take_lt sendSteps ios)⟩

example : send [true, true, true, true, true] = ⟨false, false, 5⟩ := by decide
example : send [true, true, true, true, false] = ⟨true, true, 4⟩ := by decide
example : send [true, true, false] = ⟨true, true, 2⟩ := by decide

/-- The keep-alive / probe byte is the head of the empty byte string. -/
theorem mtcp_keepalive_is_empty_bytestring : keepalive = Dtn7.Cbor.encHead Dtn7.Cbor.majBytes 0 := rfl

/-- **mtcp_stream**: whatever frames and keep-alives are interleaved on one connection, the server reports
exactly the bundles, in order, and ends cleanly — given a bundle codec with the exact-consumption property
(C01's theorem), non-empty encodings shorter than 2^64. -/
theorem mtcp_stream {B} (c : Codec B) (hg : Lemmas.Good c) (items : List (Item B)) :
    server c (items.flatMap (encItem c)) = (bundlesOf items, .eof) :=
  Lemmas.server_stream_on c hg items (fun _ _ => trivial)

theorem bundlesOf_perm {B} {a b : List (Item B)} (h : a.Perm b) : (bundlesOf a).Perm (bundlesOf b) := by
  induction h with
  | nil => exact List.Perm.nil
  | cons x _ ih => cases x <;> simp only [bundlesOf] <;> first | exact ih | exact ih.cons _
  | swap x y l =>
    cases x <;> cases y <;> simp only [bundlesOf] <;>
      first | exact List.Perm.refl _ | exact List.Perm.swap _ _ _
  | trans _ _ ih1 ih2 => exact ih1.trans ih2

/-- **Concurrent senders on one client** (`mtcp_concurrent_senders`): `Send` and the keep-alive ticker write a
frame / a keep-alive while holding the client's mutex (`gen_mtcp_send`: Lock before the first write, the deferred
Unlock after the probe), so what several goroutines put on the wire is SOME interleaving `merged` of whole
items. Whatever that interleaving is, the server reports exactly the bundles sent — each one once, as sent (a
permutation of what the senders handed over) — and ends cleanly. (`concsend` lines judge the same on the implementation.) -/
theorem mtcp_concurrent_senders {B} (c : Codec B) (hg : Lemmas.Good c) (perSender : List (List (Item B)))
    (merged : List (Item B)) (hm : merged.Perm perSender.flatten) :
    (server c (merged.flatMap (encItem c))).1.Perm (bundlesOf perSender.flatten) ∧
    (server c (merged.flatMap (encItem c))).2 = .eof := by
  rw [mtcp_stream c hg merged]
  exact ⟨bundlesOf_perm hm, rfl⟩

/-- **mtcp_prefix**: a connection cut after ANY number of bytes yields a prefix of the sent bundles — never a
different bundle — provided a truncated encoding is not itself a bundle (self-delimiting codec). -/
theorem mtcp_prefix {B} (c : Codec B) (hg : Lemmas.Good c)
    (hcut : ∀ b k, k < (c.enc b).length → ∀ x, c.parse ((c.enc b).take k) ≠ .ok x)
    (items : List (Item B)) (k : Nat) :
    (server c ((items.flatMap (encItem c)).take k)).1 <+: bundlesOf items :=
  Lemmas.server_prefix_on c hg (fun b _ => hcut b) items (fun _ _ => trivial) k

/-! ### … composed with the real bundle codec (C01): no abstract codec hypothesis left -/

/-- **mtcp_stream_bundles**: for every list of bundles that the wire can carry (`Encodable`), that are valid at
the receiver's clock and whose encoding is shorter than 2^64 bytes, and for EVERY interleaving with keep-alives,
the server loop — reading heads and handing the stream to the real `Bundle.UnmarshalCbor` model — reports
exactly those bundles, in order, and ends cleanly. (`cfg.strict = true` selects the decoder /repo has, `Props.C01.gen_strict`.) -/
theorem mtcp_stream_bundles (cfg : Dtn7.Bundle.Cfg) (hs : cfg.strict = true) (now : Nat)
    (items : List (Item Dtn7.Bundle.Bundle)) (hP : ∀ b ∈ bundlesOf items, Bundles.Sendable cfg now b) :
    server (Bundles.codec cfg now) (items.flatMap (encItem (Bundles.codec cfg now))) = (bundlesOf items, .eof) :=
  Lemmas.server_stream_on (Bundles.codec cfg now) (Bundles.codec_good cfg now) items hP

/-- **mtcp_prefix_bundles**: a connection cut after ANY number of bytes yields a prefix of the sent bundles — never a
different bundle. No hypothesis about the codec is left: "a strict prefix of a bundle's encoding is not accepted as
a bundle" is `bundle_truncated_rejected` below (C01's exact consumption + extension stability of the real parser,
`Dtn7.Lemmas.BundleStable`). -/
theorem mtcp_prefix_bundles (cfg : Dtn7.Bundle.Cfg) (hs : cfg.strict = true) (now : Nat)
    (items : List (Item Dtn7.Bundle.Bundle)) (hP : ∀ b ∈ bundlesOf items, Bundles.Sendable cfg now b) (k : Nat) :
    (server (Bundles.codec cfg now) ((items.flatMap (encItem (Bundles.codec cfg now))).take k)).1 <+: bundlesOf items :=
  Lemmas.server_prefix_on (Bundles.codec cfg now) (Bundles.codec_good cfg now)
    (fun b hb k hk x hx => Bundles.parse_truncated cfg now b hb k hk x ((Bundles.codec_parse_ok cfg now _ x).mp hx))
    items hP k

/-- No strict prefix of a sendable bundle's serialisation is accepted by `Bundle.UnmarshalCbor`. -/
theorem bundle_truncated_rejected (cfg : Dtn7.Bundle.Cfg) (hs : cfg.strict = true) (now : Nat)
    (b : Dtn7.Bundle.Bundle) (hb : Bundles.Sendable cfg now b) (k : Nat)
    (hk : k < (Dtn7.Bundle.serializeRaw b).length) (x : Dtn7.Bundle.Bundle × Bytes) :
    Dtn7.Bundle.parse cfg now ((Dtn7.Bundle.serializeRaw b).take k) ≠ .ok x :=
  Bundles.parse_truncated cfg now b hb k hk x

/-- What the real parser accepts on a byte string it accepts, with the same bundle, when more bytes follow. -/
theorem bundle_parse_extension_stable (cfg : Dtn7.Bundle.Cfg) (now : Nat) (p : Bytes) (b : Dtn7.Bundle.Bundle)
    (r t : Bytes) (h : Dtn7.Bundle.parse cfg now p = .ok (b, r)) :
    Dtn7.Bundle.parse cfg now (p ++ t) = .ok (b, r ++ t) :=
  Dtn7.Bundle.Stable.parse_stable cfg now p b r t h

/-- Non-vacuity of `Sendable` (the example bundle of C01: a fragment with ipn source, five blocks, CRC-16/32). -/
example : Bundles.Sendable {} 800000000000
    ⟨⟨7, 1 + 2 ^ 17, 1, .dtn [110, 49] [97, 47, 98], .ipn 23 42, .none, 799999990000, 7, 3600000, 256, 70000⟩,
     [⟨2, 1, 2, .prevNode (.dtn [103, 119] [])⟩, ⟨3, 0, 1, .hop 30 30⟩, ⟨4, 16, 0, .age 65536⟩,
      ⟨9, 0, 2, .generic 4000000000 [1, 2, 3]⟩, ⟨1, 0, 2, .payload [104, 105]⟩]⟩ := by
  decide +kernel

/-- Non-vacuity: a toy codec (one byte `b` encoded as `[b]`) satisfies the hypotheses … -/
def toyCodec : Codec UInt8 :=
  { enc := fun b => [b], parse := fun bs => match bs with | [] => .error .eof | b :: r => .ok (b, r) }

theorem toy_good : Lemmas.Good toyCodec :=
  Lemmas.Good.mk' (fun _ _ => rfl) (fun _ => by simp [toyCodec]) (fun _ => by simp [toyCodec])

example : server toyCodec ([Item.keepalive, .bundle 7, .keepalive, .keepalive, .bundle 9].flatMap (encItem toyCodec)) =
    ([7, 9], .eof) := by decide
example : (server toyCodec (([Item.bundle 7, .bundle 9].flatMap (encItem toyCodec)).take 3)).1 = [7] := by decide
end

/-! ## BBC -/
section
open Dtn7.Bbc

/-- **bbc_train_ok**: for a modem MTU ≥ 3 and a non-empty payload, no fragment exceeds the MTU, numbers are
1, 2, …, 15, 0, 1, …, START exactly on the first, END exactly on the last, and the pieces concatenate to the payload. -/
theorem bbc_train_ok (tid : UInt8) (mtu : Nat) (payload : Bytes) (hm : 3 ≤ mtu) (hp : payload ≠ []) :
    TrainOk tid mtu payload (train tid mtu payload) := by
  unfold train
  have hemp : payload.isEmpty = false := by cases payload <;> simp_all
  simp only [hemp, Bool.false_eq_true, ↓reduceIte]
  obtain ⟨h1, h2, h3, h4⟩ := Lemmas.trainFuel_ok tid (mtu - fragmentIdentifierSize)
    (by unfold fragmentIdentifierSize; omega) payload.length 0 true 0 payload rfl rfl hp (Nat.le_refl _)
  rw [Nat.zero_add] at h4
  refine ⟨h1, fun f hf => ?_, h4, h3⟩
  have := h2 f hf
  unfold fragmentIdentifierSize at this
  simp only [Frag.bytes, List.length_cons]
  omega

/-- **bbc_roundtrip**: ANY train meeting the Spec (so in particular the sender's), fed in order to a
connector without an entry for the id, is delivered exactly once, silently, and leaves no entry. -/
theorem bbc_roundtrip (decodes : Bytes → Bool) (tid : UInt8) (mtu : Nat) (payload : Bytes) (t : List Frag)
    (ht : TrainOk tid mtu payload t) (hd : decodes payload = true) :
    runSt decodes none t = (none, [.deliver tid payload]) := by
  obtain ⟨h1, _, h3, h4⟩ := ht
  have := Lemmas.run_whole decodes tid t h1 h3
  rw [Lemmas.pick_range, h4] at this
  rw [this]
  simp [Lemmas.endOut, hd]

/-- **bbc_safe**: whatever selection of the train's fragments arrives — drops, duplications, reorderings — as long
as consecutive arrivals are less than 16 positions away from being consecutive, everything the receiver
delivers is the identical payload. -/
theorem bbc_safe (decodes : Bytes → Bool) (tid : UInt8) (mtu : Nat) (payload : Bytes) (t : List Frag)
    (ht : TrainOk tid mtu payload t) (is : List Nat) (hin : ∀ j ∈ is, j < t.length) (hw : windowOk is = true) :
    ∀ o ∈ run decodes none (pick t is), o.isDeliver = true → o = .deliver tid payload := by
  obtain ⟨_, _, h3, h4⟩ := ht
  rw [← h4]
  exact Lemmas.safe decodes tid t h3 is hin hw

/-- **bbc_single_fault_signalled** (partial: D29). A single drop, duplication or adjacent swap makes the receiver
broadcast a failure fragment — EXCEPT the two classes `Fault.silent`: the END fragment (or the only fragment) is
lost; the only fragment of a one-fragment transmission is duplicated. -/
theorem bbc_single_fault_signalled_partial (decodes : Bytes → Bool) (tid : UInt8) (mtu : Nat) (payload : Bytes)
    (t : List Frag) (ht : TrainOk tid mtu payload t) (fault : Fault) (hv : fault.valid t.length)
    (hsil : ¬ fault.silent t.length) :
    ∃ o ∈ run decodes none (pick t (fault.apply t.length)), o.isFailFrag = true :=
  Lemmas.single_fault_signalled decodes tid t ht.1 ht.2.2.1 fault hv hsil

/-- D29, first class: the END fragment of a three-fragment train is lost — nothing at all comes out (no delivery,
no failure fragment) … -/
theorem drop_end_silent_witness :
    run (fun _ => true) none (pick (train 7 3 [1, 2, 3]) ((Fault.drop 2).apply 3)) = [] := by decide

/-- … and the stale entry then makes the NEXT transmission with that id fail although it arrives intact. -/
theorem drop_end_poisons_next_witness :
    (run (fun _ => true) none (pick (train 7 3 [1, 2, 3]) ((Fault.drop 2).apply 3) ++ train 7 3 [4, 5])).any
      Out.isFailFrag = true := by decide

/-- D29, second class: a one-fragment transmission received twice is delivered twice, silently. -/
theorem dup_single_redelivered_witness :
    run (fun _ => true) none (pick (train 7 5 [1, 2, 3]) ((Fault.dup 0).apply 1)) =
      [.deliver 7 [1, 2, 3], .deliver 7 [1, 2, 3]] := by decide

/-- Why "fewer than sixteen": exactly 16 consecutive fragments missing goes unnoticed by the receiver
(only the bundle's own checksums can catch it). -/
theorem sixteen_missing_witness :
    run (fun _ => true) none
        (pick (train 7 3 (List.replicate 19 5)) ([0] ++ List.range' 17 2)) =
      [.deliver 7 [5, 5, 5]] := by decide +kernel

/-- **bbc_concurrent**: for EVERY interleaving of fragments of different transmissions, what the connector
emits for id `k` is what a receiver that only saw id `k`'s fragments emits. -/
theorem bbc_concurrent (decodes : Bytes → Bool) (k : UInt8) (fs : List Frag) (tab : Table) :
    (runTable decodes tab fs).filter (·.tid == k) = run decodes (tab.get k) (fs.filter (·.tid == k)) :=
  Lemmas.runTable_project decodes k fs tab

/-- Safety and concurrency together: in ANY stream of fragments of any transmissions in which the fragments
carrying id `tid` are a selection of one well-formed train (consecutive arrivals less than 16 positions apart),
everything an initially empty connector delivers under that id is the train's payload. -/
theorem bbc_safe_concurrent (decodes : Bytes → Bool) (tid : UInt8) (mtu : Nat) (payload : Bytes) (t : List Frag)
    (ht : TrainOk tid mtu payload t) (is : List Nat) (hin : ∀ j ∈ is, j < t.length) (hw : windowOk is = true)
    (fs : List Frag) (hsel : fs.filter (·.tid == tid) = pick t is) :
    ∀ o ∈ runTable decodes [] fs, o.tid = tid → o.isDeliver = true → o = .deliver tid payload := by
  obtain ⟨_, _, h3, h4⟩ := ht
  rw [← h4]
  exact Lemmas.safe_concurrent decodes tid t h3 is hin hw [] rfl fs hsel

example : TrainOk 7 4 [1, 2, 3, 4, 5] (train 7 4 [1, 2, 3, 4, 5]) := by decide
example : (train 7 4 [1, 2, 3, 4, 5]).map (·.bytes) = [[7, 0x0C, 1, 2], [7, 0x10, 3, 4], [7, 0x1A, 5]] := by decide
example : windowOk ((Fault.swap 1).apply 4) = true := by decide
example : (Fault.drop 1).valid 3 ∧ ¬ (Fault.drop 1).silent 3 := by decide
end

end Dtn7.Props.C12
