/-
C06 — forwarded bundles are faithful copies and respect hop limit and lifetime.
The property theorems; the lemmas behind them are in `Dtn7.Lemmas.Forward` (the proofs about
`retry`, the hop-count reset and the translated Go hop-count methods stand here under their statements).

Setting of every theorem: one bundle `acc` accepted by node `node`; `run` = its reception at
`first = (residence ns, DTN clock ms)` followed by any number of retries `evs` (each with its own
residence time and clock reading), the convergence layer outcomes being arbitrary (a failed send
changes nothing but the bookkeeping of the routing algorithm). `(run …).1[n]? = some (some s)` reads
"the n-th run offered `s` to the convergence senders".
-/
import Dtn7.Model.Forward
import Dtn7.Lemmas.Forward
import Dtn7.Gen.C06

namespace Dtn7.Props.C06
open Dtn7.Forward

/-! ## The tie: facts regenerated from the Go source on every run -/

theorem gen_extraction_ok : Dtn7.Gen.C06.extractionFailures = [] := rfl

/-- Block type codes and block processing control flags hard-coded in the model. -/
theorem gen_constants :
    Dtn7.Gen.C06.typePayload = 1 ∧ Dtn7.Gen.C06.typePreviousNode = 6 ∧ Dtn7.Gen.C06.typeBundleAge = 7 ∧
    Dtn7.Gen.C06.typeHopCount = 10 ∧ Dtn7.Gen.C06.typeBinarySpray = 192 ∧ Dtn7.Gen.C06.typeDTLSR = 193 ∧
    Dtn7.Gen.C06.typeProphet = 194 ∧
    Dtn7.Gen.C06.flagStatusReportBlock = 2 ^ 1 ∧ Dtn7.Gen.C06.flagDeleteBundle = 2 ^ 2 ∧
    Dtn7.Gen.C06.flagRemoveBlock = 2 ^ 4 ∧
    builtinTypes = [Dtn7.Gen.C06.typePayload, Dtn7.Gen.C06.typePreviousNode,
      Dtn7.Gen.C06.typeBundleAge, Dtn7.Gen.C06.typeHopCount] := by and_intros <;> rfl

/-- The four block types every node registers (`GetExtensionBlockManager`). -/
theorem gen_builtin_blocks :
    Dtn7.Gen.C06.builtinBlocks = ["NewPayloadBlock", "NewPreviousNodeBlock", "NewBundleAgeBlock", "NewHopCountBlock"] := rfl

/-- Step order of `Core.forward` (`transform`, then the sends, then the hop count reset; the store
is never written with the modified bundle). -/
theorem gen_forward_steps :
    Dtn7.Gen.C06.forwardSteps =
      ["Increment", "bundleDeletion", "IsLifetimeExceeded", "bundleDeletion", "UpdateBundleAge", "bundleDeletion",
       "NewPreviousNodeBlock", "AddExtensionBlock", "NewPreviousNodeBlock",
       "senderForDestination", "SenderForBundle", "Send", "Wait", "Decrement"] := rfl

/-- The deletion is guarded by `Increment`'s result (`hopIncrement … .2`). -/
theorem gen_forward_hop_guard :
    Dtn7.Gen.C06.forwardHopLines = ["exceeded := hc.Increment()", "if exceeded", "hc.Decrement()"] := rfl

theorem gen_forward_age_guard :
    Dtn7.Gen.C06.forwardAgeLines =
      ["if bp.MustBundle().IsLifetimeExceeded()",
       "if age, err := bp.UpdateBundleAge(); err == nil",
       "if age >= bp.MustBundle().PrimaryBlock.Lifetime"] := rfl

/-- `hopIncrement Cfg.fixed`, `hopIsExceeded`, `hopDecrement`. -/
theorem gen_hop_methods :
    Dtn7.Gen.C06.hopIncrement =
      ["if hcb.Count == math.MaxUint8", "  return true", "hcb.Count++", "return hcb.IsExceeded()"] ∧
    Dtn7.Gen.C06.hopIsExceeded = ["return hcb.Count > hcb.Limit"] ∧
    Dtn7.Gen.C06.hopDecrement = ["hcb.Count--"] := ⟨rfl, rfl, rfl⟩

/-- `ageDelta Cfg.fixed`: the residence time enters in milliseconds; `stepAge` adds it in `uint64`. -/
theorem gen_update_bundle_age :
    Dtn7.Gen.C06.updateBundleAge =
      ["bndl, err := descriptor.Bundle()", "if err != nil", "  return 0, err",
       "ageBlock, err := bndl.ExtensionBlock(bpv7.ExtBlockTypeBundleAgeBlock)", "if err != nil",
       "  return 0, fmt.Errorf(\"no bundle age block exists\")",
       "age := ageBlock.Value.(*bpv7.BundleAgeBlock)",
       "return age.Increment(uint64(time.Since(descriptor.Timestamp).Milliseconds())), nil"] ∧
    Dtn7.Gen.C06.ageIncrement =
      ["newBabVal := uint64(*bab) + offset", "*bab = BundleAgeBlock(newBabVal)", "return newBabVal"] := ⟨rfl, rfl⟩

/-- `isLifetimeExceeded`. -/
theorem gen_is_lifetime_exceeded :
    Dtn7.Gen.C06.isLifetimeExceeded =
      ["if b.PrimaryBlock.CreationTimestamp.IsZeroTime()",
       "  if bab, err := b.ExtensionBlock(ExtBlockTypeBundleAgeBlock); err != nil",
       "    return true", "  else",
       "    return bab.Value.(*BundleAgeBlock).Age() > b.PrimaryBlock.Lifetime",
       "maxTimestamp := b.PrimaryBlock.CreationTimestamp.DtnTime().Time().Add( time.Duration(b.PrimaryBlock.Lifetime) * time.Millisecond)",
       "return time.Now().After(maxTimestamp)"] := rfl

/-- `addExtensionBlock` / `freeNum` / `blkLess` / `mapFirst` (first block of a type). -/
theorem gen_add_extension_block :
    Dtn7.Gen.C06.addExtensionBlock =
      ["var blockNumbers []uint64", "for i := 0; i < len(b.CanonicalBlocks); i++",
       "  blockNumbers = append(blockNumbers, b.CanonicalBlocks[i].BlockNumber)",
       "var blockNumber uint64 = 1", "if block.Value.BlockTypeCode() != ExtBlockTypePayloadBlock",
       "  blockNumber = 2", "for", "  flag := true", "  for _, no := range blockNumbers",
       "    if blockNumber == no", "      flag = false", "      break", "  if flag", "    break", "  else",
       "    blockNumber += 1", "block.BlockNumber = blockNumber",
       "b.CanonicalBlocks = append(b.CanonicalBlocks, block)", "b.sortBlocks()"] ∧
    Dtn7.Gen.C06.blockNumberLess =
      ["if cbns[i].BlockNumber == ExtBlockTypePayloadBlock", "  return false",
       "else if cbns[j].BlockNumber == ExtBlockTypePayloadBlock", "  return true", "else",
       "  return cbns[i].BlockNumber < cbns[j].BlockNumber"] ∧
    Dtn7.Gen.C06.extensionBlock =
      ["for i := 0; i < len(b.CanonicalBlocks); i++", "  cb := &b.CanonicalBlocks[i]",
       "  if cb.TypeCode() == blockType", "    return cb, nil",
       "return nil, fmt.Errorf(\"no CanonicalBlock with block type %d was found in Bundle\", blockType)"] := ⟨rfl, rfl, rfl⟩

/-- `recvBlocks`: last to first; known ⇒ skip; report, delete bundle, remove block in this order;
the stored bundle is replaced before dispatching (`Cfg.fixed.persistRemoval`). -/
theorem gen_receive :
    Dtn7.Gen.C06.receiveFlagLines =
      ["var blockRemoved = false",
       "for i := len(bp.MustBundle().CanonicalBlocks) - 1; i >= 0; i--",
       "if bpv7.GetExtensionBlockManager().IsKnown(cb.TypeCode())",
       "if cb.BlockControlFlags.Has(bpv7.StatusReportBlock)",
       "if cb.BlockControlFlags.Has(bpv7.DeleteBundle)",
       "if cb.BlockControlFlags.Has(bpv7.RemoveBlock)",
       "blockRemoved = true",
       "if blockRemoved"] ∧
    Dtn7.Gen.C06.receiveSteps = ["IsKnown", "bundleDeletion", "ReplaceBundle", "NotifyNewBundle", "dispatching"] ∧
    Dtn7.Gen.C06.persistRemoval = Cfg.fixed.persistRemoval := ⟨rfl, rfl, rfl⟩

/-- Every retry builds its descriptor from the bundle id only, i.e. reloads the stored bundle. -/
theorem gen_retry_from_store :
    Dtn7.Gen.C06.checkPendingSteps = ["QueryPending", "dispatching", "NewBundleDescriptor"] := rfl

/-! ## The property -/

/-- What `CheckValid` guarantees of an accepted bundle and the theorems use: at most one block of
each of the three rewritten types. -/
def AtMostOne (acc : Bundle) : Prop :=
  (acc.blocks.filter isHop).length ≤ 1 ∧ (acc.blocks.filter isAge).length ≤ 1 ∧
    (acc.blocks.filter isPrev).length ≤ 1

/-- The `uint64` age counter does not wrap during this history (≈ 585 million years). -/
def NoWrap (acc : Bundle) (times : List (Nat × Nat)) : Prop :=
  ∀ a, firstAge acc.blocks = some a → ∀ t ∈ times, a + t.1 / 1000000 < 2 ^ 64

/-- **Faithful copy** (all clauses of the first sentence at once, in the form the driver evaluates
on the implementation's outputs): whatever the n-th run hands to a convergence sender satisfies
`FaithfulCopy` with respect to the accepted bundle, with the exact residence time of that run. -/
theorem faithful_copy (known owned : List Nat) (node : Bytes) (acc : Bundle) (first : Nat × Nat)
    (evs : List (Nat × Nat)) (hv : AtMostOne acc) (hw : NoWrap acc (first :: evs))
    (n : Nat) (s : Bundle) (h : (run Cfg.fixed known node acc first evs).1[n]? = some (some s)) :
    ∃ (el now : Nat), (first :: evs)[n]? = some (el, now) ∧ FaithfulCopy known owned node acc s el el := by
  obtain ⟨P, el, now, hP, hn, ht⟩ := Lemmas.run_spec known node acc first evs n s h
  refine ⟨el, now, hn, ?_⟩
  have hmem : (el, now) ∈ first :: evs := List.mem_of_getElem? hn
  have fHop := Lemmas.processed_filter known acc P hP isHop (Lemmas.known_isHop known)
  have fAge := Lemmas.processed_filter known acc P hP isAge (Lemmas.known_isAge known)
  have fPrev := Lemmas.processed_filter known acc P hP isPrev (Lemmas.known_isPrev known)
  obtain ⟨c1, c2, c3⟩ := Lemmas.copy_untouched known owned node acc first evs n s h
  refine ⟨c1, c2, c3, ?_, ?_, ?_⟩
  · rw [← fHop]
    exact Lemmas.transform_hop node P el now s ht (by rw [fHop]; exact hv.1)
  · rw [← fAge]
    exact Lemmas.transform_age node P el now s ht (by rw [fAge]; exact hv.2.1)
      (fun a ha => hw a (by rw [← Lemmas.processed_firstAge known acc P hP]; exact ha) (el, now) hmem)
  · rw [← fPrev]
    exact Lemmas.transform_prev node P el now s ht (by rw [fPrev]; exact hv.2.2)

/-- **Primary block and payload are identical** to what was accepted (the primary block's bytes;
the payload block with its number, flags and CRC type). -/
theorem primary_and_payload_identical (known : List Nat) (node : Bytes) (acc : Bundle) (first : Nat × Nat)
    (evs : List (Nat × Nat)) (hv : AtMostOne acc) (hw : NoWrap acc (first :: evs))
    (n : Nat) (s : Bundle) (h : (run Cfg.fixed known node acc first evs).1[n]? = some (some s)) :
    s.primary.raw = acc.primary.raw ∧ (s.blocks.filter isPayload).Perm (acc.blocks.filter isPayload) :=
  ⟨by rw [(Lemmas.copy_untouched known [] node acc first evs n s h).1],
   (Lemmas.copy_untouched known [] node acc first evs n s h).2.1⟩

/-- **Other blocks unchanged**: the blocks other than hop count / bundle age / previous node / the
routing algorithm's own (`owned`) leave the node exactly as accepted — none changed, added or
dropped — except that unsupported blocks flagged for removal are gone. (As a multiset: appending a
previous-node block re-sorts the list by block number.) -/
theorem other_blocks_unchanged (known owned : List Nat) (node : Bytes) (acc : Bundle) (first : Nat × Nat)
    (evs : List (Nat × Nat)) (hv : AtMostOne acc) (hw : NoWrap acc (first :: evs))
    (n : Nat) (s : Bundle) (h : (run Cfg.fixed known node acc first evs).1[n]? = some (some s)) :
    (plain owned s.blocks).Perm ((plain owned acc.blocks).filter (fun b => !removable known b)) :=
  (Lemmas.copy_untouched known owned node acc first evs n s h).2.2

/-- **Hop count exactly one higher, in every run** (first transmission and n-th retry alike: each
retry starts from the stored bundle), block number, flags, CRC type and limit unchanged. -/
theorem hop_plus_one (known : List Nat) (node : Bytes) (acc : Bundle) (first : Nat × Nat)
    (evs : List (Nat × Nat)) (hv : AtMostOne acc) (hw : NoWrap acc (first :: evs))
    (a : Block) (l c : UInt8) (ha : acc.blocks.filter isHop = [a]) (hval : a.value = .hop l c)
    (n : Nat) (s : Bundle) (h : (run Cfg.fixed known node acc first evs).1[n]? = some (some s)) :
    ∃ c' : UInt8, s.blocks.filter isHop = [⟨a.num, a.flags, a.crc, .hop l c'⟩] ∧ c'.toNat = c.toNat + 1 := by
  obtain ⟨_, _, _, f⟩ := faithful_copy known [] node acc first evs hv hw n s h
  have := f.hop
  rw [ha] at this
  obtain ⟨c', h1, h2, _⟩ := Lemmas.hopOk_elim a _ l c hval this
  exact ⟨c', h1, h2⟩

/-- No hop count block is invented. -/
theorem hop_none (known : List Nat) (node : Bytes) (acc : Bundle) (first : Nat × Nat)
    (evs : List (Nat × Nat)) (hv : AtMostOne acc) (hw : NoWrap acc (first :: evs))
    (ha : acc.blocks.filter isHop = [])
    (n : Nat) (s : Bundle) (h : (run Cfg.fixed known node acc first evs).1[n]? = some (some s)) :
    s.blocks.filter isHop = [] := by
  obtain ⟨_, _, _, f⟩ := faithful_copy known [] node acc first evs hv hw n s h
  have := f.hop
  rw [ha] at this
  exact Lemmas.hopOk_nil_elim _ this

/-- **The `uint8` arithmetic of the hop count, over the whole 0..255 × 0..255 square** (the two halves
are the lemmas `hop_plus_one` / `hop_never_exceeds` and `exceeded_dropped` rest on; `go_increment_exact`
states it for the translated Go method): the
guard `forward` uses is true exactly when `count + 1 > limit` in ℕ, and when it is false the stored
byte is `count + 1` without wrap-around. -/
theorem hop_guard_exact (l c : UInt8) :
    ((hopIncrement Cfg.fixed l c).2 = true ↔ c.toNat + 1 > l.toNat) ∧
    ((hopIncrement Cfg.fixed l c).2 = false →
      (hopIncrement Cfg.fixed l c).1.toNat = c.toNat + 1 ∧ c.toNat + 1 ≤ l.toNat) :=
  ⟨Lemmas.hopIncrement_exceeded_iff l c, Lemmas.hopIncrement_ok l c⟩

/-! ### The hop-count arithmetic of the model IS the code's

`Dtn7.Gen.C06.Go.HopCountBlock.{IsExceeded,Increment,Decrement}` are produced on every run by the
Go→Lean translator (`extract/golean.go`) from `pkg/bpv7/extension_block_hop_count.go`; the theorems
below are therefore checked, at every build, against the code in /repo, for every `uint8` pair. -/

open Dtn7.Gen.C06.Go in
/-- The translated `Increment` is the model's `hopIncrement` with `Cfg.fixed`, i.e. `hopSaturates := true`:
/repo's `Increment` keeps 255 and reports "exceeded" instead of wrapping. -/
theorem go_increment_is_model (l c : UInt8) :
    HopCountBlock.Increment ⟨l, c⟩ =
      (⟨l, (hopIncrement Cfg.fixed l c).1⟩, (hopIncrement Cfg.fixed l c).2) := by
  unfold HopCountBlock.Increment HopCountBlock.IsExceeded hopIncrement
  by_cases h : c = 255
  · simp [h, Cfg.fixed]
  · simp [h, Cfg.fixed]

open Dtn7.Gen.C06.Go in
/-- The translated `IsExceeded` and `Decrement` are the model's. -/
theorem go_isExceeded_decrement_are_model (l c : UInt8) :
    HopCountBlock.IsExceeded ⟨l, c⟩ = hopIsExceeded l c ∧
    HopCountBlock.Decrement ⟨l, c⟩ = ⟨l, hopDecrement c⟩ := by
  constructor <;> rfl

open Dtn7.Gen.C06.Go in
/-- **Stated on the translated code itself**: over the whole 0..255 × 0..255 square `Increment`
reports "exceeded" exactly when `count + 1 > limit` in ℕ, never wraps, and otherwise stores
`count + 1`; the limit is untouched. -/
theorem go_increment_exact (l c : UInt8) :
    ((HopCountBlock.Increment ⟨l, c⟩).2 = true ↔ c.toNat + 1 > l.toNat) ∧
    ((HopCountBlock.Increment ⟨l, c⟩).2 = false →
      (HopCountBlock.Increment ⟨l, c⟩).1.Count.toNat = c.toNat + 1 ∧ c.toNat + 1 ≤ l.toNat) ∧
    (HopCountBlock.Increment ⟨l, c⟩).1.Limit = l := by
  rw [go_increment_is_model]
  exact ⟨(hop_guard_exact l c).1, (hop_guard_exact l c).2, rfl⟩

/-- **A transmitted hop count never exceeds its limit.** -/
theorem hop_never_exceeds (known : List Nat) (node : Bytes) (acc : Bundle) (first : Nat × Nat)
    (evs : List (Nat × Nat)) (hv : AtMostOne acc) (hw : NoWrap acc (first :: evs))
    (n : Nat) (s : Bundle) (h : (run Cfg.fixed known node acc first evs).1[n]? = some (some s))
    (l' c' : UInt8) (hs : firstHop s.blocks = some (l', c')) : c'.toNat ≤ l'.toNat := by
  obtain ⟨_, _, _, f⟩ := faithful_copy known [] node acc first evs hv hw n s h
  have hh := f.hop
  rw [Lemmas.firstHop_filter] at hs
  cases hb : acc.blocks.filter isHop with
  | nil =>
    rw [hb] at hh
    rw [Lemmas.hopOk_nil_elim _ hh] at hs
    cases hs
  | cons a t =>
    cases t with
    | cons y t' => have := hv.1; rw [hb] at this; simp at this
    | nil =>
      rw [hb] at hh
      obtain ⟨l, c, hval⟩ := (Lemmas.isHop_iff a).mp (Lemmas.head_of_filter hb)
      obtain ⟨c'', h1, _, h3⟩ := Lemmas.hopOk_elim a _ l c hval hh
      rw [h1] at hs
      simp at hs
      obtain ⟨rfl, rfl⟩ := hs
      exact h3

/-- **Exceeded ⇒ never transmitted and dropped**: if `count + 1 > limit` (any of the 65 536 pairs),
no run offers the bundle to a convergence sender and the store does not hold it afterwards. -/
theorem exceeded_dropped (known : List Nat) (node : Bytes) (acc : Bundle) (first : Nat × Nat)
    (evs : List (Nat × Nat)) (l c : UInt8) (hf : firstHop acc.blocks = some (l, c))
    (hx : c.toNat + 1 > l.toNat) :
    (run Cfg.fixed known node acc first evs).1 = (first :: evs).map (fun _ => none) ∧
    (run Cfg.fixed known node acc first evs).2 = none := by
  refine Lemmas.run_of_receive_none Cfg.fixed known node acc first evs ?_
  rcases Lemmas.receive_cases known node acc first.1 first.2 with hr | ⟨P, s, hP, ht, _⟩
  · exact hr
  · rw [Lemmas.transform_hop_refuse node P first.1 first.2 l c
      (by rw [Lemmas.processed_firstHop known acc P hP]; exact hf) hx] at ht
    cases ht

/-- **Bundle age grows by the residence time in milliseconds**: `sent.age = received.age +
elapsed / 10⁶` with `elapsed` the nanoseconds since reception at the moment of that run. -/
theorem age_by_residence (known : List Nat) (node : Bytes) (acc : Bundle) (first : Nat × Nat)
    (evs : List (Nat × Nat)) (hv : AtMostOne acc) (hw : NoWrap acc (first :: evs))
    (a : Block) (x : Nat) (ha : acc.blocks.filter isAge = [a]) (hval : a.value = .age x)
    (n : Nat) (s : Bundle) (h : (run Cfg.fixed known node acc first evs).1[n]? = some (some s)) :
    ∃ (el now : Nat), (first :: evs)[n]? = some (el, now) ∧
      s.blocks.filter isAge = [⟨a.num, a.flags, a.crc, .age (x + el / 1000000)⟩] := by
  obtain ⟨el, now, hn, f⟩ := faithful_copy known [] node acc first evs hv hw n s h
  have := f.age
  rw [ha] at this
  obtain ⟨y, h1, h2, h3⟩ := Lemmas.ageOk_elim el el a _ x hval this
  have : y = x + el / 1000000 := by omega
  subst this
  exact ⟨el, now, hn, h1⟩

/-- **The previous-node block names this node** — exactly one such block leaves the node; a
received one is overwritten in place (same number, flags, CRC type). -/
theorem prev_node_is_self (known : List Nat) (node : Bytes) (acc : Bundle) (first : Nat × Nat)
    (evs : List (Nat × Nat)) (hv : AtMostOne acc) (hw : NoWrap acc (first :: evs))
    (n : Nat) (s : Bundle) (h : (run Cfg.fixed known node acc first evs).1[n]? = some (some s)) :
    (∃ p, s.blocks.filter isPrev = [p] ∧ p.value = .prevNode node) ∧
    (∀ a, acc.blocks.filter isPrev = [a] →
      s.blocks.filter isPrev = [⟨a.num, a.flags, a.crc, .prevNode node⟩]) := by
  obtain ⟨_, _, _, f⟩ := faithful_copy known [] node acc first evs hv hw n s h
  refine ⟨Lemmas.prevOk_elim node _ _ _ f.prev, ?_⟩
  intro a ha
  have := f.prev
  rw [ha] at this
  exact Lemmas.prevOk_replace_elim node _ a _ this

/-- **Block numbers stay pairwise different** (the structural part of "parses as a valid bundle"
that forwarding could break: the appended previous-node block gets a number no other block uses). -/
theorem sent_block_numbers_distinct (known : List Nat) (node : Bytes) (acc : Bundle) (first : Nat × Nat)
    (evs : List (Nat × Nat)) (hn : (acc.blocks.map (·.num)).Nodup)
    (n : Nat) (s : Bundle) (h : (run Cfg.fixed known node acc first evs).1[n]? = some (some s)) :
    (s.blocks.map (·.num)).Nodup := by
  obtain ⟨P, el, now, hP, _, ht⟩ := Lemmas.run_spec known node acc first evs n s h
  exact Lemmas.transform_nodup _ node P el now s ht (Lemmas.processed_nodup known acc P hP hn)

open Dtn7.Forward.Lemmas in
/-- **The in-memory bundle is handed back as received**: after the sends `forward` decrements the
hop count again, so the shared `*HopCountBlock` shows the received count (not observable on the
wire — every retry reloads the stored bytes — but on the caller's bundle object). -/
theorem hop_reset_restores (node : Bytes) (b : Bundle) (el now : Nat) (s : Bundle) (l c : UInt8)
    (h : transform Cfg.fixed node b el now = .ok s) (h1 : (b.blocks.filter isHop).length ≤ 1)
    (hf : firstHop b.blocks = some (l, c)) : firstHop (afterSend s).blocks = some (l, c) := by
  have hh := transform_hop node b el now s h h1
  rw [firstHop_filter] at hf
  cases hb : b.blocks.filter isHop with
  | nil => rw [hb] at hf; cases hf
  | cons a t =>
    cases t with
    | cons y t' => rw [hb] at h1; simp at h1
    | nil =>
      rw [hb] at hf hh
      obtain ⟨l0, c0, hv⟩ := (isHop_iff a).mp (head_of_filter hb)
      simp [hv] at hf
      obtain ⟨rfl, rfl⟩ := hf
      obtain ⟨c', hs, hc', _⟩ := hopOk_elim a _ l0 c0 hv hh
      have hfs : firstHop s.blocks = some (l0, c') := by rw [firstHop_filter, hs]
      unfold afterSend
      rw [hfs]
      simp only
      rw [firstHop_filter, filter_mapFirst_same isHop _ (fun b hb => isHop_setHopCount _ b hb), hs]
      simp only [setHopCount, hopDecrement]
      have : c' - 1 = c0 := by
        apply UInt8.toNat_inj.mp
        rw [UInt8.toNat_sub_of_le]
        · have : (1 : UInt8).toNat = 1 := rfl
          omega
        · rw [UInt8.le_iff_toNat_le]
          have : (1 : UInt8).toNat = 1 := rfl
          omega
      rw [this]

/-- **Expired ⇒ never transmitted**: in a run at clock `now` after residence `el`, a bundle whose
lifetime has run out — by creation time, or by age (received age + residence) when the creation
time is zero — is not offered to any convergence sender. -/
theorem expired_never_sent (known : List Nat) (node : Bytes) (acc : Bundle) (first : Nat × Nat)
    (evs : List (Nat × Nat)) (hw : NoWrap acc (first :: evs)) (n el now : Nat)
    (hn : (first :: evs)[n]? = some (el, now))
    (hexp : expiredByCreation acc now = true ∨ expiredByAge acc el = true) (s : Bundle) :
    (run Cfg.fixed known node acc first evs).1[n]? ≠ some (some s) := by
  intro h
  obtain ⟨P, el', now', hP, hn', ht⟩ := Lemmas.run_spec known node acc first evs n s h
  rw [hn] at hn'
  cases hn'
  have hprim := Lemmas.processed_primary known acc P hP
  have hage := Lemmas.processed_firstAge known acc P hP
  obtain ⟨h1, h2⟩ := Lemmas.transform_not_expired node P el now s ht
  rw [hprim] at h1 h2
  rcases hexp with hc | ha
  · simp only [expiredByCreation, Bool.and_eq_true, bne_iff_ne, ne_eq, decide_eq_true_eq] at hc
    have := h1 hc.1
    omega
  · simp only [expiredByAge, Bool.and_eq_true, beq_iff_eq] at ha
    obtain ⟨hz, hm⟩ := ha
    cases hfa : firstAge acc.blocks with
    | none => rw [hfa] at hm; cases hm
    | some a =>
      rw [hfa] at hm
      simp only [decide_eq_true_eq] at hm
      have hlt := Lemmas.transform_age_lt node P el now s a ht (by rw [hage]; exact hfa)
        (hw a hfa (el, now) (List.mem_of_getElem? hn))
      rw [hprim] at hlt
      omega

/-- **Expired on reception ⇒ dropped at once**: nothing is ever transmitted and the store does not
hold the bundle. -/
theorem expired_on_reception_dropped (known : List Nat) (node : Bytes) (acc : Bundle) (first : Nat × Nat)
    (evs : List (Nat × Nat)) (hw : NoWrap acc [first])
    (hexp : expiredByCreation acc first.2 = true ∨ expiredByAge acc first.1 = true) :
    (run Cfg.fixed known node acc first evs).1 = (first :: evs).map (fun _ => none) ∧
    (run Cfg.fixed known node acc first evs).2 = none := by
  refine Lemmas.run_of_receive_none Cfg.fixed known node acc first evs ?_
  rcases Lemmas.receive_cases known node acc first.1 first.2 with hr | ⟨P, s, _, _, hr⟩
  · exact hr
  · have h0 : (run Cfg.fixed known node acc first []).1[0]? = some (some s) := by simp [run, hr]
    exact absurd h0 (expired_never_sent known node acc first [] hw 0 first.1 first.2 (by simp) hexp s)

/-- **Expired by age at a retry ⇒ dropped by that retry.** (`P` is what the store holds.) -/
theorem expired_by_age_retry_dropped (node : Bytes) (P : Bundle) (el now : Nat) (a : Nat)
    (hz : P.primary.created = 0) (hfa : firstAge P.blocks = some a) (hstored : a ≤ P.primary.lifetime)
    (hexp : a + el / 1000000 > P.primary.lifetime) (hw : a + el / 1000000 < 2 ^ 64) :
    retry Cfg.fixed node (some P) el now = (none, none) := by
  have hl : loadOk P now = true := by
    simp [loadOk, isLifetimeExceeded, hz, hfa]
    omega
  unfold retry
  simp only [hl, if_true]
  unfold forward
  cases ht : transform Cfg.fixed node P el now with
  | error e => rfl
  | ok s =>
    exfalso
    have := Lemmas.transform_age_lt node P el now s a ht hfa hw
    omega

/-- **Expired by creation time at a retry**: the stored bytes no longer pass `ParseBundle`'s validity
check, the retry sends nothing and leaves the item to the store's expiry sweep
(`Store.DeleteExpired`, index `Expires = creation + lifetime`, now in the past). This is the one
case where "dropped from the store" is not done by `forward` itself. -/
theorem expired_by_creation_retry_left_to_sweep (node : Bytes) (P : Bundle) (el now : Nat)
    (hc : P.primary.created ≠ 0) (hexp : now > P.primary.created + P.primary.lifetime) :
    retry Cfg.fixed node (some P) el now = (none, some P) := by
  have hl : loadOk P now = false := by
    simp [loadOk, isLifetimeExceeded, hc]
    omega
  simp [retry, hl]

/-! ## Witnesses: `Cfg.fixed` with one switch off -/

def wNode : Bytes := [1]
def wPrimary : Primary := ⟨[0x89], 1000, 3600000, 0⟩
def wBundle (bs : List Block) : Bundle := ⟨wPrimary, bs⟩

/-- D19: 5 ms of residence added 5000 to the millisecond counter. -/
theorem age_microseconds_witness :
    (match transform { Cfg.fixed with ageInMs := false } wNode
        (wBundle [⟨2, 0, 0, .age 1⟩, ⟨1, 0, 0, .payload []⟩]) 5000000 2000 with
     | .ok s => firstAge s.blocks
     | .error _ => none) = some 5001 := by decide

/-- D20: count 255 with limit 255 wrapped to 0 and was transmitted. -/
theorem hop_wrap_witness :
    (match transform { Cfg.fixed with hopSaturates := false } wNode
        (wBundle [⟨2, 0, 0, .hop 255 255⟩, ⟨1, 0, 0, .payload []⟩]) 0 2000 with
     | .ok s => firstHop s.blocks
     | .error _ => none) = some (255, 0) := by decide

/-- D21: the unsupported block flagged for removal (type 200, flags 0x10) is absent from the first
transmission and present again in the retry, because the stored bytes still contain it. -/
theorem removed_block_retransmitted_witness :
    (run { Cfg.fixed with persistRemoval := false } [] wNode
        (wBundle [⟨2, 16, 0, .other 200 [7]⟩, ⟨1, 0, 0, .payload []⟩]) (0, 2000) [(0, 2000)]).1.map
      (fun o => o.map (fun s => s.blocks.map (·.type))) = [some [6, 1], some [200, 6, 1]] := by decide

/-! ## Non-vacuity -/

def exAcc : Bundle :=
  wBundle [⟨2, 0, 1, .hop 10 3⟩, ⟨3, 1, 0, .age 100⟩, ⟨5, 16, 0, .other 200 [7]⟩, ⟨7, 0, 2, .other 42 [1, 2]⟩,
    ⟨1, 0, 2, .payload [9, 9]⟩]

example : AtMostOne exAcc := by unfold AtMostOne; decide
example : (run Cfg.fixed [] wNode exAcc (2000000, 2000) [(7000000, 2100), (12000000, 2200)]).1.map
    (fun o => o.map (fun s => (firstHop s.blocks, firstAge s.blocks, s.blocks.map (·.type)))) =
    [some (some (10, 4), some 102, [10, 7, 6, 42, 1]), some (some (10, 4), some 107, [10, 7, 6, 42, 1]),
     some (some (10, 4), some 112, [10, 7, 6, 42, 1])] := by decide
example : hopWouldExceed (wBundle [⟨2, 0, 0, .hop 255 255⟩]) = true := by decide
example : (run Cfg.fixed [] wNode (wBundle [⟨2, 0, 0, .hop 255 255⟩, ⟨1, 0, 0, .payload []⟩]) (0, 2000) [(0, 2000)]) =
    ([none, none], none) := by decide
example : expiredByCreation exAcc 3601001 = true := by decide
example : expiredByAge ⟨⟨[], 0, 500, 0⟩, [⟨2, 0, 0, .age 100⟩]⟩ 401000000 = true := by decide

end Dtn7.Props.C06
