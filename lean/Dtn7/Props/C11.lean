/-
C11 — TCPCLv4 transfers deliver the exact bundle, and success means delivered.
Property theorems only; helper lemmas live in `Dtn7.Lemmas.Tcpcl` and `Dtn7.Lemmas.TcpclDemux`.
-/
import Dtn7.Model.Tcpcl
import Dtn7.Lemmas.Tcpcl
import Dtn7.Lemmas.TcpclDemux
import Dtn7.Gen.C11
import Dtn7.Model.Bundle
import Dtn7.Model.BundleSpec
import Dtn7.Lemmas.BundleTop

namespace Dtn7.Props.C11
open Dtn7.Tcpcl

/-- The model the theorems below speak about is the one the code selects: the extractor reports
whether `NextSegment` peeks the stream after a full read (`Gen.C11.lookahead`). -/
theorem gen_lookahead : Dtn7.Gen.C11.lookahead = true := rfl

/-- The flag bits, message codes, ack-channel behaviour the model depends on. -/
theorem gen_constants :
    Dtn7.Gen.C11.segmentEnd = 1 ∧ Dtn7.Gen.C11.segmentStart = 2 ∧
    Dtn7.Gen.C11.xferSegment = 1 ∧ Dtn7.Gen.C11.xferAck = 2 ∧ Dtn7.Gen.C11.xferRefuse = 3 ∧
    Dtn7.Gen.C11.maxSegmentMtu = 1048576 ∧
    Dtn7.Gen.C11.nextSegmentHead =
      ["if mtu == 0", "  err = fmt.Errorf(\"segment MTU must not be zero\")", "  return",
       "else if mtu > MaxSegmentMtu", "  mtu = MaxSegmentMtu"] := by and_intros <;> rfl

/-- **Sender**: for every non-empty encoding and every segment size ≥ 1 the emitted train has no
segment larger than the size, concatenates to the encoding, START exactly on the first and END
exactly on the last segment. -/
theorem segments_ok (data : Bytes) (m : Nat) (hm : 0 < m) (hd : data ≠ []) :
    SegmentsOk data m (segments true m data) :=
  (Lemmas.segments_ok_iff true data m hm hd).mpr (.inl rfl)

/-- The sender limits the segment size to `MaxSegmentMtu` whatever the peer declared: the train still
meets the Spec for the DECLARED size (segments are only smaller). -/
theorem segments_ok_capped (data : Bytes) (cap m : Nat) (hm : 0 < m) (hc : 0 < cap) (hd : data ≠ []) :
    SegmentsOk data m (segmentsCapped true cap m data) := by
  unfold segmentsCapped effMtu
  have hne : cap ≠ 0 := Nat.pos_iff_ne_zero.mp hc
  simp only [hne, ↓reduceIte]
  have h := segments_ok data (min m cap) (by omega) hd
  exact ⟨fun s hs => Nat.le_trans (h.1 s hs) (Nat.min_le_left m cap), h.2.1, h.2.2.1, h.2.2.2⟩

/-- The variant without the look-ahead (`segments false`, D12; /repo has `Gen.C11.lookahead = true`) satisfies the
statement only when the segment size does not divide the length … -/
theorem segments_ok_nolookahead_partial (data : Bytes) (m : Nat) (hm : 0 < m) (hd : data ≠ [])
    (hdiv : ¬ m ∣ data.length) : SegmentsOk data m (segments false m data) :=
  (Lemmas.segments_ok_iff false data m hm hd).mpr (.inr hdiv)

/-- … and this is the witness that it fails otherwise (two bytes, size 2: no END at all). -/
theorem segments_nolookahead_witness : ¬ SegmentsOk [1, 2] 2 (segments false 2 [1, 2]) :=
  fun h => ((Lemmas.segments_ok_iff false [1, 2] 2 (by decide) (by simp)).mp h).elim (fun h => nomatch h)
    (fun h => h ⟨1, rfl⟩)

/-- **Receiver**: any train that meets the Spec (not only the model's) makes a fresh receiver hand
exactly the sent bytes to the bundle parser, once. -/
theorem receiver_exact (data : Bytes) (m : Nat) (segs : List Seg) (h : SegmentsOk data m segs) :
    (receive {} segs).2 = some data := by
  obtain ⟨_, h2, _, h4⟩ := h
  have := Lemmas.receive_ends segs {} rfl h4
  simpa [h2] using this

/-- **transfer_delivers_bundle** — sender, receiver and the real bundle codec (C01) composed: for EVERY bundle the
wire can carry (`Encodable`) that is valid at the receiver's clock, and every peer-declared segment size `m ≥ 1`
(the sender additionally caps segments at `cap > 0`), feeding the sender's train for the bundle's serialisation
into a fresh receiver hands exactly those bytes to the bundle parser, and the parser (`Bundle.UnmarshalCbor`:
decode + `CheckValid`) returns the very bundle that was sent, with nothing left over. "The receiver hands up
exactly one bundle identical to the one sent." -/
theorem transfer_delivers_bundle (cfg : Dtn7.Bundle.Cfg) (hs : cfg.strict = true) (now : Nat)
    (b : Dtn7.Bundle.Bundle) (he : Dtn7.Bundle.Encodable cfg b)
    (hv : Dtn7.Bundle.checkValid cfg.strict now b = true) (cap m : Nat) (hm : 0 < m) (hc : 0 < cap) :
    Dtn7.Bundle.serialize b = .ok (Dtn7.Bundle.serializeRaw b) ∧
    (receive {} (segmentsCapped true cap m (Dtn7.Bundle.serializeRaw b))).2 = some (Dtn7.Bundle.serializeRaw b) ∧
    Dtn7.Bundle.parse cfg now (Dtn7.Bundle.serializeRaw b) = .ok (b, []) := by
  have hne : Dtn7.Bundle.serializeRaw b ≠ [] := by simp [Dtn7.Bundle.serializeRaw]
  obtain ⟨h1, h2⟩ := Dtn7.Bundle.Lemmas.parse_serialize cfg hs now b he hv []
  rw [List.append_nil] at h2
  exact ⟨h1, receiver_exact _ m _ (segments_ok_capped _ cap m hm hc hne), h2⟩

/-- Without an END nothing is ever handed up (why D12 matters). -/
theorem receiver_needs_end (segs : List Seg) (h : ∀ s ∈ segs, s.fin = false) :
    (receive {} segs).2 = none :=
  Lemmas.receive_no_end segs {} (by rfl) h

/-- **Send returns success only after the final acknowledgement**: `ok` implies that the sender
goroutine reported "all `l` bytes written" and an acknowledgement for exactly `l` bytes arrived
(or `l = 0`, impossible for a bundle), or an acknowledgement for 0 bytes arrived (impossible for an
honest receiver since every segment of a non-empty encoding is non-empty). -/
theorem send_ok_imp (evs : List Ev) (h : send evs = .ok) :
    (∃ l, Ev.allSent l ∈ evs ∧ (l = 0 ∨ Ev.ack l ∈ evs)) ∨ Ev.ack 0 ∈ evs :=
  Lemmas.send_ok_imp evs h

/-- **Success means delivered.** Let the receiver have obtained the first `k` segments of the
train so far (any `k`, the network decides) and let every acknowledgement that reached `Send` be
one the honest receiver emitted for those `k` segments. If `Send` returns success then the
receiver has handed exactly the sent bytes to the bundle parser — i.e. it got *all* segments
including the END one. (Cumulative acknowledgement lengths are strictly increasing because every
segment is non-empty, so the length-`L` acknowledgement can only stem from the last segment.) -/
theorem send_success_sound (data : Bytes) (m : Nat) (hm : 0 < m) (hd : data ≠ [])
    (k : Nat) (evs : List Ev)
    (honest : ∀ n, Ev.ack n ∈ evs →
      RxOut.ack n ∈ (receive {} ((segments true m data).take k)).1)
    (sender : ∀ l, Ev.allSent l ∈ evs → l = data.length)
    (h : send evs = .ok) :
    (receive {} ((segments true m data).take k)).2 = some data :=
  Lemmas.send_success_sound data m hm hd k evs honest sender h

/-- Refusal, a send error, or a timeout before success make `Send` fail. -/
theorem send_fails_on (evs₁ evs₂ : List Ev) (e : Ev)
    (he : e = .refuse ∨ e = .sendErr ∨ e = .timeout)
    (hpre : sendLoop 0 0 evs₁ = .blocked) :
    send (evs₁ ++ e :: evs₂) = .error :=
  Lemmas.send_fails_on evs₁ evs₂ e he 0 0 hpre

/-- No final acknowledgement ⇒ no success. -/
theorem send_no_final_ack (l : Nat) (hl : l ≠ 0) (evs : List Ev)
    (hs : ∀ k, Ev.allSent k ∈ evs → k = l) (hn : ∀ n, Ev.ack n ∈ evs → n ≠ l ∧ n ≠ 0) :
    send evs ≠ .ok := by
  intro h
  rcases send_ok_imp evs h with ⟨k, hk, h0 | hak⟩ | h0
  · exact hl (hs k hk ▸ h0)
  · exact (hn k hak).1 (hs k hk)
  · exact (hn 0 h0).2 rfl

/-- **Demultiplexing**: two transfers with different ids do not disturb each other — a step for
id `a` leaves the receiver state of every other id unchanged. -/
theorem demux_independent (tab : Table) (m : Msg) (tab' : Table) (d) (k : Nat) (hk : k ≠ m.tid)
    (h : demuxStep tab m = some (tab', d)) : tab'.get k = tab.get k :=
  Lemmas.demuxStep_other tab m tab' d k hk h

/-- **Concurrent transfers**: let `ms` be ANY interleaving of segment trains with pairwise
different transfer ids — for every id `k` the segments of `k` inside `ms` are either absent or a
train that meets the Spec for `data k` (for instance the sender's, by `segments_ok`). Then the
receiving manager hands up, for every such `k`, exactly one bundle, `data k`, and nothing else. -/
theorem demux_exact (data : Nat → Bytes) (m : Nat) (ms : List Msg)
    (h : ∀ k, Lemmas.proj k ms = [] ∨ SegmentsOk (data k) m (Lemmas.proj k ms))
    (k : Nat) (d : Bytes) :
    (demux [] ms).count (k, d) = if Lemmas.proj k ms ≠ [] ∧ d = data k then 1 else 0 :=
  Lemmas.demux_exact data ms [] (Lemmas.good_fresh data m ms h) k d

/-! Non-vacuity: concrete instances of the hypotheses. -/
example : SegmentsOk [1, 2, 3, 4, 5] 2 (segments true 2 [1, 2, 3, 4, 5]) := by decide
example : SegmentsOk [1, 2, 3, 4] 2 (segments true 2 [1, 2, 3, 4]) := by decide
example : demux [] [⟨1, ⟨true, false, [1]⟩⟩, ⟨2, ⟨true, false, [7]⟩⟩, ⟨1, ⟨false, true, [2]⟩⟩, ⟨2, ⟨false, true, [8]⟩⟩]
    = [(1, [1, 2]), (2, [7, 8])] := by decide
example : send [.ack 2, .ack 4, .allSent 4] = .ok := by decide
example : send [.ack 2, .allSent 4, .timeout] = .error := by decide
example : (receive {} (segments true 2 [1, 2, 3, 4])).1 = [.ack 2, .ack 4] := by decide

end Dtn7.Props.C11
