/-
C10 — reassembly accepts any covering set of fragments and nothing else; never panics.
The property theorems; the lemmas behind them are in `Dtn7.Lemmas.Reassemble` (sort, sweep, merge, the
store's parts), `Dtn7.Lemmas.Intervals` (the sweep over intervals) and `Dtn7.Lemmas.FragReasm`.
-/
import Dtn7.Model.Fragment
import Dtn7.Model.Reassemble
import Dtn7.Lemmas.Reassemble
import Dtn7.Lemmas.FragReasm
import Dtn7.Gen.C10

namespace Dtn7.Props.C10
open Dtn7.Frag

/-! ### Facts regenerated from the source on every run -/

theorem gen_extraction_complete : Dtn7.Gen.C10.extractionFailures = [] := rfl

/-- The variant of the code the theorems speak about: the running end index only grows and the merge
skips covered fragments (D3); the store keeps the longer fragment of a known offset. -/
theorem gen_code_variant :
    Dtn7.Gen.C10.maxEnd = true ∧ Dtn7.Gen.C10.mergeSkipsCovered = true ∧ Dtn7.Gen.C10.keepLonger = true ∧
    Dtn7.Gen.C10.flagIsFragment = flagIsFragment := by and_intros <;> rfl

/-- `prepareReassembly`: the guards in source order, the comparator of the sort, the two assignments
to the running end index. -/
theorem gen_prepare :
    Dtn7.Gen.C10.prepareConds =
      ["if len(bs) == 0", "range bs", "if !b.PrimaryBlock.BundleControlFlags.Has(IsFragment)",
       "if fragOff := b.PrimaryBlock.FragmentOffset; fragOff > lastIndex",
       "if payloadBlock, err := b.PayloadBlock(); err != nil",
       "if fragEnd := fragOff + uint64(len(payloadBlock.Value.(*PayloadBlock).Data())); fragEnd > lastIndex",
       "if total := bs[0].PrimaryBlock.TotalDataLength; total != lastIndex"] ∧
    Dtn7.Gen.C10.prepareSortLess = ["bs[i].PrimaryBlock.FragmentOffset < bs[j].PrimaryBlock.FragmentOffset"] ∧
    Dtn7.Gen.C10.prepareLastIndex = ["lastIndex := uint64(0)", "lastIndex = fragEnd"] := ⟨rfl, rfl, rfl⟩

/-- `mergeFragmentPayload`: guards, the slice expression, the running end index. -/
theorem gen_merge :
    Dtn7.Gen.C10.mergeConds =
      ["range bs", "if fragPayloadBlock, err = b.PayloadBlock(); err != nil",
       "if fragStartIndex+len(fragPayloadData) <= lastIndex"] ∧
    Dtn7.Gen.C10.mergeData = ["data = append(data, fragPayloadData[lastIndex-fragStartIndex:]...)"] ∧
    Dtn7.Gen.C10.mergeLastIndex = ["lastIndex := 0", "lastIndex = fragStartIndex + len(fragPayloadData)"] := ⟨rfl, rfl, rfl⟩

/-- `ReassembleFragments` = prepare, copy the blocks of `bs[0]`, merge; `IsBundleReassemblable` = prepare;
the store's `IsComplete` / `Load` call exactly these on the parts. -/
theorem gen_entry_points :
    Dtn7.Gen.C10.reassembleConds =
      ["if err = prepareReassembly(bs); err != nil", "range bs[0].CanonicalBlocks",
       "if cb.TypeCode() == ExtBlockTypePayloadBlock",
       "if payload, payloadErr := mergeFragmentPayload(bs); payloadErr != nil", "if pb0Err != nil"] ∧
    Dtn7.Gen.C10.isReassemblable = ["return prepareReassembly(bs) == nil"] ∧
    Dtn7.Gen.C10.itemIsComplete =
      ["if !bi.Fragmented", "  return true", "parts, err := bi.bundleParts()",
       "return err == nil && bpv7.IsBundleReassemblable(parts)"] ∧
    Dtn7.Gen.C10.itemLoadCalls = ["len", "bi.Parts[].Load", "bi.bundleParts", "bpv7.ReassembleFragments"] := by and_intros <;> rfl

/-! ### Property theorems (`maxEnd = true`: the variant of /repo, `gen_code_variant`) -/

/-- **Reassemblable ⇔ covering**, for every non-empty collection of fragments of one bundle (flag set,
one total) — duplicates, overlaps and containment included — and for *every* arrangement `s` of it that
is sorted by offset (whatever order the unstable `sort.Slice` leaves equal offsets in). -/
theorem reassemble_iff_covers_sorted (fs s : List RFrag) (total : Nat) (hne : fs ≠ [])
    (hf : ∀ f ∈ fs, f.isFrag = true ∧ f.total = total) (hperm : s.Perm fs) (hs : SortedOff s) :
    checkSorted true s = .ok () ↔ Covers fs total := by
  have hsne : s ≠ [] := fun e => hne (e ▸ hperm).symm.eq_nil
  rw [← covers_perm_iff]
  · exact Lemmas.checkSorted_iff s total hsne hs (fun f h => hf f (hperm.mem_iff.mp h))
  · exact hperm
where
  covers_perm_iff {s fs : List RFrag} {t : Nat} (hp : s.Perm fs) : Covers s t ↔ Covers fs t :=
    Lemmas.covers_perm hp t

/-- **Reassemblable ⇔ covering**, with the model's own sort: for every multiset in every order. -/
theorem reassemble_iff_covers (fs : List RFrag) (total : Nat) (hne : fs ≠ [])
    (hf : ∀ f ∈ fs, f.isFrag = true ∧ f.total = total) :
    isReassemblable true fs = true ↔ Covers fs total := by
  have h := reassemble_iff_covers_sorted fs (sortOff fs) total hne hf (Lemmas.perm_sortOff fs)
    (Lemmas.sorted_sortOff fs)
  unfold isReassemblable prepareReassembly
  rw [← h]
  cases checkSorted true (sortOff fs) <;> simp

/-- **Exactness**: a covering collection of genuine fragments of a bundle with payload `p` (every
fragment's bytes are `p`'s slice at its offset), in every order, reassembles to exactly `p` and to the
extension blocks `B` that the offset-0 fragments carry. -/
theorem reassemble_exact (p : List UInt8) (B : List Nat) (fs s : List RFrag) (hne : fs ≠ [])
    (hf : ∀ f ∈ fs, FragOf p f) (hc : Covers fs p.length) (hb : ∀ f ∈ fs, f.off = 0 → f.blocks = B)
    (hperm : s.Perm fs) (hs : SortedOff s) : reassembleSorted true s = .ok p B := by
  have hsne : s ≠ [] := fun e => hne (e ▸ hperm).symm.eq_nil
  exact Lemmas.reassembleSorted_exact p B s hsne hs (fun f h => hf f (hperm.mem_iff.mp h))
    ((Lemmas.covers_perm hperm _).mpr hc) (fun f h => hb f (hperm.mem_iff.mp h))

/-- **Never data that differs from the original**: whatever genuine fragments are given (covering or
not), a successful reassembly returns the original payload. -/
theorem reassemble_never_wrong (p : List UInt8) (fs : List RFrag) (hf : ∀ f ∈ fs, FragOf p f)
    (q : List UInt8) (B : List Nat) (h : reassemble true fs = .ok q B) : q = p :=
  Lemmas.reassembleSorted_sound p (sortOff fs)
    (fun f hm => hf f ((Lemmas.perm_sortOff fs).mem_iff.mp hm)) q B h

/-- **Never a panic**: on *any* input (genuine fragments or not, any order) no slice expression of the
merge goes out of range — the model's slicing is a checked operation and `panic` is its failure value. -/
theorem reassemble_total (fs : List RFrag) : reassemble true fs ≠ .panic :=
  Lemmas.reassembleSorted_no_panic (sortOff fs)

/-- … and likewise for every sorted arrangement an unstable sort may produce. -/
theorem reassemble_total_sorted (s : List RFrag) : reassembleSorted true s ≠ .panic :=
  Lemmas.reassembleSorted_no_panic s

/-- **Fragments of a fragment keep offsets relative to the original payload and the original total**
(D2; the fragmentation model of C09): cutting the fragment `[off, off + n)` of `p` again yields genuine
fragments of `p`. -/
theorem refragment_absolute (x : In) (p : List UInt8) (fs : List Frag) (hfr : x.isFragment = true)
    (hp : x.payload = (p.drop x.off).take x.payload.length) (hin : x.off + x.payload.length ≤ p.length)
    (ht : x.total = p.length) (h : fragment Cfg.fixed x = .frags fs) : ∀ f ∈ fs, FragOf p f.toR :=
  fun f hf => (Lemmas.refragment_absolute _ rfl x p fs hfr hp hin ht h f hf).1

/-- **The store's completeness test**: the parts the store holds after the fragments were pushed in
any order (per (offset, total) the longest one) are complete exactly when the *pushed* fragments cover
the payload. -/
theorem store_complete_iff_covers (fs : List RFrag) (total : Nat) (hne : fs ≠ [])
    (hf : ∀ f ∈ fs, f.isFrag = true ∧ f.total = total) :
    storeIsComplete true true fs = true ↔ Covers fs total := by
  have hdom := Lemmas.storeParts_dom fs []
  simp only [List.nil_append] at hdom
  unfold storeIsComplete
  rw [reassemble_iff_covers (storeParts true fs) total (Lemmas.storeParts_ne_nil true fs hne)
    (fun f h => hf f (Lemmas.storeParts_sub true fs f h))]
  exact ⟨fun h => Lemmas.covers_of_dom total hdom.2 hdom.1 h, fun h => Lemmas.covers_of_dom total hdom.1 hdom.2 h⟩

/-! ### The other variants (`maxEnd = false`, `keepLonger = false`; not /repo's): witnesses -/

def frag (off len total : Nat) : RFrag := ⟨true, off, total, List.replicate len 0, []⟩

/-- D3, false negative: `[0,4) [1,2) [4,6)` covers `[0,6)`, yet the sweep with `maxEnd = false` (end index
overwritten by the contained fragment) reports a gap. -/
theorem old_reassemble_iff_covers_witness :
    Covers [frag 0 4 6, frag 1 1 6, frag 4 2 6] 6 ∧
      isReassemblable false [frag 0 4 6, frag 1 1 6, frag 4 2 6] = false := by decide

/-- D3, panic: `[0,10) [2,5) [5,10)` passes the sweep with `maxEnd = false` and the merge then slices the
3-byte fragment at index 8. -/
theorem old_reassemble_total_witness :
    reassemble false [frag 0 10 10, frag 2 3 10, frag 5 5 10] = .panic := rfl

/-- The store with `keepLonger = false`: `[0,5)` arrives first, the complete `[0,15)` is dropped. -/
theorem old_store_witness :
    Covers [frag 0 5 15, frag 0 15 15] 15 ∧ storeIsComplete false true [frag 0 5 15, frag 0 15 15] = false := by
  decide

/-! ### Non-vacuity -/

example : isReassemblable true [frag 4 2 6, frag 1 1 6, frag 0 4 6] = true := by decide
example : Covers [frag 4 2 6, frag 1 1 6, frag 0 4 6] 6 := by decide
example : ¬ Covers [frag 4 2 6, frag 0 3 6] 6 ∧ isReassemblable true [frag 4 2 6, frag 0 3 6] = false := by decide
example : reassemble true [⟨true, 2, 4, [3, 4], []⟩, ⟨true, 0, 4, [1, 2, 3], [7, 10]⟩, ⟨true, 1, 4, [2], [7]⟩] =
    .ok [1, 2, 3, 4] [7, 10] := by decide
example : FragOf [1, 2, 3, 4] ⟨true, 1, 4, [2, 3], []⟩ := by decide
example : storeIsComplete true true [frag 0 5 15, frag 0 15 15] = true := by decide
example : reassemble true [frag 0 10 10, frag 2 3 10, frag 5 5 10] = .ok (List.replicate 10 0) [] := by decide

end Dtn7.Props.C10
