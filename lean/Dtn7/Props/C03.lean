/-
C03 — block CRCs are computed per specification and every mismatch is rejected.
Property theorems only; definitions in `Dtn7.Model.CrcSpec` (Spec: bit-serial CRC-16/X-25 and CRC-32C,
independent block delimiter) and `Dtn7.Model.Crc` (model of dtn7's check); helper lemmas in
`Dtn7.Lemmas.Crc` (CBOR heads: `Dtn7.Lemmas.Cbor`, `Dtn7.Lemmas.CborExtra`).
The bundle codec of C01/C02 computes its CRC fields with other definitions (`Dtn7.CrcNat`); no theorem
relates them to `crcX25` / `crc32c`, so C03 says nothing about the bundles of C01.
-/
import Dtn7.Model.CrcSpec
import Dtn7.Model.Crc
import Dtn7.Lemmas.Crc
import Dtn7.Gen.C03

namespace Dtn7.Props.C03
open Dtn7.Crc Dtn7.Cbor

/-! ## Facts regenerated from the source (a change of any of them breaks the named theorem) -/

theorem gen_no_extraction_failures : Dtn7.Gen.C03.extractionFailures = [] := rfl

/-- CRC type codes and the protocol version the model parser expects. -/
theorem gen_constants :
    Dtn7.Gen.C03.crcNo = 0 ∧ Dtn7.Gen.C03.crc16 = 1 ∧ Dtn7.Gen.C03.crc32 = 2 ∧
    Dtn7.Gen.C03.dtnVersion = dtnVersion ∧ Dtn7.Gen.C03.isFragment = 1 := by and_intros <;> rfl

/-- The package builds its tables from the CCITT (reflected 0x8408) and Castagnoli polynomials, and the
libraries' constants are the polynomials of the Spec. -/
theorem gen_tables :
    Dtn7.Gen.C03.crc16tableExpr = "crc16.MakeTable(crc16.CCITT)" ∧
    Dtn7.Gen.C03.crc32tableExpr = "crc32.MakeTable(crc32.Castagnoli)" ∧
    Dtn7.Gen.C03.libCrc16CCITT = P16.toNat ∧ Dtn7.Gen.C03.libCrc32Castagnoli = P32.toNat := by and_intros <;> rfl

/-- `howeyc/crc16`: `MakeTable` builds the reflected table (one entry = eight zero-input clocks of the
register), `Checksum` = `Update(0, …)` = complement, table-driven update, complement — i.e. init 0xFFFF,
final complement: X-25. -/
theorem gen_crc16_library :
    Dtn7.Gen.C03.libCrc16MakeTableSkeletonExported = ["return makeTable(poly)"] ∧
    Dtn7.Gen.C03.libCrc16MakeTableSkeleton =
      ["t := &Table{ reversed: false, }", "for i := 0; i < 256; i++", "  crc := uint16(i)",
       "  for j := 0; j < 8; j++", "    if crc&1 == 1", "      crc = (crc >> 1) ^ poly", "    else",
       "      crc >>= 1", "  t.entries[i] = crc", "return t"] ∧
    Dtn7.Gen.C03.libCrc16ChecksumSkeletonExported = ["return Update(0, tab, data)"] ∧
    Dtn7.Gen.C03.libCrc16UpdateSkeletonExported =
      ["if tab.reversed", "  return updateBitsReversed(crc, tab, p)", "else if tab.noXOR",
       "  return updateNoXOR(crc, tab, p)", "else", "  return update(crc, tab, p)"] ∧
    Dtn7.Gen.C03.libCrc16UpdateSkeleton =
      ["crc = ^crc", "for _, v := range p", "  crc = tab.entries[byte(crc)^v] ^ (crc >> 8)", "return ^crc"] := by and_intros <;> rfl

/-- `calculateCRCBuff`: the empty CRC item (2 resp. 4 zero bytes as a byte string) is appended to the
buffer *before* the checksum of the whole buffer is taken and stored big-endian. -/
theorem gen_calculateCRCBuff :
    Dtn7.Gen.C03.calculateCRCBuffSkeleton =
      ["data, typeErr := emptyCRC(crcType)", "if typeErr != nil", "  return nil, typeErr",
       "if err := cboring.WriteByteString(data, buff); err != nil", "  return nil, err",
       "switch crcType", "case CRCNo:", "case CRC16:",
       "  binary.BigEndian.PutUint16(data, crc16.Checksum(buff.Bytes(), crc16table))", "case CRC32:",
       "  binary.BigEndian.PutUint32(data, crc32.Checksum(buff.Bytes(), crc32table))", "default:",
       "  return nil, fmt.Errorf(\"unknown CRCType %d\", crcType)", "return data, nil"] ∧
    Dtn7.Gen.C03.emptyCRCSkeleton =
      ["switch crcType", "case CRCNo:", "  arr = nil", "case CRC16:", "  arr = make([]byte, 2)",
       "case CRC32:", "  arr = make([]byte, 4)", "default:",
       "  err = fmt.Errorf(\"unknown CRCType %d\", crcType)", "return"] := ⟨rfl, rfl⟩

/-- Both parsers: the CRC is computed from the tee'd bytes, the transmitted value is read, and
`bytes.Equal(crcCalc, crcVal)` guards acceptance (`checkField` of the model). -/
theorem gen_guards :
    Dtn7.Gen.C03.primaryBlockGuard =
      ["if blockLen == 9 || blockLen == 11",
       "  if crcCalc, crcErr := calculateCRCBuff(crcBuff, pb.CRCType); crcErr != nil", "    return crcErr",
       "  else if crcVal, err := cboring.ReadByteString(r); err != nil", "    return err",
       "  else if !bytes.Equal(crcCalc, crcVal)",
       "    return fmt.Errorf(\"invalid CRC value: %x instead of expected %x\", crcVal, crcCalc)",
       "  else", "    pb.CRC = crcVal"] ∧
    Dtn7.Gen.C03.canonicalBlockGuard =
      ["if blockLen == 6",
       "  if crcCalc, crcErr := calculateCRCBuff(crcBuff, cb.CRCType); crcErr != nil", "    return crcErr",
       "  else if crcVal, err := cboring.ReadByteString(r); err != nil", "    return err",
       "  else if !bytes.Equal(crcCalc, crcVal)",
       "    return fmt.Errorf(\"invalid CRC value: %x instead of expected %x\", crcVal, crcCalc)",
       "  else", "    cb.CRC = crcVal"] := ⟨rfl, rfl⟩

/-- What goes into the CRC buffer: the primary block tees everything from the array head on; the
canonical block replays the array head (`canonicalBuf`) and tees the rest. The serialisers mirror it. -/
theorem gen_crc_buffer :
    Dtn7.Gen.C03.primaryBlockCrcBuffLines =
      ["crcBuff := new(bytes.Buffer)", "r = io.TeeReader(r, crcBuff)",
       "if crcCalc, crcErr := calculateCRCBuff(crcBuff, pb.CRCType); crcErr != nil"] ∧
    Dtn7.Gen.C03.canonicalBlockCrcBuffLines =
      ["crcBuff := new(bytes.Buffer)", "if err := cboring.WriteArrayLength(blockLen, crcBuff); err != nil",
       "r = io.TeeReader(r, crcBuff)",
       "if crcCalc, crcErr := calculateCRCBuff(crcBuff, cb.CRCType); crcErr != nil"] ∧
    Dtn7.Gen.C03.canonicalBlockMarshalCrcLines =
      ["crcBuff := new(bytes.Buffer)", "w = io.MultiWriter(w, crcBuff)",
       "if crcVal, crcErr := calculateCRCBuff(crcBuff, cb.CRCType); crcErr != nil", "return crcErr",
       "else if err := cboring.WriteByteString(crcVal, w); err != nil", "cb.CRC = crcVal"] ∧
    Dtn7.Gen.C03.primaryBlockMarshalCrcLines.drop 1 =
      ["crcBuff := new(bytes.Buffer)", "w = io.MultiWriter(w, crcBuff)",
       "if crcVal, crcErr := calculateCRCBuff(crcBuff, pb.CRCType); crcErr != nil", "return crcErr",
       "else if err := cboring.WriteByteString(crcVal, w); err != nil",
       "else if !bytes.Equal(pb.CRC, crcVal)", "pb.CRC = crcVal"] := by and_intros <;> rfl

/-- The order of reads the model parser follows. -/
theorem gen_read_order :
    Dtn7.Gen.C03.primaryBlockUnmarshalCalls =
      ["new", "io.TeeReader", "cboring.ReadArrayLength", "cboring.ReadUInt", "cboring.ReadUInt",
       "BundleControlFlags().Has", "BundleControlFlags", "BundleControlFlags", "cboring.ReadUInt",
       "emptyCRC", "CRCType", "CRCType", "CRCType", "cboring.Unmarshal", "cboring.Unmarshal",
       "cboring.ReadUInt", "cboring.ReadUInt", "calculateCRCBuff", "cboring.ReadByteString", "bytes.Equal"] ∧
    Dtn7.Gen.C03.canonicalBlockUnmarshalCalls =
      ["cboring.ReadArrayLength", "new", "cboring.WriteArrayLength", "io.TeeReader", "cboring.ReadUInt",
       "cboring.ReadUInt", "cboring.ReadUInt", "BlockControlFlags", "cboring.ReadUInt", "emptyCRC",
       "CRCType", "CRCType", "CRCType", "GetExtensionBlockManager().ReadBlock", "GetExtensionBlockManager", "calculateCRCBuff",
       "cboring.ReadByteString", "bytes.Equal"] := ⟨rfl, rfl⟩

/-- The D5 and D7 checks (model: the three `if`s of `primaryPre`, the two of
`canonicalPre`): the CRC type must be one `emptyCRC` knows, the CRC item is present iff the type is not
`CRCNo`, and the primary array carries the fragment fields iff the fragment flag is set. -/
theorem gen_type_checks :
    Dtn7.Gen.C03.primaryBlockTypeChecks =
      ["else if hasFrag := blockLen == 10 || blockLen == 11; hasFrag != BundleControlFlags(bcf).Has(IsFragment)",
       "else if _, err := emptyCRC(CRCType(crcT)); err != nil",
       "else if hasCrc := blockLen == 9 || blockLen == 11; hasCrc != (CRCType(crcT) != CRCNo)"] ∧
    Dtn7.Gen.C03.canonicalBlockTypeChecks =
      ["else if _, err := emptyCRC(CRCType(crcT)); err != nil",
       "else if hasCrc := blockLen == 6; hasCrc != (CRCType(crcT) != CRCNo)"] := ⟨rfl, rfl⟩

/-- `PrimaryBlock.SetCRCType` (model: `setCrcTypePrimary`). -/
theorem gen_setCRCType :
    Dtn7.Gen.C03.primarySetCRCTypeSkeleton =
      ["if crcType == CRCNo", "  crcType = CRC32", "pb.CRCType = crcType", "_ = pb.calculateCRC()"] := rfl

/-! ## The CRC register is linear over GF(2) (any width, any polynomial) -/

theorem step_xor {w : Nat} (P s s' : BitVec w) (b b' : Bool) :
    step P (s ^^^ s') (b ^^ b') = step P s b ^^^ step P s' b' :=
  Lemmas.step_xor P s s' b b'

theorem run_xor {w : Nat} (P s s' : BitVec w) (d d' : Bits) (h : d.length = d'.length) :
    run P (s ^^^ s') (xorBits d d') = run P s d ^^^ run P s' d' :=
  Lemmas.run_xor P s s' d d' h

/-- With the top bit of `P` set (the generator polynomial has constant term 1) a zero-input clock is
injective. -/
theorem step0_injective {w : Nat} (P : BitVec w) (hP : P.msb = true) (s s' : BitVec w)
    (h : step P s false = step P s' false) : s = s' :=
  Lemmas.step0_injective P hP s s' h

/-- At most `w` bits fed into the zero register leave it zero only if all of them are zero. -/
theorem run0_window {w : Nat} (P : BitVec w) (hP : P.msb = true) (e : Bits) (hlen : e.length ≤ w)
    (h : run P 0#w e = 0#w) : e = List.replicate e.length false :=
  Lemmas.run0_window P hP e hlen h

/-- **Burst detection, register level**: for every width, every polynomial with constant term 1, every
start state and every length, two different bit strings of equal length whose difference spans at most
`w` positions drive the register into different states. -/
theorem run_burst_detected {w : Nat} (P : BitVec w) (hP : P.msb = true) (s : BitVec w) (d d' : Bits)
    (hlen : d.length = d'.length) (hb : span (xorBits d d') ≤ w) (hne : d ≠ d') :
    run P s d ≠ run P s d' :=
  Lemmas.run_burst_ne P hP s d d' hlen hb hne

/-! ## The two CRCs of BPv7 -/

/-- Check values of the CRC catalogue for "123456789". -/
theorem check_values :
    crcX25 [0x31, 0x32, 0x33, 0x34, 0x35, 0x36, 0x37, 0x38, 0x39] = 0x906E#16 ∧
    crc32c [0x31, 0x32, 0x33, 0x34, 0x35, 0x36, 0x37, 0x38, 0x39] = 0xE3069283#32 := by decide +kernel

/-- The allocation-free evaluation used by the driver is the Spec function. -/
theorem fast_eq_spec (t : Nat) (d : Bytes) : crcFieldFast t d = crcField t d := crcFieldFast_eq t d

/-- **`crc_burst_detected`**: CRC type `t` (1 = CRC-16/X-25, 2 = CRC-32C); two byte strings of equal
length that differ, all differing bits within a window of at most 16 resp. 32 consecutive bit positions
(CRC bit order: least significant bit of a byte first), in any common context `pre … tl` — in particular
with the zeroed CRC field as part of `tl`, and with the burst touching the last data bytes — have
different CRC values. Every length, by induction; no finite check involved. -/
theorem crc_burst_detected (t : Nat) (ht : t = 1 ∨ t = 2) (pre d d' tl : Bytes)
    (hlen : d.length = d'.length)
    (hb : span (xorBits (bitsOf d) (bitsOf d')) ≤ crcWidth t) (hne : d ≠ d') :
    crcField t (pre ++ d ++ tl) ≠ crcField t (pre ++ d' ++ tl) :=
  Lemmas.crcField_burst_ne t ht pre d d' tl hlen hb hne

/-- **`byte_window_detected`**: any change confined to 2 resp. 4 consecutive bytes (whatever the numbering
of bits inside a byte) changes the CRC. -/
theorem byte_window_detected (t : Nat) (ht : t = 1 ∨ t = 2) (pre m m' post : Bytes)
    (hlen : m.length = m'.length) (hw : m.length ≤ crcLen t) (hne : m ≠ m') :
    crcField t (pre ++ m ++ post) ≠ crcField t (pre ++ m' ++ post) := by
  -- a change within `crcLen t` bytes is a burst of at most `crcWidth t` bits
  refine crc_burst_detected t ht pre m m' post hlen (Nat.le_trans (Lemmas.span_le_length _) ?_) hne
  rw [Lemmas.xorBits_length _ _ (by simp [Lemmas.bitsOf_length, hlen]), Lemmas.bitsOf_length]
  unfold crcWidth; omega

/-- **`single_bit_detected`**: flipping any one bit of any byte of the input changes the CRC. -/
theorem single_bit_detected (t : Nat) (ht : t = 1 ∨ t = 2) (pre post : Bytes) (x : UInt8) (k : Nat)
    (hk : k < 8) :
    crcField t (pre ++ [x] ++ post) ≠ crcField t (pre ++ [x ^^^ UInt8.ofNat (2 ^ k)] ++ post) :=
  byte_window_detected t ht pre [x] [x ^^^ UInt8.ofNat (2 ^ k)] post rfl
    (by rcases Lemmas.crcLen_cases t ht with ⟨_, h, _⟩ | ⟨_, h, _⟩ <;> simp [h])
    (by intro e; exact Lemmas.flip_ne x k hk (by simpa using e.symm))

/-! ## The model of dtn7's check -/

/-- **`accept_iff_crc`** — full statement (NOT true of the code, see `reencoded_head_witness`): *every
block that declares a CRC (CRC type ≠ 0) is accepted by the parser iff the last `crcLen t` bytes of
exactly the bytes consumed for it are the CRC of those bytes with the field zeroed.* With the D5
checks (commit 6746a33, `gen_type_checks`) a declared CRC is always carried and always of a known type; two classes are excluded:
the known finding "head not in shortest form", and a CRC item that is not a byte string of exactly
`crcLen t` bytes (hypotheses `hitem`, `hv` of the parser-level statements: a three-byte item whose last
two bytes are the CRC-16 of the block is rejected although the Spec predicate holds).

Buffer level: a block whose bytes before the CRC item are `buf` and whose CRC item is the byte string
`field` (shortest head) of the declared length is accepted by the model's check iff `BlockCrcOk`. -/
theorem accept_iff_crc_partial (t : Nat) (ht : t = 1 ∨ t = 2) (buf field rest : Bytes)
    (hf : field.length = crcLen t) :
    checkField buf t (encBytes field ++ rest) = .ok (field, rest) ↔ BlockCrcOk t (buf ++ encBytes field) :=
  Lemmas.accept_iff_crc t ht buf field rest hf

/-- **`declared_crc_is_checked`** (the two D5 checks of `canonicalPre`, `gen_type_checks`): whatever array length and CRC type value the wire says,
if the model parser gets past the block's fields and the CRC type is not 0, then the array has the CRC
item, the type is CRC-16 or CRC-32, and acceptance went through the comparison. -/
theorem declared_crc_is_checked (bs x r0 r : Bytes) (n t : Nat)
    (hpre : canonicalPre bs = .ok (n, t, r0, r)) (hdecl : t ≠ 0) (hacc : parseCanonical bs = .ok x) :
    n = 6 ∧ (t = 1 ∨ t = 2) ∧ ∃ v, checkField (canonicalBuf 6 r0 r) t r = .ok (v, x) := by
  obtain ⟨_, _, _, h2, h6⟩ := Lemmas.canonicalPre_ok bs r0 r n t hpre
  cases h6.mpr hdecl
  refine ⟨rfl, by omega, ?_⟩
  rcases Lemmas.parseCanonical_ok bs x hacc with ⟨t5, r5, h5⟩ | ⟨t6, r6, r6', v, h6', hc⟩
  · rw [hpre] at h5; cases h5
  · rw [hpre] at h6'; cases h6'; exact ⟨v, hc⟩

/-- The same facts for the primary block: type known, CRC item present iff declared. -/
theorem primary_declared_has_item (bs r : Bytes) (n t : Nat) (hpre : primaryPre bs = .ok (n, t, r)) :
    t ≤ 2 ∧ ((n = 9 ∨ n = 11) ↔ t ≠ 0) :=
  (Lemmas.primaryPre_ok bs r n t hpre).2

/-- Parser level, canonical block — no assumption on the array length or on the type value: the model
parser read the block's fields (`hpre`), the block declares a CRC (`hdecl`), the array head it consumed
is in shortest form (`hhead`), the CRC item is `encBytes v` with `v` of the declared length. Then the
block is accepted, leaving `x` unread, iff the Spec holds of `consumed bs x` — exactly the received
bytes of that block. -/
theorem canonical_accept_iff_crc_partial (bs r0 r v x : Bytes) (n t : Nat)
    (hpre : canonicalPre bs = .ok (n, t, r0, r)) (hdecl : t ≠ 0)
    (hhead : consumed bs r0 = encArray n)
    (hitem : r = encBytes v ++ x) (hv : v.length = crcLen t) :
    parseCanonical bs = .ok x ↔ BlockCrcOk t (consumed bs x) := by
  obtain ⟨_, _, _, h2, h6⟩ := Lemmas.canonicalPre_ok bs r0 r n t hpre
  cases h6.mpr hdecl
  have ht : t = 1 ∨ t = 2 := by omega
  subst hitem
  obtain ⟨hd, hs, _⟩ := Lemmas.canonicalPre_ok bs r0 _ 6 t hpre
  have e0 := Lemmas.consumed_of_suffix bs r0 (Cbor.Lemmas.decExpect_ok hd).2.2
  have e1 := Lemmas.consumed_of_suffix r0 _ hs
  rw [hhead] at e0
  rw [parseCanonical, parseCanonicalWith, hpre]
  dsimp only
  rw [if_pos rfl, canonicalBuf, ← checkField]
  generalize consumed r0 (encBytes v ++ x) = cc at e1 ⊢
  have hcons : consumed bs x = encArray 6 ++ cc ++ encBytes v := by
    rw [← e0, ← e1, ← Lemmas.consumed_append (encArray 6 ++ cc ++ encBytes v) x]; simp only [List.append_assoc]
  rw [hcons, Lemmas.checkField_eq t ht _ v x hv]
  exact Cbor.Lemmas.apply_ite_eq_iff
    (fun r : Except PErr (Bytes × Bytes) =>
      (match r with | .error e => .error e | .ok (_, r') => .ok r' : Except PErr Bytes)) rfl nofun

/-- Parser level, primary block (the array head is tee'd as received, so only the CRC item head has to
be in shortest form). -/
theorem primary_accept_iff_crc_partial (bs r v x : Bytes) (n t : Nat)
    (hpre : primaryPre bs = .ok (n, t, r)) (hdecl : t ≠ 0)
    (hitem : r = encBytes v ++ x) (hv : v.length = crcLen t) :
    parsePrimary bs = .ok x ↔ BlockCrcOk t (consumed bs x) := by
  obtain ⟨hs, h2, h9⟩ := Lemmas.primaryPre_ok bs r n t hpre
  have hn := h9.mpr hdecl
  have ht : t = 1 ∨ t = 2 := by omega
  subst hitem
  have e1 := Lemmas.consumed_of_suffix bs _ hs
  rw [parsePrimary, parsePrimaryWith, hpre]
  dsimp only
  rw [if_pos hn, ← checkField]
  generalize consumed bs (encBytes v ++ x) = cc at e1 ⊢
  have hcons : consumed bs x = cc ++ encBytes v := by
    rw [← e1, ← Lemmas.consumed_append (cc ++ encBytes v) x]; simp only [List.append_assoc]
  rw [hcons, Lemmas.checkField_eq t ht _ v x hv]
  exact Cbor.Lemmas.apply_ite_eq_iff
    (fun r : Except PErr (Bytes × Bytes) =>
      (match r with | .error .crc => .error .crc | .error _ => .error .other | .ok (_, r') => .ok r' :
        Except PErr Bytes)) rfl nofun

/-- Whatever is accepted — any head width, any length — carries the value `calculateCRCBuff` computed:
in particular a CRC item of another length than declared is rejected. -/
theorem accept_imp_value (t : Nat) (buf rest v rest' : Bytes)
    (h : checkField buf t rest = .ok (v, rest')) :
    crcCalc t buf = some v ∧ decBytes rest = .ok (v, rest') :=
  Lemmas.accept_imp t buf rest v rest' h

/-- **`serialize_crc`**: the serialiser appends a byte string of the declared length such that the
finished block satisfies the Spec, and the model's check accepts it. -/
theorem serialize_crc (t : Nat) (ht : t = 1 ∨ t = 2) (buf rest : Bytes) :
    ∃ f, serializeField t buf = some (encBytes f) ∧ f.length = crcLen t ∧
      BlockCrcOk t (buf ++ encBytes f) ∧ checkField buf t (encBytes f ++ rest) = .ok (f, rest) :=
  Lemmas.serialize_crc t ht buf rest

/-- **`setCrcType_primary`**: a created primary block never has CRC type 0. -/
theorem setCrcType_primary (t : Nat) : setCrcTypePrimary t ≠ 0 := by
  unfold setCrcTypePrimary; split <;> omega

/-- **`block_burst_rejected`**: if a block is accepted, then the same block with a burst of at most
the CRC width anywhere in the bytes before the CRC item — lengths, CRC item (in whatever encoding) and
everything after it unchanged, i.e. block boundaries intact — is rejected with "invalid CRC value". -/
theorem block_burst_rejected (t : Nat) (ht : t = 1 ∨ t = 2) (pre d d' post rest v rest' : Bytes)
    (hlen : d.length = d'.length)
    (hb : span (xorBits (bitsOf d) (bitsOf d')) ≤ crcWidth t) (hne : d ≠ d')
    (hacc : checkField (pre ++ d ++ post) t rest = .ok (v, rest')) :
    checkField (pre ++ d' ++ post) t rest = .error .crc :=
  Lemmas.block_burst_rejected t ht pre d d' post rest v rest' hlen hb hne hacc

/-- **`canonical_burst_rejected`** (parser level): two encodings that the model parser delimits the same
way — 6-element array, same CRC type, same unread input `r` after the block-specific data, hence the same
CRC item and the same following blocks — and whose tee'd bytes differ by a burst of at most the CRC
width: if the first is accepted, the second is rejected with "invalid CRC value". -/
theorem canonical_burst_rejected (t : Nat) (ht : t = 1 ∨ t = 2) (bs bs' r0 r0' r x : Bytes)
    (h1 : canonicalPre bs = .ok (6, t, r0, r)) (h2 : canonicalPre bs' = .ok (6, t, r0', r))
    (hlen : (consumed r0 r).length = (consumed r0' r).length)
    (hb : span (xorBits (bitsOf (consumed r0 r)) (bitsOf (consumed r0' r))) ≤ crcWidth t)
    (hne : consumed r0 r ≠ consumed r0' r)
    (hacc : parseCanonical bs = .ok x) : parseCanonical bs' = .error .crc := by
  rcases Lemmas.parseCanonical_ok bs x hacc with ⟨t5, r5, h5⟩ | ⟨t6, r6, r6', v, h6, hc⟩
  · rw [h1] at h5; cases h5
  · rw [h1] at h6
    cases h6
    have := Lemmas.block_burst_rejected t ht (encArray 6) (consumed r0 r) (consumed r0' r) [] r v x hlen hb hne
      (by simpa [canonicalBuf] using hc)
    unfold parseCanonical parseCanonicalWith
    rw [h2]
    simp only [↓reduceIte]
    have e : checkFieldWith crcCalc (canonicalBuf 6 r0' r) t r = .error .crc := by
      simpa [canonicalBuf, checkField] using this
    rw [e]

/-- **`primary_burst_rejected`**: the same for the primary block (9 or 11 elements; the array head is part
of the protected bytes). -/
theorem primary_burst_rejected (t : Nat) (ht : t = 1 ∨ t = 2) (bs bs' r x : Bytes) (n n' : Nat)
    (hn : n = 9 ∨ n = 11) (hn' : n' = 9 ∨ n' = 11)
    (h1 : primaryPre bs = .ok (n, t, r)) (h2 : primaryPre bs' = .ok (n', t, r))
    (hlen : (consumed bs r).length = (consumed bs' r).length)
    (hb : span (xorBits (bitsOf (consumed bs r)) (bitsOf (consumed bs' r))) ≤ crcWidth t)
    (hne : consumed bs r ≠ consumed bs' r)
    (hacc : parsePrimary bs = .ok x) : parsePrimary bs' = .error .crc := by
  unfold parsePrimary parsePrimaryWith at hacc ⊢
  rw [h1] at hacc
  rw [h2]
  simp only [hn, hn', ↓reduceIte] at hacc ⊢
  split at hacc
  · cases hacc
  · cases hacc
  · next v r' hc =>
    cases hacc
    have := Lemmas.block_burst_rejected t ht [] (consumed bs r) (consumed bs' r) [] r v x hlen hb hne
      (by simpa [checkField] using hc)
    have e : checkFieldWith crcCalc (consumed bs' r) t r = .error .crc := by
      simpa [checkField] using this
    rw [e]

/-! Not proved (stated here so that the gap is visible): `straddle_rejected` — a burst of at most the CRC
width that changes the last `j` protected bits before the CRC item, leaves the item's head byte (0x42 /
0x44) intact and changes the first `i` bits of the transmitted value (`j + 8 + i ≤ 16/32`). BPv7 stores a
reflected CRC big-endian over a zeroed field, so this is not an instance of the burst theorem; it is a
finite statement about the two polynomials (a rank computation outside Lean finds no undetected pattern
for either CRC; kernel evaluation of the 2²³ cases through `BitVec` is too slow). The correspondence
enumerates it: every such pattern for CRC-16 blocks, every shape (j, i) with random fillings for CRC-32
blocks, in every block of every generated bundle. The two halves are theorems: `block_burst_rejected`
(change before the value only) and `field_error_rejected` (change of the value only). -/

/-- **`field_error_rejected`**: any change of the transmitted CRC value itself is rejected. -/
theorem field_error_rejected (t : Nat) (buf field field' rest rest' : Bytes)
    (hf' : field'.length ≤ maxInt32) (hne : field ≠ field')
    (hacc : checkField buf t (encBytes field ++ rest) = .ok (field, rest)) :
    checkField buf t (encBytes field' ++ rest') = .error .crc := by
  have ⟨hc, _⟩ := Lemmas.accept_imp t buf _ field rest hacc
  rw [Lemmas.checkField_encBytes buf t field' rest' field hf' hc]
  simp [hne]

/-- **`frame_start_rejected`**: every change of the leading 0x9F is rejected. -/
theorem frame_start_rejected (b : UInt8) (rest : Bytes) (h : b.toNat ≠ 0x9F) :
    parseBundle (b :: rest) = .other := by
  simp [parseBundle, parseBundleWith, h]

/-- **`frame_end_rejected`**: every single-bit change of the closing 0xFF makes the block loop fail,
whatever follows. -/
theorem frame_end_rejected (x : UInt8)
    (hx : x = 0xFE ∨ x = 0xFD ∨ x = 0xFB ∨ x = 0xF7 ∨ x = 0xEF ∨ x = 0xDF ∨ x = 0xBF ∨ x = 0x7F)
    (rest : Bytes) (fuel k : Nat) : canonicalLoop crcCalc (fuel + 1) k (x :: rest) = .other := by
  have h : parseCanonical (x :: rest) = .error .other :=
    Lemmas.parseCanonical_not_array x (by rcases hx with rfl | rfl | rfl | rfl | rfl | rfl | rfl | rfl <;> decide)
      (by rcases hx with rfl | rfl | rfl | rfl | rfl | rfl | rfl | rfl <;> decide) rest
  unfold parseCanonical at h
  simp [canonicalLoop, h]

/-! ## What is deliberately not a theorem

"Every single-bit change of a fully protected bundle is rejected" without the same-extents hypothesis is
false for an adversarially chosen payload: flipping one bit of the payload length (0x2c → 0x0c) ends the
payload block early, the payload itself supplies a correct CRC item for the shortened block and a break
byte; parsing stops there. Both encodings are accepted by the model (and by the Go parser: `adversarial`
line of the harness). For generated bundles every bit position is enumerated by the harness instead. -/
theorem single_bit_any_witness :
    parseBundle [0x9f, 0x89, 0x07, 0x1a, 0x00, 0x02, 0x00, 0x00, 0x01, 0x82, 0x01, 0x64, 0x2f, 0x2f, 0x64, 0x2f, 0x82, 0x01, 0x64, 0x2f, 0x2f, 0x73, 0x2f, 0x82, 0x01, 0x64, 0x2f, 0x2f, 0x73, 0x2f, 0x82, 0x1b, 0x00, 0x00, 0x00, 0xb3, 0x1b, 0x9c, 0xb2, 0x00, 0x00, 0x1b, 0x00, 0x00, 0x02, 0xde, 0x41, 0x35, 0x30, 0x00, 0x42, 0xd6, 0x77,
      0x86, 0x01, 0x01, 0x00, 0x01, 0x58, 0x2c, 0xa0, 0xa1, 0xa2, 0xa3, 0xa4, 0xa5, 0xa6, 0xa7, 0xa8, 0xa9, 0xaa, 0xab, 0x42, 0x93, 0x52, 0xff, 0x11, 0x11, 0x11, 0x11, 0x11, 0x11, 0x11, 0x11, 0x11, 0x11, 0x11, 0x11, 0x11, 0x11, 0x11, 0x11, 0x11, 0x11, 0x11, 0x11, 0x11, 0x11, 0x11, 0x11, 0x11, 0x11, 0x11, 0x11, 0x42, 0x2b, 0xe5, 0xff]
      = .accept ∧
    parseBundle [0x9f, 0x89, 0x07, 0x1a, 0x00, 0x02, 0x00, 0x00, 0x01, 0x82, 0x01, 0x64, 0x2f, 0x2f, 0x64, 0x2f, 0x82, 0x01, 0x64, 0x2f, 0x2f, 0x73, 0x2f, 0x82, 0x01, 0x64, 0x2f, 0x2f, 0x73, 0x2f, 0x82, 0x1b, 0x00, 0x00, 0x00, 0xb3, 0x1b, 0x9c, 0xb2, 0x00, 0x00, 0x1b, 0x00, 0x00, 0x02, 0xde, 0x41, 0x35, 0x30, 0x00, 0x42, 0xd6, 0x77,
      0x86, 0x01, 0x01, 0x00, 0x01, 0x58, 0x0c, 0xa0, 0xa1, 0xa2, 0xa3, 0xa4, 0xa5, 0xa6, 0xa7, 0xa8, 0xa9, 0xaa, 0xab, 0x42, 0x93, 0x52, 0xff, 0x11, 0x11, 0x11, 0x11, 0x11, 0x11, 0x11, 0x11, 0x11, 0x11, 0x11, 0x11, 0x11, 0x11, 0x11, 0x11, 0x11, 0x11, 0x11, 0x11, 0x11, 0x11, 0x11, 0x11, 0x11, 0x11, 0x11, 0x11, 0x42, 0x2b, 0xe5, 0xff]
      = .accept := by decide +kernel

/-! ## What is *not* true of the code (recorded as known findings, `known_findings.d/C03.json`) -/

/-- The CRC is computed over a *re-encoded* head, not over the received bytes: a canonical block whose
array head is the two-byte form `98 06` is accepted with the CRC of the `86 …` form (the model says so
and the Go code does so), although that is not the CRC of the received bytes. This is the witness against
the full `accept_iff_crc` (hypothesis `hhead` of `canonical_accept_iff_crc_partial`). -/
theorem reencoded_head_witness :
    parseCanonical [0x98, 0x06, 0x01, 0x01, 0x00, 0x01, 0x41, 0x78, 0x42, 0x27, 0x00] = .ok [] ∧
    ¬ BlockCrcOk 1 [0x98, 0x06, 0x01, 0x01, 0x00, 0x01, 0x41, 0x78, 0x42, 0x27, 0x00] ∧
    BlockCrcOk 1 [0x86, 0x01, 0x01, 0x00, 0x01, 0x41, 0x78, 0x42, 0x27, 0x00] := by decide +kernel

/-- D5 (the checks of commit 6746a33, which /repo has): a 5-element block with CRC type 1 or 3, a 6-element
block with CRC type 0 and an empty byte string — encodings a parser without those checks accepts, against
`accept_iff_crc` — are rejected; the Spec side classifies the first as "declared but absent". -/
theorem declared_but_absent_rejected :
    parseCanonical [0x85, 0x01, 0x01, 0x00, 0x01, 0x41, 0x78] = .error .other ∧
    parseCanonical [0x85, 0x01, 0x01, 0x00, 0x03, 0x41, 0x78] = .error .other ∧
    parseCanonical [0x86, 0x01, 0x01, 0x00, 0x00, 0x41, 0x78, 0x40] = .error .other ∧
    crcStatus false ⟨[0x85, 0x01, 0x01, 0x00, 0x01, 0x41, 0x78], [[0x01], [0x01], [0x00], [0x01], [0x41, 0x78]]⟩
      = .absent 1 := by decide +kernel

/-! ## Non-vacuity -/

example : span (xorBits (bitsOf [0x00, 0x80, 0x01]) (bitsOf [0x00, 0x00, 0x00])) = 2 := by decide
example : span (xorBits (bitsOf [0xff, 0x12]) (bitsOf [0x00, 0x13])) = 9 := by decide
example : crcField 1 ([1] ++ [0x00, 0x80, 0x01] ++ [9]) ≠ crcField 1 ([1] ++ [0x00, 0x00, 0x00] ++ [9]) :=
  crc_burst_detected 1 (Or.inl rfl) [1] [0x00, 0x80, 0x01] [0x00, 0x00, 0x00] [9] rfl (by decide) (by decide)
example : BlockCrcOk 1 [0x86, 0x01, 0x01, 0x00, 0x01, 0x41, 0x78, 0x42, 0x27, 0x00] := by decide +kernel
example : canonicalPre [0x86, 0x01, 0x01, 0x00, 0x01, 0x41, 0x78, 0x42, 0x27, 0x00, 0xff]
    = .ok (6, 1, [0x01, 0x01, 0x00, 0x01, 0x41, 0x78, 0x42, 0x27, 0x00, 0xff], [0x42, 0x27, 0x00, 0xff]) := by
  decide +kernel
example : parseCanonical [0x86, 0x01, 0x01, 0x00, 0x01, 0x41, 0x78, 0x42, 0x27, 0x00, 0xff] = .ok [0xff] := by
  decide +kernel
example : consumed [0x86, 0x01, 0x01, 0x00, 0x01, 0x41, 0x78, 0x42, 0x27, 0x00, 0xff]
    [0x01, 0x01, 0x00, 0x01, 0x41, 0x78, 0x42, 0x27, 0x00, 0xff] = encArray 6 := by decide +kernel
example : primaryPre [0x89, 0x07, 0x1a, 0x00, 0x02, 0x00, 0x00, 0x01, 0x82, 0x01, 0x64, 0x2f, 0x2f, 0x64, 0x2f,
    0x82, 0x01, 0x64, 0x2f, 0x2f, 0x73, 0x2f, 0x82, 0x01, 0x64, 0x2f, 0x2f, 0x73, 0x2f, 0x82, 0x1b, 0x00, 0x00,
    0x00, 0xb3, 0x1b, 0x9c, 0xb2, 0x00, 0x00, 0x1b, 0x00, 0x00, 0x02, 0xde, 0x41, 0x35, 0x30, 0x00, 0x42, 0xd6,
    0x77, 0x86] = .ok (9, 1, encBytes [0xd6, 0x77] ++ [0x86]) := by decide +kernel
example : checkField [0x86, 0x01, 0x01, 0x00, 0x01, 0x41, 0x78] 1 (encBytes [0x27, 0x00] ++ [0xff])
    = .ok ([0x27, 0x00], [0xff]) := by decide +kernel
example : P16.msb = true ∧ P32.msb = true := by decide

end Dtn7.Props.C03
