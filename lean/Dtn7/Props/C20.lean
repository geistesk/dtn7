/-
C20 — DTLSR forwards along a least-cost path of the known link-state graph.
The property theorems; the lemmas behind them are in `Dtn7.Lemmas.Dtlsr`.
-/
import Dtn7.Lemmas.Dtlsr
import Dtn7.Gen.C20

namespace Dtn7.Props.C20
open Dtn7.Dtlsr

/-! ### The tie to the source: facts regenerated from /repo on every run -/

theorem gen_extraction_complete : Dtn7.Gen.C20.extractionFailures = [] := rfl

/-- The broadcast address (`Dest.broadcast` in the model). -/
theorem gen_broadcast_address :
    Dtn7.Gen.C20.broadcastAddress = "dtn://routing/dtlsr/broadcast/" := rfl

/-- Replace-if-newer is a strict `>` on the block's timestamp (`shouldReplace`). -/
theorem gen_should_replace :
    Dtn7.Gen.C20.shouldReplace = ["return pd.Timestamp > other.Timestamp"] := rfl

/-- `NotifyNewBundle` stores exactly when nothing is stored for the node or `ShouldReplace` holds
(`notifyData` / `State.notify`). -/
theorem gen_notify_new_bundle :
    Dtn7.Gen.C20.notifyNewBundle.take 18 =
      ["if metaDataBlock, err := bp.MustBundle().ExtensionBlock(bpv7.ExtBlockTypeDTLSRBlock); err == nil",
       "  dtlsrBlock := metaDataBlock.Value.(*bpv7.DTLSRBlock)",
       "  data := dtlsrBlock.GetPeerData()",
       "  dtlsr.dataMutex.Lock()",
       "  defer dtlsr.dataMutex.Unlock()",
       "  storedData, present := dtlsr.receivedData[data.ID]",
       "  if !present",
       "    dtlsr.receivedData[data.ID] = data",
       "    dtlsr.receivedChange = true",
       "    dtlsr.newNode(data.ID)",
       "    for node := range data.Peers",
       "      dtlsr.newNode(node)",
       "  else",
       "    if data.ShouldReplace(storedData)",
       "      dtlsr.receivedData[data.ID] = data",
       "      dtlsr.receivedChange = true",
       "      for node := range data.Peers",
       "        dtlsr.newNode(node)"] := rfl

/-- Edge cost: `0` for a live link (`timestamp == 0`), otherwise `int64(currentTime - timestamp)`
on `uint64` DTN times (`edgeCost`), for the node's own links and for received ones. -/
theorem gen_edge_cost :
    Dtn7.Gen.C20.costRhs = ["0", "int64(currentTime - timestamp)", "0", "int64(currentTime - timestamp)"] ∧
    Dtn7.Gen.C20.costGuards = ["timestamp == 0", "!(timestamp == 0)", "timestamp == 0", "!(timestamp == 0)"] := ⟨rfl, rfl⟩

/-- `Shortest(0, i)` for `i = 1 … length-1`, next hop `Path[1]`, into a fresh table that replaces
the old one (`libTable`/`State.computeLib`). -/
theorem gen_next_hop :
    Dtn7.Gen.C20.shortestCalls = ["graph.Shortest(0, i)"] ∧
    Dtn7.Gen.C20.hopAssign = ["routingTable[dtlsr.indexNode[i]] = dtlsr.indexNode[shortest.Path[1]]"] ∧
    Dtn7.Gen.C20.tableInit = [":= make(map[bpv7.EndpointID]bpv7.EndpointID)"] ∧
    Dtn7.Gen.C20.tableStore = ["routingTable"] ∧
    Dtn7.Gen.C20.computeLoops = ["i := 0; i < dtlsr.length; i++", "range dtlsr.peers.Peers",
      "range dtlsr.receivedData", "range data.Peers", "i := 1; i < dtlsr.length; i++"] := by and_intros <;> rfl

theorem gen_compute_routing_table :
    Dtn7.Gen.C20.computeRoutingTable =
      ["currentTime := bpv7.DtnTimeNow()",
       "graph := dijkstra.NewGraph()",
       "for i := 0; i < dtlsr.length; i++",
       "  graph.AddVertex(i)",
       "for peer, timestamp := range dtlsr.peers.Peers",
       "  var edgeCost int64",
       "  if timestamp == 0",
       "    edgeCost = 0",
       "  else",
       "    edgeCost = int64(currentTime - timestamp)",
       "  if err := graph.AddArc(0, dtlsr.nodeIndex[peer], edgeCost); err != nil",
       "    return",
       "for _, data := range dtlsr.receivedData",
       "  for peer, timestamp := range data.Peers",
       "    var edgeCost int64",
       "    if timestamp == 0",
       "      edgeCost = 0",
       "    else",
       "      edgeCost = int64(currentTime - timestamp)",
       "    if err := graph.AddArc(dtlsr.nodeIndex[data.ID], dtlsr.nodeIndex[peer], edgeCost); err != nil",
       "      return",
       "routingTable := make(map[bpv7.EndpointID]bpv7.EndpointID)",
       "for i := 1; i < dtlsr.length; i++",
       "  shortest, err := graph.Shortest(0, i)",
       "  if err == nil",
       "    if len(shortest.Path) <= 1",
       "      continue",
       "    routingTable[dtlsr.indexNode[i]] = dtlsr.indexNode[shortest.Path[1]]",
       "  else",
       "dtlsr.routingTable = routingTable"] := rfl

theorem gen_new_node :
    Dtn7.Gen.C20.newNode =
      ["_, present := dtlsr.nodeIndex[id]", "if present", "  return",
       "dtlsr.nodeIndex[id] = dtlsr.length", "dtlsr.indexNode = append(dtlsr.indexNode, id)",
       "dtlsr.length = dtlsr.length + 1"] := rfl

theorem gen_recompute_cron :
    Dtn7.Gen.C20.recomputeCron =
      ["dtlsr.dataMutex.RLock()", "peerChange := dtlsr.peerChange",
       "receivedChange := dtlsr.receivedChange", "dtlsr.dataMutex.RUnlock()",
       "if peerChange || receivedChange", "  dtlsr.dataMutex.Lock()",
       "  dtlsr.computeRoutingTable()", "  dtlsr.receivedChange = false",
       "  dtlsr.dataMutex.Unlock()"] := rfl

/-- `SenderForBundle`: broadcast destination ⇒ `filterCLAs` over all senders, `delete` stays false;
otherwise the table's forwarder, first matching sender, `delete = true` (`senderForBundle`). -/
theorem gen_sender_for_bundle :
    Dtn7.Gen.C20.senderForBundle =
      ["delete = false",
       "bndl, err := bp.Bundle()",
       "if err != nil",
       "  return",
       "if bndl.PrimaryBlock.Destination == dtlsr.broadcastAddress",
       "  bundleItem, err := dtlsr.c.store.QueryId(bp.Id)",
       "  if err != nil",
       "    return",
       "  sender, sentEids := filterCLAs(bundleItem, dtlsr.c.claManager.Sender(), \"dtlsr\")",
       "  bundleItem.Properties[\"routing/dtlsr/sent\"] = sentEids",
       "  if err := dtlsr.c.store.Update(bundleItem); err != nil",
       "  return sender, delete",
       "recipient := bndl.PrimaryBlock.Destination",
       "dtlsr.dataMutex.RLock()",
       "forwarder, present := dtlsr.routingTable[recipient]",
       "dtlsr.dataMutex.RUnlock()",
       "if !present",
       "  return",
       "for _, cs := range dtlsr.c.claManager.Sender()",
       "  if cs.GetPeerEndpointID() == forwarder",
       "    sender = append(sender, cs)",
       "    delete = true",
       "    return",
       "return"] := rfl

/-- `purgePeers` only drops stale entries of the own peer list (`State.purge`); the node index is
never shrunk. -/
theorem gen_purge_peers :
    Dtn7.Gen.C20.purgePeers =
      ["currentTime := time.Now()", "dtlsr.dataMutex.Lock()", "defer dtlsr.dataMutex.Unlock()",
       "for peerID, timestamp := range dtlsr.peers.Peers",
       "  if timestamp != 0 && timestamp.Time().Add(dtlsr.purgeTime).Before(currentTime)",
       "    delete(dtlsr.peers.Peers, peerID)", "    dtlsr.peerChange = true"] := rfl

/-- `ReportFailure`: only for broadcast bundles; the failed peer (first occurrence) is removed from
the stored sent list (`reportFailure`). -/
theorem gen_report_failure :
    Dtn7.Gen.C20.reportFailure =
      ["bndl, err := bp.Bundle()",
       "if err != nil || bndl.PrimaryBlock.Destination != dtlsr.broadcastAddress",
       "  return",
       "dtlsr.failureMutex.Lock()",
       "defer dtlsr.failureMutex.Unlock()",
       "bundleItem, err := dtlsr.c.store.QueryId(bp.Id)",
       "if err != nil",
       "  return",
       "sentEids, ok := bundleItem.Properties[\"routing/dtlsr/sent\"].([]bpv7.EndpointID)",
       "if !ok",
       "  return",
       "for i := 0; i < len(sentEids); i++",
       "  if sentEids[i] == sender.GetPeerEndpointID()",
       "    sentEids = append(sentEids[:i], sentEids[i+1:]...)",
       "    break",
       "bundleItem.Properties[\"routing/dtlsr/sent\"] = sentEids",
       "if err := dtlsr.c.store.Update(bundleItem); err != nil"] := rfl

theorem gen_filter_clas :
    Dtn7.Gen.C20.filterCLAs =
      ["filtered = make([]cla.ConvergenceSender, 0)",
       "sentEids, ok := bundleItem.Properties[\"routing/\"+algorithm+\"/sent\"].([]bpv7.EndpointID)",
       "if !ok",
       "  sentEids = make([]bpv7.EndpointID, 0)",
       "for _, cs := range clas",
       "  skip := false",
       "  for _, eid := range sentEids",
       "    if cs.GetPeerEndpointID() == eid",
       "      skip = true",
       "      break",
       "  if !skip",
       "    filtered = append(filtered, cs)",
       "    sentEids = append(sentEids, cs.GetPeerEndpointID())",
       "return"] := rfl

/-- Own link state: a peer that appears is tracked and marked live (`0`); one that disappears gets
the current DTN time as loss time (`State.peerAppeared`/`peerDisappeared`). -/
theorem gen_report_peer :
    Dtn7.Gen.C20.reportPeerAppeared.drop 6 =
      ["dtlsr.newNode(peerID)", "dtlsr.peers.Peers[peerID] = 0",
       "dtlsr.peers.Timestamp = bpv7.DtnTimeNow()", "dtlsr.peerChange = true"] ∧
    Dtn7.Gen.C20.reportPeerDisappeared.drop 6 =
      ["timestamp := bpv7.DtnTimeNow()", "dtlsr.peers.Peers[peerID] = timestamp",
       "dtlsr.peers.Timestamp = timestamp", "dtlsr.peerChange = true"] := ⟨rfl, rfl⟩

/-- The Dijkstra library the port `libShortest` mirrors: version and the source of the ported
functions (read from the module cache). -/
theorem gen_library_version : Dtn7.Gen.C20.dijkstraVersion = "v1.0.0" := rfl

theorem gen_library_entry :
    Dtn7.Gen.C20.libShortest = ["return g.evaluate(src, dest, true)"] ∧
    Dtn7.Gen.C20.libEvaluate = ["g.setup(shortest, src, -1)", "return g.postSetupEvaluate(src, dest, shortest)"] ∧
    Dtn7.Gen.C20.libFinally = ["if !g.visitedDest", "  return BestPath{}, ErrNoPath",
      "return g.bestPath(src, dest), nil"] ∧
    Dtn7.Gen.C20.libPopOrdered = ["if l.short", "  return l.popBack()", "return l.popFront()"] ∧
    Dtn7.Gen.C20.libLinkedListNewLong = ["return dijkstraList(new(linkedList).init(false))"] ∧
    Dtn7.Gen.C20.libVertexAddArc = ["if v.arcs == nil", "  v.arcs = map[int]int64{}",
      "v.arcs[Destination] = Distance"] ∧
    Dtn7.Gen.C20.libGraphAddArc = ["if len(g.Verticies) <= Source || len(g.Verticies) <= Destination",
      "  return errors.New(\"Source/Destination not found\")",
      "g.Verticies[Source].AddArc(Destination, Distance)", "return nil"] := by and_intros <;> rfl

/-- `setup`: labels `MaxInt64 - 2`, `best = MaxInt64`, source label 0 and pushed (`libInit`);
`forceList(-1)` with fewer than 800 vertices is `forceList(3)` = `linkedListNewLong`. -/
theorem gen_library_setup :
    Dtn7.Gen.C20.libSetup =
      ["if list >= 0", "  g.forceList(list)", "else if shortest", "  g.forceList(-1)", "else",
       "  g.forceList(-2)", "g.visitedDest = false", "if shortest",
       "  g.setDefaults(int64(math.MaxInt64)-2, -1)", "  g.best = int64(math.MaxInt64)", "else",
       "  g.setDefaults(int64(math.MinInt64)+2, -1)", "  g.best = int64(math.MinInt64)",
       "g.Verticies[src].distance = 0", "g.visiting.PushOrdered(&g.Verticies[src])"] ∧
    (Dtn7.Gen.C20.libForceList.drop 7).take 5 =
      ["case -1:", "  if len(g.Verticies) < 800", "    g.forceList(3)", "  else", "    g.forceList(1)"] ∧
    (Dtn7.Gen.C20.libForceList.drop 22).take 2 = ["case 3:", "  g.visiting = linkedListNewLong()"] := ⟨rfl, rfl, rfl⟩

/-- The loop `evalLoop`/`relaxArcs` port. -/
theorem gen_library_loop :
    Dtn7.Gen.C20.libPostSetupEvaluate =
      ["var current *Vertex",
       "oldCurrent := -1",
       "for ; g.visiting.Len() > 0;",
       "  current = g.visiting.PopOrdered()",
       "  if oldCurrent == current.ID",
       "    continue",
       "  oldCurrent = current.ID",
       "  if shortest && current.distance >= g.best",
       "    continue",
       "  for v, dist := range current.arcs",
       "    if (shortest && current.distance+dist < g.Verticies[v].distance) || (!shortest && current.distance+dist > g.Verticies[v].distance)",
       "      if current.bestVerticies[0] == v && g.Verticies[v].ID != dest",
       "        return BestPath{}, newErrLoop(current.ID, v)",
       "      g.Verticies[v].distance = current.distance + dist",
       "      g.Verticies[v].bestVerticies[0] = current.ID",
       "      if v == dest",
       "        g.best = current.distance + dist",
       "        g.visitedDest = true",
       "        continue",
       "      g.visiting.PushOrdered(&g.Verticies[v])",
       "return g.finally(src, dest)"] := rfl

/-- `pushOrdered` (`pushOrdered`/`insertWalk`) and `bestPath` (`bestPathAux`). -/
theorem gen_library_list_and_path :
    Dtn7.Gen.C20.libPushOrdered =
      ["l.lazyinit()", "if l.len == 0", "  return l.pushFront(v)", "back := l.back()",
       "if back.Value.distance < v.distance", "  return l.insertValue(v, l.root.prev)",
       "current := l.front()",
       "for ; current.Value.distance < v.distance && current.Value.ID != v.ID;",
       "  current = current.next", "if current.Value.ID == v.ID", "  return current",
       "return l.insertValue(v, current.prev)"] ∧
    Dtn7.Gen.C20.libBestPath =
      ["var path []int",
       "for c := g.Verticies[dest]; c.ID != src; c = g.Verticies[c.bestVerticies[0]]",
       "  path = append(path, c.ID)", "path = append(path, src)",
       "for i, j := 0, len(path)-1; i < j; i, j = i+1, j-1", "  path[i], path[j] = path[j], path[i]",
       "return BestPath{g.Verticies[dest].distance, path}"] := ⟨rfl, rfl⟩

/-! ### Routing table: translation validation -/

/-- **Soundness of the certificate checker** — for every graph of any size and any weights: a
table accepted together with *some* certificate satisfies the property's statement. The driver
evaluates `checkTable` on the routing table of the Go implementation (certificate from its own
Bellman–Ford), so every explored instance is decided by a verified verdict. -/
theorem checker_sound (g : Graph) (t : Table) (c : Cert) (h : checkTable g t c = true) :
    MinCostNextHop g (lookup t) :=
  Lemmas.checker_sound g t c h

/-! Non-vacuity: a 5-node graph with lost links, two equal-cost routes and an unreachable node. -/
def exGraph : Graph := ⟨5, [(0, 1, 0), (0, 2, 1000), (1, 3, 2000), (2, 3, 1000), (3, 0, 0)]⟩
def exCert : Cert :=
  ⟨[some 0, some 0, some 1000, some 2000, none], [[], [0, 1], [0, 2], [0, 2, 3], []]⟩
example : checkTable exGraph [(1, 1), (2, 2), (3, 2)] exCert = true := by decide
example : checkTable exGraph [(1, 1), (2, 2), (3, 1)] ⟨exCert.pot, [[], [0, 1], [0, 2], [0, 1, 3], []]⟩ = true := by
  decide
example : checkTable exGraph [(1, 1), (2, 2), (3, 3)] exCert = false := by decide
example : checkTable exGraph [(1, 1), (2, 2)] exCert = false := by decide

/-! ### Routing table: the algorithms -/

/-- **Bellman–Ford is exact**: `n` rounds of relaxation over a graph with weights ≥ 0 whose arcs
stay inside the `n` vertices label exactly the reachable vertices, each with its least walk cost.
(Simple-path argument: every walk can be replaced by one without repeated vertices that costs no
more, and such a walk has fewer than `n` arcs — pigeonhole.) -/
theorem bellman_ford_exact (g : Graph) (hw : ∀ e ∈ g.arcs, 0 ≤ e.2.2)
    (hwf : ∀ e ∈ g.arcs, e.2.1 < g.n) (s : Nat) (hs : s < g.n) (v : Nat) :
    ((bf g s).get v = none ↔ ¬ Reachable g s v) ∧
    (∀ d, (bf g s).get v = some d → IsDist g s v d) :=
  ⟨Lemmas.bf_none_iff hw hwf hs v, fun _ h => Lemmas.bf_isDist hw hwf hs h⟩

/-- The reference algorithm (`refTable`: distances by Bellman–Ford, first admissible next hop)
produces a table with the property — all graphs with weights ≥ 0. -/
theorem lib_correct_partial (g : Graph) (hw : ∀ e ∈ g.arcs, 0 ≤ e.2.2)
    (hwf : ∀ e ∈ g.arcs, e.1 < g.n ∧ e.2.1 < g.n) (hn : 0 < g.n) :
    MinCostNextHop g (lookup (refTable g)) :=
  Lemmas.refTable_correct g hw (fun e he => (hwf e he).2) hn

/-- **The ported `dijkstra.Graph.Shortest` is partially correct** for weights ≥ 0, for every
iteration order of the arc maps: an answer `ok d p` is a least-cost walk starting with an arc of
`src`; `ErrNoPath` means no walk cheaper than the library's infinity exists; the "loop detected"
error never occurs; `bestPath` always reaches `src` (the predecessor pointers are acyclic even with
zero-cost arcs: ghost time stamps). For an arbitrary fuel; `lib_shortest_terminates` below shows
that `outOfFuel` does not occur with the fuel the port uses. -/
theorem lib_shortest_correct (g : Graph) (hw : ∀ e ∈ g.arcs, 0 ≤ e.2.2)
    (hwf : ∀ e ∈ g.arcs, e.2.1 < g.n) (src dest : Nat) (hs : src < g.n)
    (hsd : src ≠ dest) (fuel : Nat) :
    match libShortest fuel g.n (adjOf g.arcs) src dest with
    | .ok d p => IsDist g src dest d ∧
        ∃ h rest w c, p = src :: h :: rest ∧ (src, h, w) ∈ g.arcs ∧ Walk g h dest c ∧ w + c = d
    | .noPath => ∀ c, Walk g src dest c → infDist ≤ c
    | .loopErr => False
    | .outOfFuel => True
    | .badPred => False :=
  Lemmas.libShortest_spec g hw hwf hs hsd fuel

/-- **The ported loop terminates by itself** (weights ≥ 0): twice the sum of all labels plus the
length of the work list drops in every iteration, and the port's fuel is that measure's initial
bound — so the fuel, which the Go loop does not have, is never what stops the port. -/
theorem lib_shortest_terminates (g : Graph) (hw : ∀ e ∈ g.arcs, 0 ≤ e.2.2)
    (hwf : ∀ e ∈ g.arcs, e.2.1 < g.n) (src dest : Nat) (hsd : src ≠ dest) :
    libShortest (libFuel g) g.n (adjOf g.arcs) src dest ≠ .outOfFuel :=
  Lemmas.libShortest_terminates g hw hwf hsd

/-- **`computeRoutingTable` with the ported library loop** (`Shortest(0, i)`, `Path[1]`) yields a
table with the property, for every graph with weights ≥ 0 and every iteration order of the arc
maps — provided costs stay below the library's infinity `MaxInt64 - 2`. -/
theorem lib_correct (g : Graph) (hw : ∀ e ∈ g.arcs, 0 ≤ e.2.2) (hwf : ∀ e ∈ g.arcs, e.2.1 < g.n)
    (hcost : ∀ d c, Walk g 0 d c → ∃ c', Walk g 0 d c' ∧ c' < infDist) :
    MinCostNextHop g (lookup (libTable g)) :=
  Lemmas.libTable_correct g hw hwf hcost

/-- The cost hypothesis of `lib_correct` follows from a finite check: the Bellman–Ford distances
from the node itself are below the library's infinity. -/
theorem lib_correct_cost_hypothesis (g : Graph) (hw : ∀ e ∈ g.arcs, 0 ≤ e.2.2)
    (hwf : ∀ e ∈ g.arcs, e.2.1 < g.n) (hn : 0 < g.n)
    (hb : ∀ d, d < g.n → ((bf g 0).get d).all (fun c => decide (c < infDist)) = true) :
    ∀ d c, Walk g 0 d c → ∃ c', Walk g 0 d c' ∧ c' < infDist := by
  intro d c hc
  have hd : d < g.n := by
    rcases Lemmas.walk_end_lt hwf hc with h | h
    · rw [h]; exact hn
    · exact h
  obtain ⟨c', hc', _⟩ := Lemmas.bf_complete hw hwf hn hc
  refine ⟨c', Lemmas.bf_sound g 0 d c' hc', ?_⟩
  have := hb d hd
  rw [hc'] at this
  simpa using this

/-! Non-vacuity of the hypotheses of `lib_correct` on the example graph. -/
example : ∀ e ∈ exGraph.arcs, 0 ≤ e.2.2 ∧ e.2.1 < exGraph.n := by decide
example : ∀ d, d < exGraph.n →
    ((bf exGraph 0).get d).all (fun c => decide (c < infDist)) = true := by decide
example : refTable exGraph = [(1, 1), (2, 2), (3, 1)] := by decide
example : libTable exGraph = [(1, 1), (2, 2), (3, 1)] := by decide
example : libShortest (libFuel exGraph) 5 (adjOf exGraph.arcs) 0 3 = .ok 2000 [0, 1, 3] := by decide
example : libShortest (libFuel exGraph) 5 (adjOf exGraph.arcs) 0 4 = .noPath := by decide
/-- The choice among equally good next hops depends on the iteration order of the arc map: -/
example : libTable ⟨4, [(0, 1, 0), (0, 2, 0), (1, 3, 5), (2, 3, 5)]⟩ = [(1, 1), (2, 2), (3, 2)] := by decide
example : libTable ⟨4, [(0, 2, 0), (0, 1, 0), (1, 3, 5), (2, 3, 5)]⟩ = [(1, 1), (2, 2), (3, 1)] := by decide

/-! ### The graph the node builds -/

/-- Cost of a link: live ⇒ 0; lost in the past ⇒ the elapsed milliseconds (`int64` conversion is
the identity below 2^63). -/
theorem edge_cost (now ts : Nat) (hle : ts ≤ now) (hnow : now < two64 / 2) :
    edgeCost now 0 = 0 ∧ (0 < ts → edgeCost now ts = ((now - ts : Nat) : Int)) ∧ 0 ≤ edgeCost now ts :=
  ⟨rfl, fun h => Lemmas.edgeCost_past h hle hnow, Lemmas.edgeCost_nonneg hle hnow⟩

/-- Outside the property's quantifier: a loss time in the future (clock skew) wraps around and
becomes a negative cost. -/
theorem edge_cost_future_negative_witness : edgeCost 1000 3000 = -2000 := rfl

/-- **The graph `computeRoutingTable` builds** (`buildGraph now s`, all loss times in the past) has
costs ≥ 0 and stays inside the node index; hence, at vertex level, `refTable` of that graph has the
property, and `libTable` of it (the ported library loop) has it provided costs stay below the library's
infinity. The statement is about these two tables of the graph; the translation to endpoint ids
(`toEids`, `State.computeLib`) is not part of it. -/
theorem routing_table_min_cost (s : State) (now : Nat) (hp : Lemmas.PastLosses now s)
    (hnow : now < two64 / 2) (hix : s.indexNode ≠ []) :
    MinCostNextHop (buildGraph now s) (lookup (refTable (buildGraph now s))) ∧
    ((∀ d c, Walk (buildGraph now s) 0 d c → ∃ c', Walk (buildGraph now s) 0 d c' ∧ c' < infDist) →
     MinCostNextHop (buildGraph now s) (lookup (libTable (buildGraph now s)))) := by
  have hw := Lemmas.buildGraph_nonneg hp hnow
  have hwf := Lemmas.buildGraph_wf (now := now) hix
  refine ⟨Lemmas.refTable_correct _ hw (fun e he => (hwf e he).2) ?_, fun hcost =>
    Lemmas.libTable_correct _ hw (fun e he => (hwf e he).2) hcost⟩
  exact List.length_pos_iff.mpr hix

/-- **The node numbering handed to the Dijkstra library is a bijection**: the index stays
duplicate-free with the own node first under every operation that extends it, `nodeIndex` and
`indexNode` are inverse to each other, and the own node is vertex 0. -/
theorem node_index_bijective (self : Nat) (s : State) (h : Lemmas.IndexOk self s) :
    (∀ d, Lemmas.IndexOk self (s.notify d)) ∧ (∀ p, Lemmas.IndexOk self (s.peerAppeared p)) ∧
    (∀ now p, Lemmas.IndexOk self (s.peerDisappeared now p)) ∧
    (∀ i, i < s.indexNode.length → idxOf s.indexNode (s.indexNode.getD i 0) = i) ∧
    (∀ id ∈ s.indexNode, s.indexNode.getD (idxOf s.indexNode id) 0 = id) ∧
    idxOf s.indexNode self = 0 :=
  ⟨Lemmas.indexOk_notify h, Lemmas.indexOk_peerAppeared h, Lemmas.indexOk_peerDisappeared h,
   fun _ hi => Lemmas.idxOf_getD h.1 hi, fun _ hid => Lemmas.getD_idxOf hid, Lemmas.idxOf_self h⟩

example : Lemmas.IndexOk 0 (State.init 0) := Lemmas.indexOk_init 0

/-- The table is rebuilt from scratch: the old table has no influence. -/
theorem recompute_ignores_old_table (s : State) (t : Table) (now : Nat) :
    ({ s with table := t }.computeLib now).table = (s.computeLib now).table := rfl

/-- A node that lost peer 1 two seconds ago, has peer 2 live, and heard from 2 that 2–1 is live. -/
def exState : State :=
  ((((State.init 0).peerAppeared 1).peerAppeared 2).peerDisappeared 8000 1).notify ⟨2, 7, [(1, 0), (0, 0)]⟩
example : (buildGraph 10000 exState).arcs = [(0, 1, 2000), (0, 2, 0), (2, 1, 0), (2, 0, 0)] := by decide
example : (exState.computeLib 10000).table = [(1, 2), (2, 2)] := by decide
example : (exState.computeRef 10000).table = [(1, 2), (2, 2)] := by decide
example : Lemmas.PastLosses 10000 exState := by
  refine ⟨by decide, ?_⟩
  intro id d h e he
  have hr : exState.received id = if id = 2 then some ⟨2, 7, [(1, 0), (0, 0)]⟩ else none := by
    simp [exState, State.notify, State.peerDisappeared, State.peerAppeared, State.init,
      notifyAccepts, notifyData, upd]
  rw [hr] at h
  split at h
  · cases h
    simp at he
    rcases he with rfl | rfl <;> decide
  · cases h

/-! ### Link-state reception -/

/-- **Order freedom**: for every arrival order (permutation) of a set of link-state updates in
which two different updates of one node never carry the same timestamp, the stored link state
`receivedData` ends up the same. -/
theorem linkstate_order_free (s : State) (l₁ l₂ : List PeerData) (hp : l₁.Perm l₂)
    (hd : ∀ a ∈ l₁, ∀ b ∈ l₁, a.id = b.id → a.timestamp = b.timestamp → a = b) :
    (l₁.foldl State.notify s).received = (l₂.foldl State.notify s).received := by
  rw [Lemmas.received_foldl_notify, Lemmas.received_foldl_notify]
  exact Lemmas.foldl_notifyData_perm hp hd s.received

/-- **Only newer data replaces**: an update whose timestamp is equal to (or older than) the
stored one changes nothing — in particular equal timestamps never replace. -/
theorem linkstate_equal_or_older_never_replaces (s : State) (d stored : PeerData)
    (hs : s.received d.id = some stored) (ht : d.timestamp ≤ stored.timestamp) :
    s.notify d = s := by
  have : notifyAccepts s.received d = false := by
    simp only [notifyAccepts, hs, shouldReplace, decide_eq_false_iff_not]
    omega
  simp [State.notify, this]

/-- … and a strictly newer one, or the first one of a node, is stored. -/
theorem linkstate_newer_replaces (s : State) (d : PeerData)
    (h : s.received d.id = none ∨ ∃ st, s.received d.id = some st ∧ st.timestamp < d.timestamp) :
    (s.notify d).received d.id = some d := by
  rw [Lemmas.notify_received, Lemmas.notifyData_apply, if_pos rfl]
  rcases h with h | ⟨st, h, hlt⟩
  · rw [h]; rfl
  · rw [h]; exact if_pos hlt

/-- The model meets the link-state Spec the driver evaluates on the implementation: starting
empty, what is stored for a node is the earliest arrived update among those with the maximal
timestamp. -/
theorem linkstate_stores_newest (l : List PeerData) (id : Nat) :
    (l.foldl State.notify (State.init 0)).received id = expectedStored l id :=
  Lemmas.notify_stores_newest 0 l id

example : ([⟨1, 20, [(2, 0)]⟩, ⟨1, 10, []⟩, ⟨1, 20, [(3, 0)]⟩].foldl State.notify (State.init 0)).received 1
    = some ⟨1, 20, [(2, 0)]⟩ := by decide
/-- Equal timestamps, different contents: the order matters (first wins) — why the hypothesis of
`linkstate_order_free` is needed. -/
example : ([⟨1, 20, [(3, 0)]⟩, ⟨1, 10, []⟩, ⟨1, 20, [(2, 0)]⟩].foldl State.notify (State.init 0)).received 1
    = some ⟨1, 20, [(3, 0)]⟩ := by decide

/-! ### Forwarding -/

/-- **Unicast**: `SenderForBundle` returns nothing, or exactly the one connected sender whose peer
is the table's next hop for the destination, and then asks for the bundle to be released; the
bundle's sent list is left alone. -/
theorem unicast_single_next_hop_then_released (table : Table) (clas sent : List Nat) (d : Nat) :
    (senderForBundle table clas sent (.node d)).sent = sent ∧
    ((senderForBundle table clas sent (.node d)).senders = [] ∧
        (senderForBundle table clas sent (.node d)).delete = false ∨
      ∃ h, lookup table d = some h ∧ h ∈ clas ∧
        (senderForBundle table clas sent (.node d)).senders = [h] ∧
        (senderForBundle table clas sent (.node d)).delete = true) :=
  Lemmas.senderForBundle_unicast table clas sent d

/-- **`Core.forward` for a unicast bundle**: every convergence sender it is handed to is the
destination itself (direct delivery) or the table's next hop; whenever it is handed to anybody it
is released after a successful transmission; without direct delivery at most one peer gets it. -/
theorem unicast_forward_only_direct_or_next_hop (table : Table) (clas sent : List Nat) (d : Nat) :
    (∀ p ∈ (forwardTargets table clas sent (.node d)).senders, p = d ∨ lookup table d = some p) ∧
    ((forwardTargets table clas sent (.node d)).senders ≠ [] →
      released (forwardTargets table clas sent (.node d)) true = true) ∧
    (d ∉ clas → (forwardTargets table clas sent (.node d)).senders.length ≤ 1) := by
  obtain ⟨h1, h2, h3⟩ := Lemmas.forwardTargets_unicast table clas sent d
  exact ⟨h1, fun hne => by simp [released, h2 hne], h3⟩

/-- **Broadcast, the choice of one forwarding run** (`SenderForBundle`): the chosen senders are
pairwise different connected peers that are not yet in the sent list; every connected peer is in
the sent list or chosen; the new sent list is the old one plus the chosen peers; the bundle is
kept (`delete = false`). -/
theorem broadcast_choice (table : Table) (clas sent : List Nat) :
    let r := senderForBundle table clas sent .broadcast
    r.senders.Nodup ∧ (∀ c ∈ r.senders, c ∈ clas ∧ c ∉ sent) ∧
    (∀ c ∈ clas, c ∈ sent ∨ c ∈ r.senders) ∧ r.sent = sent ++ r.senders ∧ r.delete = false := by
  obtain ⟨h1, h2, h3, h4⟩ := Lemmas.filterCLAs_spec clas sent
  exact ⟨h2, h3, h4, h1, rfl⟩

/-- **Broadcast, one forwarding run including the failure reports**: the bundle is handed, once
each, to exactly the connected peers outside the sent list; afterwards the sent list holds what
it held plus the peers served *successfully* — a peer whose transmission failed is out again
(`ReportFailure`). Consequently an immediate second run over the same peers serves exactly the
peers that failed, and nobody if nothing failed. -/
theorem broadcast_once_per_peer (sent clas fails : List Nat) :
    (broadcastAttempt sent clas fails).1.Nodup ∧
    (∀ x, x ∈ (broadcastAttempt sent clas fails).1 ↔ x ∈ clas ∧ x ∉ sent) ∧
    (∀ x, x ∈ (broadcastAttempt sent clas fails).2 ↔
      x ∈ sent ∨ (x ∈ clas ∧ x ∉ sent ∧ x ∉ fails)) ∧
    (∀ fails₂ x, x ∈ (broadcastAttempt (broadcastAttempt sent clas fails).2 clas fails₂).1 ↔
      x ∈ clas ∧ x ∉ sent ∧ x ∈ fails) := by
  obtain ⟨h1, h2, h3⟩ := Lemmas.broadcastAttempt_spec sent clas fails
  refine ⟨h1, h2, h3, ?_⟩
  intro fails₂ x
  rw [(Lemmas.broadcastAttempt_spec _ clas fails₂).2.1 x, h3 x]
  constructor
  · rintro ⟨hc, hn⟩
    refine ⟨hc, fun hs => hn (Or.inl hs), ?_⟩
    apply Classical.byContradiction
    intro hf
    exact hn (Or.inr ⟨hc, fun hs => hn (Or.inl hs), hf⟩)
  · rintro ⟨hc, hs, hf⟩
    refine ⟨hc, ?_⟩
    rintro (h | ⟨_, _, hnf⟩)
    · exact hs h
    · exact hnf hf

/-- **Broadcast, whole history**: over any sequence of forwarding runs (each seeing the then
connected peers and its own set of failing transmissions, the sent list persisted in between)
nobody who already had the bundle is served, and whenever a peer is served twice the earlier
transmission had failed — at most one successful transmission per peer, none after a success. -/
theorem broadcast_history_once (sent : List Nat) (hist : List (List Nat × List Nat)) :
    (∀ e ∈ broadcastLog sent hist, e.1 ∉ sent) ∧
    (broadcastLog sent hist).Pairwise (fun a b => a.1 = b.1 → a.2 = false) := by
  induction hist generalizing sent with
  | nil => simp [broadcastLog]
  | cons step later ih =>
    obtain ⟨clas, fails⟩ := step
    obtain ⟨a1, a2, a3⟩ := Lemmas.broadcastAttempt_spec sent clas fails
    obtain ⟨i1, i2⟩ := ih (broadcastAttempt sent clas fails).2
    simp only [broadcastLog]
    refine ⟨?_, ?_⟩
    · intro e he
      rcases List.mem_append.mp he with h | h
      · obtain ⟨p, hp, rfl⟩ := List.mem_map.mp h
        exact ((a2 p).mp hp).2
      · exact fun hs => i1 e h ((a3 e.1).mpr (Or.inl hs))
    · refine List.pairwise_append.mpr ⟨?_, i2, ?_⟩
      · refine (List.pairwise_map.mpr ?_)
        exact a1.imp (fun hne heq => absurd heq hne)
      · intro a ha b hb hab
        obtain ⟨p, hp, rfl⟩ := List.mem_map.mp ha
        simp only at hab ⊢
        cases hf : fails.contains p with
        | true => rfl
        | false =>
          exfalso
          have hpf : p ∉ fails := by
            intro hm
            have : fails.contains p = true := List.contains_iff_mem.mpr hm
            rw [hf] at this; cases this
          have hin := (a2 p).mp hp
          exact i1 b hb (hab ▸ (a3 p).mpr (Or.inr ⟨hin.1, hin.2, hpf⟩))

/-- The model meets the per-run broadcast Spec (`broadcastRunOk`) that the driver evaluates on the
implementation's transmissions. -/
theorem broadcast_model_meets_spec (sent clas fails had0 succ : List Nat)
    (hs : ∀ x, x ∈ sent ↔ x ∈ had0 ∨ x ∈ succ) :
    broadcastRunOk had0 succ clas (broadcastAttempt sent clas fails).1 = true := by
  obtain ⟨a1, a2, _⟩ := Lemmas.broadcastAttempt_spec sent clas fails
  simp only [broadcastRunOk, Bool.and_eq_true, List.all_eq_true, List.contains_iff_mem,
    Bool.not_eq_true', Bool.or_eq_true, beq_iff_eq]
  refine ⟨⟨?_, ?_⟩, ?_⟩
  · intro p hp
    obtain ⟨hc, hns⟩ := (a2 p).mp hp
    have hh : p ∉ had0 := fun h => hns ((hs p).mpr (Or.inl h))
    have hsu : p ∉ succ := fun h => hns ((hs p).mpr (Or.inr h))
    have nc : ∀ l : List Nat, p ∉ l → l.contains p = false := fun l hl =>
      Bool.eq_false_iff.mpr fun h => hl (List.contains_iff_mem.mp h)
    exact ⟨⟨hc, nc had0 hh⟩, nc succ hsu⟩
  · intro c hc
    by_cases hsent : c ∈ sent
    · rcases (hs c).mp hsent with h | h
      · exact Or.inl (Or.inl h)
      · exact Or.inl (Or.inr h)
    · exact Or.inr ((a2 c).mpr ⟨hc, hsent⟩)
  · intro p hp
    rw [a1.count, if_pos hp]

example : senderForBundle [(3, 2)] [1, 2] [] (.node 3) = ⟨[2], true, []⟩ := by decide
example : senderForBundle [(3, 4)] [1, 2] [] (.node 3) = ⟨[], false, []⟩ := by decide
example : forwardTargets [(3, 2)] [1, 2, 3] [] (.node 3) = ⟨[3], true, []⟩ := by decide
example : senderForBundle [(3, 2)] [1, 2, 4] [4] .broadcast = ⟨[1, 2], false, [4, 1, 2]⟩ := by decide
example : broadcastAttempt [4] [1, 2, 4] [2] = ([1, 2], [4, 1]) := by decide
example : broadcastLog [4] [([1, 2, 4], [2]), ([1, 2, 4], [2]), ([1, 2, 4, 5], [])] =
    [(1, true), (2, false), (2, false), (2, true), (5, true)] := by decide
example : broadcastRunOk [4] [1] [1, 2, 4] [2] = true := by decide
example : broadcastRunOk [4] [1] [1, 2, 4] [1, 2] = false := by decide   -- served again after a success
example : broadcastRunOk [4] [1] [1, 2, 4] [] = false := by decide       -- the failed peer is not retried

end Dtn7.Props.C20
