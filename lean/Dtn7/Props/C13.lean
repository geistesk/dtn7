/-
C13 — a bundle is never sent back to where it came from, nor twice to the same peer.
Property theorems only; the proofs live in `Dtn7.Lemmas.NodeC13` (choice / bookkeeping functions of every
algorithm for any number of peers), `Dtn7.Lemmas.NodeBook` (what is booked stays booked through `dispatching`),
`Dtn7.Lemmas.NodeDup` (the booked-set invariant `GenInv` through retry, submission and reception),
`Dtn7.Lemmas.NodeBookAny` (its instance for the previous node: `never_to_prev_node`) and
`Dtn7.Lemmas.NodeDupAny` (its instance for the peers that got the bundle: `never_twice`).
The Spec predicates are the ones the driver `drv_c13` evaluates on the implementation's observations.
-/
import Dtn7.Model.Node
import Dtn7.Model.NodeSpec
import Dtn7.Lemmas.NodeC13
import Dtn7.Lemmas.NodeBook
import Dtn7.Lemmas.NodeDup
import Dtn7.Lemmas.NodeBookAny
import Dtn7.Lemmas.NodeDupAny
import Dtn7.Gen.C13

namespace Dtn7.Props.C13
open Dtn7.Node

/-! ## The tie to the source -/

def isSubseq : List String → List String → Bool
  | [], _ => true
  | _ :: _, [] => false
  | a :: as, b :: bs => if a == b then isSubseq as bs else isSubseq (a :: as) bs

theorem gen_no_extraction_failure : Dtn7.Gen.C13.extractionFailures = [] := rfl

/-- The code variant (see `Dtn7.Props.C05.gen_variant`). -/
theorem gen_variant :
    Dtn7.Gen.C13.seqAssignedFirst = true ∧ Dtn7.Gen.C13.sendBundleSkipsStored = true ∧
    Dtn7.Gen.C13.expiryCountsFromNow = true ∧
    Dtn7.Gen.C13.dtlsrReportsFailure = true ∧ Dtn7.Gen.C13.dispatchingHoldsRefused = true := by and_intros <;> rfl

/-- `filterCLAs` compares endpoint IDs with `==` (Go struct equality, `Eid` equality in the model — not
`SameNode`), skips listed peers and appends the chosen ones (`Dtn7.Node.filterCLAs`). -/
theorem gen_filterCLAs :
    Dtn7.Gen.C13.filterCLAsSkeleton =
      ["filtered = make([]cla.ConvergenceSender, 0)",
       "sentEids, ok := bundleItem.Properties[\"routing/\"+algorithm+\"/sent\"].([]bpv7.EndpointID)",
       "if !ok", "  sentEids = make([]bpv7.EndpointID, 0)",
       "for _, cs := range clas", "  skip := false", "  for _, eid := range sentEids",
       "    if cs.GetPeerEndpointID() == eid", "      skip = true", "      break",
       "  if !skip", "    filtered = append(filtered, cs)",
       "    sentEids = append(sentEids, cs.GetPeerEndpointID())", "return"] := rfl

/-- `forward` asks `senderForDestination` first and the algorithm only if nobody is found; the per-peer
goroutine reports a failed `Send` to the algorithm. -/
theorem gen_forward :
    isSubseq ["c.senderForDestination", "c.routing.SenderForBundle", "node.Send", "c.routing.ReportFailure", "wg.Wait"]
      Dtn7.Gen.C13.forwardCalls = true ∧
    Dtn7.Gen.C13.forwardGoroutine =
      ["if err := node.Send(*bp.MustBundle()); err != nil", "  c.routing.ReportFailure(bp, node)", "else",
       "  once.Do(func() { bundleSent = true })", "wg.Done()"] := ⟨by decide +kernel, rfl⟩

/-- Epidemic routing: `NotifyNewBundle` reads the item, records the previous node and writes the item;
`clasForBundle` = `QueryId · filterCLAs(Sender()) · Update`. -/
theorem gen_epidemic :
    isSubseq ["er.c.store.QueryId", "bndl.ExtensionBlock", "pnBlock.Value.Endpoint", "append", "er.c.store.Update"]
      Dtn7.Gen.C13.epidemicNotifyCalls = true ∧
    Dtn7.Gen.C13.epidemicClasCalls = ["er.c.store.QueryId", "filterCLAs", "er.c.claManager.Sender", "er.c.store.Update"] := ⟨by decide +kernel, rfl⟩

/-- `ReportFailure` of epidemic routing removes the first occurrence of the failed sender's endpoint ID,
inside the mutex (`Dtn7.Node.reportFailure`, `eraseFirst`); the schedule point of the harness sits between
the read and the write-back. -/
theorem gen_epidemic_failure :
    Dtn7.Gen.C13.epidemicFailureSkeleton =
      ["er.failureMutex.Lock()", "defer er.failureMutex.Unlock()", "bi, biErr := er.c.store.QueryId(bp.Id)",
       "if biErr != nil", "  return",
       "sentEids, ok := bi.Properties[\"routing/epidemic/sent\"].([]bpv7.EndpointID)",
       "if !ok", "  sentEids = make([]bpv7.EndpointID, 0)",
       "verifPoint(\"epidemic.ReportFailure.read\")",
       "for i := 0; i < len(sentEids); i++", "  if sentEids[i] == sender.GetPeerEndpointID()",
       "    sentEids = append(sentEids[:i], sentEids[i+1:]...)", "    break",
       "bi.Properties[\"routing/epidemic/sent\"] = sentEids",
       "if err := er.c.store.Update(bi); err != nil"] ∧
    Dtn7.Gen.C13.epidemicReportFailureAccess = ["QueryId:L", "Update:L"] ∧
    Dtn7.Gen.C13.prophetReportFailureAccess = ["QueryId:L", "Update:L"] ∧
    Dtn7.Gen.C13.dtlsrReportFailureAccess = ["QueryId:L", "Update:L"] := by and_intros <;> rfl

/-- Spray-and-wait: the originator gets `Multiplicity` copies and an empty sent list, a relayed bundle one
copy and its previous node (binary spray: the copies of its block, or — without a block — the full budget
for a bundle of this node and one copy plus the previous node for a foreign one); a failure removes the first occurrence of the peer from the sent list and, only
then, gives a copy back (under one lock). -/
theorem gen_spray :
    Dtn7.Gen.C13.sprayNotifySkeleton =
      ["if sw.c.HasEndpoint(bp.MustBundle().PrimaryBlock.SourceNode)",
       "  metadata := sprayMetaData{ sent: make([]bpv7.EndpointID, 0), remainingCopies: sw.l, }",
       "  sw.dataMutex.Lock()", "  sw.bundleData[bp.Id] = metadata", "  sw.dataMutex.Unlock()",
       "else",
       "  metadata := sprayMetaData{ sent: make([]bpv7.EndpointID, 0), remainingCopies: 1, }",
       "  if pnBlock, err := bp.MustBundle().ExtensionBlock(bpv7.ExtBlockTypePreviousNodeBlock); err == nil",
       "    metadata.sent = append(metadata.sent, pnBlock.Value.(*bpv7.PreviousNodeBlock).Endpoint())",
       "  sw.dataMutex.Lock()", "  sw.bundleData[bp.Id] = metadata", "  sw.dataMutex.Unlock()"] ∧
    Dtn7.Gen.C13.binaryNotifySkeleton =
      ["if metadataBlock, err := bp.MustBundle().ExtensionBlock(bpv7.ExtBlockTypeBinarySprayBlock); err == nil",
       "  binarySprayBlock := metadataBlock.Value.(*bpv7.BinarySprayBlock)",
       "  metadata := sprayMetaData{ sent: make([]bpv7.EndpointID, 0), remainingCopies: binarySprayBlock.RemainingCopies(), }",
       "  if pnBlock, err := bp.MustBundle().ExtensionBlock(bpv7.ExtBlockTypePreviousNodeBlock); err == nil",
       "    metadata.sent = append(metadata.sent, pnBlock.Value.(*bpv7.PreviousNodeBlock).Endpoint())",
       "  bs.dataMutex.Lock()", "  bs.bundleData[bp.Id] = metadata", "  bs.dataMutex.Unlock()",
       "else if bs.c.HasEndpoint(bp.MustBundle().PrimaryBlock.SourceNode)",
       "  metadata := sprayMetaData{ sent: make([]bpv7.EndpointID, 0), remainingCopies: bs.l, }",
       "  bs.dataMutex.Lock()", "  bs.bundleData[bp.Id] = metadata", "  bs.dataMutex.Unlock()",
       "else",
       "  metadata := sprayMetaData{ sent: make([]bpv7.EndpointID, 0), remainingCopies: 1, }",
       "  if pnBlock, err := bp.MustBundle().ExtensionBlock(bpv7.ExtBlockTypePreviousNodeBlock); err == nil",
       "    metadata.sent = append(metadata.sent, pnBlock.Value.(*bpv7.PreviousNodeBlock).Endpoint())",
       "  bs.dataMutex.Lock()", "  bs.bundleData[bp.Id] = metadata", "  bs.dataMutex.Unlock()"] ∧
    Dtn7.Gen.C13.sprayFailureSkeleton =
      ["sw.dataMutex.Lock()", "defer sw.dataMutex.Unlock()", "metadata, ok := sw.bundleData[bp.Id]",
       "if !ok", "  return", "verifPoint(\"SprayAndWait.ReportFailure:read\")",
       "for i := 0; i < len(metadata.sent); i++",
       "  if metadata.sent[i] == sender.GetPeerEndpointID()",
       "    metadata.sent = append(metadata.sent[:i], metadata.sent[i+1:]...)",
       "    metadata.remainingCopies = metadata.remainingCopies + 1", "    break",
       "sw.bundleData[bp.Id] = metadata", "verifPoint(\"SprayAndWait.ReportFailure:written\")"] := ⟨rfl, rfl, rfl⟩

/-- The sensor-mule wrapper (`Dtn7.Node.muleFilter`, `muleDrops`). -/
theorem gen_mule :
    Dtn7.Gen.C13.muleSendersSkeleton =
      ["sender, delete = snm.algorithm.SenderForBundle(bp)",
       "for i := len(sender) - 1; i >= 0; i--",
       "  if !snm.sensorNode.MatchString(sender[i].GetPeerEndpointID().String())", "    continue",
       "  if !sender[i].GetPeerEndpointID().SameNode(bp.Receiver)",
       "    snm.algorithm.ReportFailure(bp, sender[i])",
       "    sender = append(sender[:i], sender[i+1:]...)", "    continue",
       "if delete && len(sender) == 0", "  delete = false", "return"] := rfl

/-! ## Along every history -/

/-- The variant flags the regenerated facts select are `Cur` (as in `Dtn7.Props.C05.cur_of_gen`). -/
theorem cur_of_gen (c : Cfg)
    (h1 : c.seqFirst = Dtn7.Gen.C13.seqAssignedFirst) (h2 : c.skipStored = Dtn7.Gen.C13.sendBundleSkipsStored)
    (h3 : c.expiryNow = Dtn7.Gen.C13.expiryCountsFromNow) (h4 : c.holdFix = Dtn7.Gen.C13.dispatchingHoldsRefused) :
    Cur c := by
  have g := gen_variant
  exact ⟨by rw [h1]; exact g.1, by rw [h2]; exact g.2.1, by rw [h4]; exact g.2.2.2.2, by rw [h3]; exact g.2.2.1⟩

/-- **`never_to_prev_node`** (FULL STRENGTH over histories): for the code as it is, for every routing algorithm
(and the sensor-mule wrapper), every environment, every number of peers and EVERY history — any IDs, any
number of submissions with one source and creation time, resubmissions, restarts anywhere — whose bundles
satisfy `Bundles13` (applications attach no previous-node block; a relayed bundle that names a previous node
satisfies `seedsPrev`: spray — not a bundle of this node; binary spray — carries the BinarySprayBlock or is
not a bundle of this node): no algorithm-chosen transmission goes to the node named in the bundle's
previous-node block. No hypothesis about IDs is left: `SendBundle` files under a free ID
(`assignSeq_free`). -/
theorem never_to_prev_node (c : Cfg) (hc : Cur c) (env : Env) (now : Nat)
    (h : List Event) (hb : Bundles13 c h) :
    firstFail (fun c _ o => returnFail c o) c (SpecSt.init now) 0 ((trace env (init c now) h).map obsOf) = none :=
  prev_run_any c hc env h _ _ 0 hb (rinvF_init c now) (prevInv_init c now)

/-- The same for every variant of the code (any values of `seqFirst`, `skipStored`, …), on the histories
of `Domain13` (`Domain` — submissions with pairwise different (source, time), disjoint from the
receptions — plus `Bundles13`). -/
theorem never_to_prev_node_any_variant (c : Cfg) (env : Env) (now : Nat)
    (h : List Event) (hdom : Domain13 c h) :
    firstFail (fun c _ o => returnFail c o) c (SpecSt.init now) 0 ((trace env (init c now) h).map obsOf) = none :=
  prev_run c env h [] _ _ 0 (by simpa using hdom) (rinv_init c now) (prevInv_init c now)

/-- **`never_twice`** (FULL STRENGTH over histories): for the code as it is, for every routing algorithm (and the
sensor-mule wrapper), every environment, every number of peers and EVERY history whose tags tell bundles apart
(`Tags`: two bundles of the history with one tag have one source and creation time — the tag is how the Spec
and the send log name a bundle; any IDs, same-millisecond and resubmitted bundles, restarts anywhere): no
algorithm-chosen transmission of a bundle goes to a peer that already got this bundle (this tag and sequence
number) successfully by the algorithm's choice while the node holds the bundle (`okSent` forgets a bundle
when it leaves the store). The invariant: every remembered success is in the bundle's sent list, the
provenance of the stored bundles up to the sequence number the node assigned (`ProvO`), every stored item
has a retention constraint, every remembered success names a stored item. -/
theorem never_twice (c : Cfg) (hc : Cur c) (env : Env) (now : Nat)
    (h : List Event) (htags : Tags h) :
    firstFail dupFail c (SpecSt.init now) 0 ((trace env (init c now) h).map obsOf) = none :=
  dupO_run c hc env h [] _ _ 0 (by simpa using htags) (rinvF_init c now) (dinvO_init c now)

/-- The same for every variant of the code with `holdFix` (`dispatching` holds a refused bundle), on the histories
of `Domain13t`. -/
theorem never_twice_any_variant (c : Cfg) (hfix : c.holdFix = true) (env : Env) (now : Nat)
    (h : List Event) (hdom : Domain13t c h) :
    firstFail dupFail c (SpecSt.init now) 0 ((trace env (init c now) h).map obsOf) = none :=
  dup_run c hfix env h [] _ _ 0 (by simpa using hdom) (rinv_init c now) (dinvO_init c now)

/-- The hypotheses are satisfiable by a history that `Domain13` excludes: two submissions of one bundle (one
source, one creation time, one tag), a reception, a restart. -/
example :
    let b : Bundle := { tag := 1, src := ⟨1, 0⟩, ts := 900, seq := 0, dst := ⟨5, 0⟩, prev := none, lifetime := 3600,
                        hop := none, age := none, delBlock := false, bsCopies := none }
    let r : Bundle := { b with tag := 2, src := ⟨7, 0⟩, prev := some ⟨2, 0⟩, bsCopies := some 2 }
    Tags [.submit b, .submit b, .receive r none, .restart, .submit b] ∧
    (∀ c : Cfg, c.self = 1 → Bundles13 c [.submit b, .submit b, .receive r none, .restart, .submit b]) := by
  intro b r
  constructor
  · intro x y hx hy ht
    simp only [evBundle, submitted, received, List.mem_cons, List.not_mem_nil, or_false] at hx hy
    rcases hx with (hx | hx | hx) | hx <;> rcases hy with (hy | hy | hy) | hy <;> subst hx <;> subst hy <;>
      first | exact ⟨rfl, rfl⟩ | (simp [b, r] at ht)
  · intro c hself
    refine ⟨?_, ?_⟩
    · intro x hx
      simp only [submitted, List.mem_cons, List.not_mem_nil, or_false] at hx
      rcases hx with hx | hx | hx <;> subst hx <;> rfl
    · intro x hx
      simp only [received, List.mem_cons, List.not_mem_nil, or_false] at hx
      subst hx
      left
      unfold seedsPrev
      cases c.algo <;> simp [r, hasEndpoint, hself]

/-- **`never_twice`, the inductive step** (every algorithm, any peers): let `E` be any set of endpoint IDs
that are booked for the bundle (in its sent list) and are not its destination's node — e.g. the peers that
got the bundle successfully before. Then one `forward`
(1) hands the bundle to no peer of `E` by the algorithm's choice,
(2) leaves every member of `E` booked, and
(3) books every peer whose transmission succeeded now.
So the set "previous node + peers served successfully" only grows while the bundle is in the store, and
its members are never chosen again; a member leaves the sent list only by a failure report for exactly
that peer (`failure_reenables_exactly_fn`). -/
theorem never_twice_step (env : Env) (d : Desc) (b : Bundle) (n : Node) (it : Item)
    (hg : n.store.get d.key = some it) (hrep : replicates n.cfg b = true) (E : Eid → Prop)
    (hE : MustStay E b n d.key) :
    (∀ p ok, Output.sent p b ok ∈ (forward env d b n).2 → p.eid.sameNode b.dst = false → ¬ E p.eid) ∧
    (∀ e, E e → Booked (forward env d b n).1 d.key e) ∧
    (∀ p, Output.sent p b true ∈ (forward env d b n).2 → p.eid.sameNode b.dst = false →
      Booked (forward env d b n).1 d.key p.eid) :=
  ⟨(forward_book env d b n it hg hrep E hE).1, (forward_book env d b n it hg hrep E hE).2,
   forward_ok_booked env d b n it hg hrep⟩

/-! ## The choice of every algorithm, for any number of peers -/

/-- **The algorithm never picks a peer that is in the bundle's sent list, and books every peer it picks**
(epidemic, spray, binary spray, PRoPHET, DTLSR broadcast; `n.peers` arbitrary): `sentL` is the list the
algorithm keeps for the bundle. -/
theorem choice_not_listed (env : Env) (d : Desc) (b : Bundle) (n : Node) (hrep : replicates n.cfg b = true) :
    (∀ p ∈ (innerSenders env d b n).1, (sentL n d.key).contains p.eid = false) ∧
    sentL (innerSenders env d b n).2.2.2 d.key = sentL n d.key ++ (innerSenders env d b n).1.map (·.eid) :=
  innerSenders_spec env d b n hrep

/-- **A failure report re-enables exactly that peer** (function level): the first occurrence of the
peer's endpoint ID leaves the list, every other entry stays, nothing is added. -/
theorem failure_reenables_exactly_fn (d : Desc) (p : Peer) (n : Node) :
    sentL (reportFailure d p n) d.key =
      (if rfActive d n then eraseFirst p.eid (sentL n d.key) else sentL n d.key) ∧
    ∀ e, (e ∈ sentL (reportFailure d p n) d.key → e ∈ sentL n d.key) ∧
      (e ∈ sentL n d.key → e ≠ p.eid → e ∈ sentL (reportFailure d p n) d.key) :=
  ⟨reportFailure_sentL d p n, reportFailure_others d p n⟩

/-- A peer the algorithm has just picked and whose transmission failed is out of the list again: it
occurs once (it was not listed before, `choice_not_listed`). -/
theorem failed_choice_is_removed (e : Eid) (l₁ l₂ : List Eid) (h1 : e ∉ l₁) (h2 : e ∉ l₂) :
    e ∉ eraseFirst e (l₁ ++ e :: l₂) := by
  rw [eraseFirst_append_self e l₁ l₂ h1]
  simp [h1, h2]

/-- **`mule_filter_sound`**: the sensor-mule wrapper only removes senders (sensor nodes the bundle was
not received from) and hands every removed sender back to the wrapped algorithm as a failure. -/
theorem mule_filter_sound (d : Desc) (ps : List Peer) (n : Node) :
    (muleFilter d ps n).1 = ps.filter (fun p => !muleDrops n.cfg d p) ∧
    (muleFilter d ps n).2 = (ps.filter (fun p => muleDrops n.cfg d p)).foldr (fun p m => reportFailure d p m) n :=
  muleFilter_sound d ps n

/-- **`spray_restart_silent`**: a restart drops the spray bookkeeping, and without it the spray variants
choose nobody (the safe direction). -/
theorem spray_restart_silent (env env' : Env) (d : Desc) (b : Bundle) (n : Node)
    (ha : n.cfg.algo = .spray ∨ n.cfg.algo = .binarySpray) :
    (innerSenders env' d b (step env n .restart).1).1 = [] :=
  spray_silent env' d b _ ha rfl

/-- **`sent_list_survives_restart`**: the lists kept in the store are untouched by a restart. -/
theorem sent_list_survives_restart (env : Env) (n : Node) (k : Key)
    (ha : n.cfg.algo = .epidemic ∨ n.cfg.algo = .prophet ∨ n.cfg.algo = .dtlsr) :
    sentL (step env n .restart).1 k = sentL n k := by
  rcases ha with ha | ha | ha <;> simp [sentL, step, stepCore, ha]

/-- The spray budget: with `c` copies at most `c − 1` peers are picked, one copy each. -/
theorem spray_budget (m : SprayMeta) (ps : List Peer) :
    (sprayPick m ps).1.length + 1 ≤ max m.copies 1 ∧
    (sprayPick m ps).2.copies + (sprayPick m ps).1.length = m.copies :=
  sprayPick_budget m ps

/-- The original `DTLSR.ReportFailure` (`dtlsrFail = false`) was empty: the failed peer stays listed. -/
theorem dtlsr_failure_witness :
    let c : Cfg := { self := 1, algo := .dtlsr, mule := false, sensorNodes := [], sprayL := 3, bcast := ⟨999, 0⟩,
                     seqFirst := false, skipStored := false, expiryNow := true, dtlsrFail := false, holdFix := true }
    let env : Env := { sendOk := fun _ _ _ => false, prefer := fun _ _ => [], cand := fun _ _ => false }
    let b : Bundle := { tag := 1, src := ⟨7, 0⟩, ts := 900, seq := 0, dst := ⟨999, 0⟩, prev := none, lifetime := 3600,
                        hop := none, age := none, delBlock := false, bsCopies := none }
    firstFail reenableFail c (SpecSt.init 1000) 0
      ((trace env (init c 1000) [.peerUp ⟨1, ⟨2, 0⟩⟩, .receive b none]).map obsOf)
      = some (1, "c13-failed-peer-still-listed-dtlsr") := by
  decide +kernel

/-- Binary spray, relayed bundle WITHOUT a BinarySprayBlock (e.g. from a node running another algorithm): the
`BinarySpray.NotifyNewBundle` as /repo has it (f4a58d8; the model's `notifyNew`) gives it a single copy and
remembers where it came from — it is not sent back, and not sprayed at all. (The code before that commit treated
it as originated here and sent it straight back to its previous node: class
`c13-to-prev-node-binary-spray-without-block`.) -/
theorem binary_no_block_not_returned_example :
    let c : Cfg := { self := 1, algo := .binarySpray, mule := false, sensorNodes := [], sprayL := 4, bcast := ⟨999, 0⟩,
                     seqFirst := true, skipStored := true, expiryNow := true, dtlsrFail := true, holdFix := true }
    let env : Env := { sendOk := fun _ _ _ => true, prefer := fun _ _ => [], cand := fun _ _ => false }
    let b : Bundle := { tag := 1, src := ⟨7, 0⟩, ts := 900, seq := 0, dst := ⟨9, 0⟩, prev := some ⟨2, 0⟩, lifetime := 3600,
                        hop := none, age := none, delBlock := false, bsCopies := none }
    let tr := (trace env (init c 1000) [.peerUp ⟨1, ⟨2, 0⟩⟩, .receive b none, .peerUp ⟨2, ⟨3, 0⟩⟩, .retryTick]).map obsOf
    firstFail (fun c _ o => returnFail c o) c (SpecSt.init 1000) 0 tr = none ∧
    tr.map (fun o => o.outs.length) = [0, 0, 0, 0] ∧
    (tr.getLast?.map fun o => o.view.spray.map fun km => (km.2.copies, km.2.sent)) = some [(1, [⟨2, 0⟩])] := by
  decide +kernel

/-! ## Non-vacuity -/

example : Domain13
    { self := 1, algo := .spray, mule := true, sensorNodes := [2], sprayL := 3, bcast := ⟨999, 0⟩,
      seqFirst := false, skipStored := false, expiryNow := true, dtlsrFail := true, holdFix := true }
    [.peerUp ⟨1, ⟨2, 0⟩⟩,
     .receive { tag := 1, src := ⟨7, 0⟩, ts := 900, seq := 0, dst := ⟨9, 0⟩, prev := some ⟨2, 0⟩, lifetime := 3600,
                hop := none, age := none, delBlock := false, bsCopies := none } none,
     .submit { tag := 3, src := ⟨1, 0⟩, ts := 901, seq := 0, dst := ⟨9, 0⟩, prev := none, lifetime := 3600,
               hop := none, age := none, delBlock := false, bsCopies := none },
     .retryTick, .restart] :=
  ⟨⟨by decide, by decide, by decide⟩, by decide, by
    intro b hb
    simp only [received, List.mem_cons, List.not_mem_nil, or_false] at hb
    subst hb
    left
    simp [seedsPrev, hasEndpoint]⟩

private def ex_r : Bundle :=
  { tag := 1, src := ⟨7, 0⟩, ts := 900, seq := 0, dst := ⟨9, 0⟩, prev := some ⟨2, 0⟩, lifetime := 3600,
    hop := none, age := none, delBlock := false, bsCopies := none }
private def ex_s : Bundle :=
  { tag := 3, src := ⟨1, 0⟩, ts := 901, seq := 0, dst := ⟨9, 0⟩, prev := none, lifetime := 3600,
    hop := none, age := none, delBlock := false, bsCopies := none }

/-- … and the tag condition of `Domain13t` holds of these two bundles (different bundles, different tags). -/
example : ∀ a ∈ [ex_r, ex_s], ∀ b ∈ [ex_r, ex_s], a.tag = b.tag → a = b := by decide

example :
    let c : Cfg := { self := 1, algo := .epidemic, mule := false, sensorNodes := [], sprayL := 3, bcast := ⟨999, 0⟩,
                     seqFirst := false, skipStored := false, expiryNow := true, dtlsrFail := true, holdFix := true }
    let env : Env := { sendOk := fun a _ _ => a == 2, prefer := fun _ _ => [], cand := fun _ _ => false }
    let b : Bundle := { tag := 1, src := ⟨7, 0⟩, ts := 900, seq := 0, dst := ⟨9, 0⟩, prev := some ⟨2, 0⟩, lifetime := 3600,
                        hop := none, age := none, delBlock := false, bsCopies := none }
    let tr := (trace env (init c 1000) [.peerUp ⟨1, ⟨2, 0⟩⟩, .peerUp ⟨2, ⟨3, 0⟩⟩, .peerUp ⟨3, ⟨4, 0⟩⟩,
      .receive b none, .retryTick]).map obsOf
    -- received from node 2: offered to 3 (ok) and 4 (fails), never to 2; 4 is offered again, 3 is not
    tr.map (fun o => (chosen c o.outs).map fun pbk => (pbk.1.addr, pbk.2.2))
      = [[], [], [], [(2, true), (3, false)], [(3, false)]] := by
  decide +kernel

end Dtn7.Props.C13
